-- root of the library: every property's theorem module (C05 through C05All, which adds the composition theorems of Compose/EndToEnd) and the modules that tie one layer's model to another's
import RpycModel.Props.C01
import RpycModel.Props.C02
import RpycModel.Props.C03
import RpycModel.Props.C04
import RpycModel.Props.C05All
import RpycModel.Props.C06
import RpycModel.Props.C07
import RpycModel.Props.C08
import RpycModel.Props.C09
import RpycModel.Props.C10
import RpycModel.Props.C11
import RpycModel.Props.C12
import RpycModel.Props.C13
import RpycModel.Props.C14
import RpycModel.Props.C15
import RpycModel.Props.C16
import RpycModel.Props.C17
import RpycModel.Props.C18
import RpycModel.Props.C19
import RpycModel.Props.C20
import RpycModel.Proto.HandlersBridge
import RpycModel.Proto.ForwardBridge
import RpycModel.Spec.WireBridge
