import RpycModel.Wire.Duplex
import RpycModel.Wire.Lemmas
/-
Lemmas about the duplex stream (one stream object, calls in any order, `poll`, failing `close()`).
-/
namespace Rpyc.Wire
open Rpyc

/-- `RecvRes` seen through the outcome alphabet of the duplex model -/
def liftRecv : RecvRes → XRes Bytes
  | .ok p => .ok p
  | .err .eofError => .eof
  | .err e => .other e
  | .starved => .starved

theorem dClose_streams (d : DState) :
    (dClose d).2.r.wire = d.r.wire ∧ (dClose d).2.r.script = d.r.script ∧
    (dClose d).2.w.chunks = d.w.chunks ∧ (dClose d).2.w.script = d.w.script ∧
    (dClose d).2.pscript = d.pscript ∧ (dClose d).2.pipe = d.pipe := by
  fun_cases dClose d <;> exact ⟨rfl, rfl, rfl, rfl, rfl, rfl⟩

/-- a `close()` that raised leaves the stream not marked closed; one that did not leaves it closed -/
theorem dClose_closed (d : DState) :
    ((dClose d).1 = true → (dClose d).2.r.closed = false ∧ (dClose d).2.fault = .none ∧ (dClose d).2.inDead = true) ∧
    ((dClose d).1 = false → (dClose d).2.r.closed = true) := by
  fun_cases dClose d
  next hc => exact ⟨nofun, fun _ => hc⟩
  next => exact ⟨nofun, fun _ => rfl⟩
  next hc _ _ => exact ⟨fun _ => ⟨Bool.eq_false_iff.mpr hc, rfl, rfl⟩, nofun⟩
  next hc _ _ => exact ⟨fun _ => ⟨Bool.eq_false_iff.mpr hc, rfl, rfl⟩, nofun⟩
  next hc _ => exact ⟨fun _ => ⟨Bool.eq_false_iff.mpr hc, rfl, rfl⟩, nofun⟩

theorem dFail_streams {α : Type} (d : DState) :
    (dFail (α := α) d).2.r.wire = d.r.wire ∧ (dFail (α := α) d).2.r.script = d.r.script := by
  have h := dClose_streams d
  unfold dFail
  generalize dClose d = r at h ⊢
  obtain ⟨_ | _, d'⟩ := r <;> exact ⟨h.1, h.2.1⟩

theorem dFail_not_ok {α : Type} (d : DState) (a : α) : (dFail (α := α) d).1 ≠ .ok a := by
  unfold dFail
  rcases dClose d with ⟨_ | _, d'⟩ <;> nofun

theorem dFilenoErr_streams (e : Nat) (d : DState) :
    (dFilenoErr e d).2.r.wire = d.r.wire ∧ (dFilenoErr e d).2.r.script = d.r.script ∧
    (dFilenoErr e d).2.w.chunks = d.w.chunks ∧ (dFilenoErr e d).2.w.script = d.w.script := by
  have h := dClose_streams d
  unfold dFilenoErr
  generalize dClose d = r at h ⊢
  obtain ⟨_ | _, d'⟩ := r <;> exact ⟨h.1, h.2.1, h.2.2.1, h.2.2.2.1⟩

theorem dFilenoErr_not_ok (e : Nat) (d : DState) (b : Bool) : (dFilenoErr e d).1 ≠ .ok b := by
  unfold dFilenoErr
  rcases dClose d with ⟨_ | _, d'⟩
  · dsimp only; split <;> nofun
  · nofun

theorem dFilenoErr_outcome (e : Nat) (d : DState) :
    ((dFilenoErr e d).1 = .eof ∧ (dFilenoErr e d).2.r.closed = true) ∨ (dFilenoErr e d).1 = .oserr := by
  have hc := (dClose_closed d).2
  unfold dFilenoErr
  generalize dClose d = r at hc ⊢
  obtain ⟨_ | _, d'⟩ := r
  · dsimp only; split
    · exact Or.inl ⟨rfl, hc rfl⟩
    · exact Or.inr rfl
  · exact Or.inr rfl

theorem pollLoop_outcome (ps : List PollEv) :
    (∃ b, (pollLoop ps).1 = .ok b) ∨ (pollLoop ps).1 = .starved ∨ (pollLoop ps).1 = .oserr := by
  induction ps with
  | nil => simp [pollLoop]
  | cons ev rest ih =>
    cases ev with
    | eintr => simpa [pollLoop] using ih
    | _ => simp [pollLoop]

/-- the four shapes of a `poll` call: the stream was closed already; an `OSError` that leaves everything but the
poll script as it was; the failure path of `fileno()`; the poll loop -/
theorem dPoll_cases (d : DState) :
    (dPoll d = (.eof, d) ∧ d.r.closed = true) ∨ (∃ ps, dPoll d = (.oserr, { d with pscript := ps })) ∨
    (∃ e ps, dPoll d = dFilenoErr e { d with pscript := ps }) ∨ dPoll d = dPollLoop d := by
  fun_cases dPoll d
  next hc => exact Or.inl ⟨rfl, hc⟩
  next => exact Or.inr (Or.inl ⟨d.pscript, rfl⟩)
  next => exact Or.inr (Or.inr (Or.inl ⟨Gen.ebadf, d.pscript, rfl⟩))
  next => exact Or.inr (Or.inr (Or.inr rfl))
  next e rest _ _ => exact Or.inr (Or.inr (Or.inl ⟨e, rest, rfl⟩))
  next rest _ => exact Or.inr (Or.inl ⟨rest, rfl⟩)
  next => exact Or.inr (Or.inr (Or.inr rfl))

/-- **`poll` is transparent.** Whatever it answers or raises, `Stream.poll` consumes nothing of the
incoming byte stream or of the receive script and sends nothing. -/
theorem dPoll_streams (d : DState) :
    (dPoll d).2.r.wire = d.r.wire ∧ (dPoll d).2.r.script = d.r.script ∧
    (dPoll d).2.w.chunks = d.w.chunks ∧ (dPoll d).2.w.script = d.w.script := by
  rcases dPoll_cases d with ⟨h, _⟩ | ⟨ps, h⟩ | ⟨e, ps, h⟩ | h <;> rw [h]
  · exact ⟨rfl, rfl, rfl, rfl⟩
  · exact ⟨rfl, rfl, rfl, rfl⟩
  · exact dFilenoErr_streams e _
  · exact ⟨rfl, rfl, rfl, rfl⟩

theorem dPoll_ok (d : DState) (b : Bool) (h : (dPoll d).1 = .ok b) :
    (dPoll d).2.r = d.r ∧ (dPoll d).2.w = d.w ∧ (dPoll d).2.fault = d.fault ∧
    (dPoll d).2.inDead = d.inDead ∧ (dPoll d).2.outDead = d.outDead := by
  rcases dPoll_cases d with ⟨h', _⟩ | ⟨ps, h'⟩ | ⟨e, ps, h'⟩ | h' <;> rw [h'] at h ⊢
  · cases h
  · cases h
  · exact absurd h (dFilenoErr_not_ok _ _ _)
  · exact ⟨rfl, rfl, rfl, rfl, rfl⟩

/-- how `poll` can end: an answer; `EOFError` with the stream closed (it was closed already, or `fileno`
met EBADF); an `OSError` (select error, refused descriptor, non-EBADF `fileno` error, failing `close()`) —
not necessarily closed; blocked -/
theorem dPoll_outcome (d : DState) :
    (∃ b, (dPoll d).1 = .ok b) ∨ ((dPoll d).1 = .eof ∧ (dPoll d).2.r.closed = true) ∨
    (dPoll d).1 = .oserr ∨ (dPoll d).1 = .starved := by
  rcases dPoll_cases d with ⟨h, hc⟩ | ⟨ps, h⟩ | ⟨e, ps, h⟩ | h <;> rw [h]
  · exact Or.inr (Or.inl ⟨rfl, hc⟩)
  · exact Or.inr (Or.inr (Or.inl rfl))
  · exact (dFilenoErr_outcome e _).elim (fun h => Or.inr (Or.inl h)) (fun h => Or.inr (Or.inr (Or.inl h)))
  · rcases pollLoop_outcome d.pscript with ⟨b, h⟩ | h | h
    · exact Or.inl ⟨b, h⟩
    · exact Or.inr (Or.inr (Or.inr h))
    · exact Or.inr (Or.inr (Or.inl h))

theorem dRead_ok {retry : Bool} {maxChunk n : Nat} {d d' : DState} {b : Bytes}
    (h : dRead retry maxChunk n d = (.ok b, d')) :
    readExact retry maxChunk n d.r = (.ok b, d'.r) ∧ d'.w = d.w ∧ d'.pscript = d.pscript := by
  revert h
  fun_cases dRead retry maxChunk n d <;> intro h
  next hn => cases h; subst hn; exact ⟨rfl, rfl, rfl⟩
  next => cases h
  next => cases h
  next => exact absurd (congrArg Prod.fst h) (dFail_not_ok _ _)
  next =>
    rcases hr : readExact retry maxChunk n d.r with ⟨_ | _ | _, r'⟩ <;> rw [hr] at h
    · cases h; exact ⟨rfl, rfl, rfl⟩
    · exact absurd (congrArg Prod.fst h) (dFail_not_ok _ _)
    · cases h

theorem liftFinish_ok {r : RecvRes} {p : Bytes} (h : liftFinish r = .ok p) : r = .ok p := by
  cases r <;> cases h; rfl

/-- **No call order and no failing `close()` can alter a packet**: whenever `recv()` on the duplex stream
returns a packet, the one-directional `recvPacket` of Model.lean returns the same packet from the same
reading state and leaves the same reading state — so `recvPacket_prefix` (Recv.lean) and `C05.recvAll_prefix`
(Props/C05.lean) speak about it. -/
theorem dRecv_ok (z : ZlibFns) (retry : Bool) (maxChunk : Nat) (d : DState) (p : Bytes)
    (h : (dRecv z retry maxChunk d).1 = .ok p) :
    (recvPacket z retry maxChunk d.r).1 = .ok p ∧
    (dRecv z retry maxChunk d).2.r = (recvPacket z retry maxChunk d.r).2 := by
  unfold dRecv at h ⊢
  unfold recvPacket
  rcases h1 : dRead retry maxChunk Gen.frameHeaderSize d with ⟨res1, d1⟩
  rw [h1] at h
  cases res1 with
  | ok hd =>
    rw [(dRead_ok h1).1]
    simp only [dRecvHeader, recvHeader] at h ⊢
    rcases h2 : dRead retry maxChunk (headerLen hd + Gen.flusher.length) d1 with ⟨res2, d2⟩
    rw [h2] at h
    cases res2 with
    | ok body =>
      rw [(dRead_ok h2).1]
      exact ⟨liftFinish_ok h, rfl⟩
    | _ => cases h
  | _ => cases h

theorem dWrite_reading (maxChunk : Nat) (data : Bytes) (d : DState) :
    (dWrite maxChunk data d).2.r.wire = d.r.wire ∧ (dWrite maxChunk data d).2.r.script = d.r.script := by
  fun_cases dWrite maxChunk data d
  next => exact ⟨rfl, rfl⟩
  next => exact ⟨rfl, rfl⟩
  next => exact ⟨rfl, rfl⟩
  next => exact dFail_streams d
  next =>
    rcases writeAll maxChunk data d.w with ⟨_ | _ | _, w'⟩
    · exact ⟨rfl, rfl⟩
    · exact dFail_streams (α := Unit) { d with w := { w' with closed := false } }
    · exact ⟨rfl, rfl⟩

theorem dWriteSeq_reading (maxChunk : Nat) : ∀ (ws : List Bytes) (d : DState),
    (dWriteSeq maxChunk ws d).2.r.wire = d.r.wire ∧ (dWriteSeq maxChunk ws d).2.r.script = d.r.script := by
  intro ws
  induction ws with
  | nil => exact fun d => ⟨rfl, rfl⟩
  | cons x xs ih =>
    intro d
    have h1 := dWrite_reading maxChunk x d
    rw [dWriteSeq]
    generalize dWrite maxChunk x d = r at h1 ⊢
    obtain ⟨res, d'⟩ := r
    cases res with
    | ok u => exact ⟨(ih d').1.trans h1.1, (ih d').2.trans h1.2⟩
    | _ => exact h1

/-- **`send` is transparent to the reading side**: whatever happens to it, the incoming byte stream and
its script are as before -/
theorem dSend_reading (z : ZlibFns) (c : Bool) (maxChunk : Nat) (p : Bytes) (d : DState) :
    (dSend z c maxChunk p d).2.r.wire = d.r.wire ∧ (dSend z c maxChunk p d).2.r.script = d.r.script := by
  unfold dSend
  cases sendWrites z c maxChunk p with
  | error e => exact ⟨rfl, rfl⟩
  | ok ws => exact dWriteSeq_reading maxChunk ws d

end Rpyc.Wire
