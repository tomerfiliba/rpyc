import RpycModel.Wire.Lemmas
/-
`SocketStream.write` / `PipeStream.write` and `Channel.send` over a scripted transport: what the transport has
accepted under any script (`SendSpec`), and that everything is sent under one that keeps accepting (`Accepts`).
-/
namespace Rpyc.Wire
open Rpyc

theorem sendWrites_flatten (z : ZlibFns) (c : Bool) (maxChunk : Nat) (p : Bytes) (ws : List Bytes)
    (h : sendWrites z c maxChunk p = .ok ws) : frame z c p = .ok ws.flatten := by
  revert h
  fun_cases sendWrites z c maxChunk p <;> rintro ⟨⟩
  next hd hp _ => simp [frame, hp]
  next hd hp _ _ =>
    simp only [frame, hp, List.flatten_cons, List.flatten_nil, List.append_nil, List.append_assoc]
    rw [← List.append_assoc ((payload z c p).take _), List.take_append_drop]

theorem sendWrites_ok (z : ZlibFns) (c : Bool) (maxChunk : Nat) (p : Bytes) (hf : Fits z c p)
    (hmax : Gen.frameHeaderSize ≤ maxChunk) :
    ∃ ws, sendWrites z c maxChunk p = .ok ws ∧ ws.flatten = frameBytes z c p := by
  have hok : ∃ ws, sendWrites z c maxChunk p = .ok ws := by
    unfold sendWrites
    rw [packHeader_of_fits hf]
    simp only
    split
    · exact ⟨_, rfl⟩
    · rw [if_neg (by omega)]; exact ⟨_, rfl⟩
  obtain ⟨ws, hws⟩ := hok
  refine ⟨ws, hws, ?_⟩
  have := sendWrites_flatten z c maxChunk p ws hws
  rw [frame_of_fits hf] at this
  injection this with this
  exact this.symm

theorem sent_cons (b : Bytes) (acc : List Bytes) (sc : List SendEv) (cl : Bool) :
    (WState.mk (b :: acc) sc cl).sent = (WState.mk acc sc cl).sent ++ b := by
  simp [WState.sent]

theorem sent_irrel (acc : List Bytes) (sc sc' : List SendEv) (cl cl' : Bool) :
    (WState.mk acc sc cl).sent = (WState.mk acc sc' cl').sent := rfl

/-- what a sending call did to the transport: it accepted the first `m` bytes of `data` more; `ok`, `eof`, `starved`
say which result was returned: everything was accepted, or `EOFError` was raised with the stream closed, or the call
blocks with the script used up -/
def SendSpec (data : Bytes) (s s' : WState) (ok eof starved : Prop) : Prop :=
  (∃ pre, s.script = pre ++ s'.script) ∧
  ∃ m, m ≤ data.length ∧ s'.sent = s.sent ++ data.take m ∧
    ((ok ∧ m = data.length ∧ s'.closed = s.closed) ∨ (eof ∧ s'.closed = true) ∨
     (starved ∧ s'.script = [] ∧ s'.closed = false))

namespace SendSpec
variable {d d1 d2 : Bytes} {s s1 s2 : WState} {ok eof starved ok' eof' starved' : Prop}

theorem nil (s : WState) (hok : ok) : SendSpec [] s s ok eof starved :=
  ⟨⟨[], rfl⟩, 0, Nat.le_refl _, by simp, Or.inl ⟨hok, rfl, rfl⟩⟩

theorem refused (hpre : ∃ pre, s.script = pre ++ s1.script) (hs : s1.sent = s.sent)
    (h : (eof ∧ s1.closed = true) ∨ (starved ∧ s1.script = [] ∧ s1.closed = false)) :
    SendSpec d s s1 ok eof starved :=
  ⟨hpre, 0, Nat.zero_le _, by rw [hs, List.take_zero, List.append_nil], Or.inr h⟩

theorem imp (h : SendSpec d s s1 ok eof starved) (h1 : ok → ok') (h2 : eof → eof') (h3 : starved → starved') :
    SendSpec d s s1 ok' eof' starved' := by
  obtain ⟨hpre, m, hm, hsent, hend⟩ := h
  exact ⟨hpre, m, hm, hsent, hend.imp (And.imp_left h1) (Or.imp (And.imp_left h2) (And.imp_left h3))⟩

theorem done (h : SendSpec d s s1 ok eof starved) (he : ¬ eof) (hst : ¬ starved) :
    ok ∧ (∃ pre, s.script = pre ++ s1.script) ∧ s1.sent = s.sent ++ d ∧ s1.closed = s.closed := by
  obtain ⟨hpre, m, _, hsent, ⟨a, rfl, c⟩ | ⟨a, _⟩ | ⟨a, _⟩⟩ := h
  · exact ⟨a, hpre, by rw [hsent, List.take_length], c⟩
  · exact absurd a he
  · exact absurd a hst

theorem seq (h1 : SendSpec d1 s s1 ok' eof' starved') (he : ¬ eof') (hst : ¬ starved')
    (h2 : SendSpec d2 s1 s2 ok eof starved) : SendSpec (d1 ++ d2) s s2 ok eof starved := by
  obtain ⟨_, ⟨pre1, hp1⟩, hs1, hc1⟩ := h1.done he hst
  obtain ⟨⟨pre2, hp2⟩, m, hm, hs2, hend⟩ := h2
  refine ⟨⟨pre1 ++ pre2, by rw [hp1, hp2, List.append_assoc]⟩, d1.length + m, ?_, ?_, ?_⟩
  · rw [List.length_append]; omega
  · rw [hs2, hs1, List.take_length_add_append, List.append_assoc]
  · rw [hc1] at hend
    refine hend.imp_left (And.imp_right (And.imp_left fun hm => ?_))
    rw [hm, List.length_append]

theorem stop (h1 : SendSpec d1 s s1 ok' eof starved) (hok : ¬ ok') (d2 : Bytes) :
    SendSpec (d1 ++ d2) s s1 ok eof starved := by
  obtain ⟨hpre, m, hm, hsent, hend⟩ := h1
  refine ⟨hpre, m, ?_, ?_, Or.inr (hend.resolve_left fun h => hok h.1)⟩
  · rw [List.length_append]; omega
  · rw [hsent, List.take_append_of_le_length hm]

end SendSpec

theorem writeLoop_spec (maxChunk : Nat) : ∀ (script : List SendEv) (data : Bytes) (acc : List Bytes),
    SendSpec data ⟨acc, script, false⟩ (writeLoop maxChunk script data acc).2
      ((writeLoop maxChunk script data acc).1 = .ok) ((writeLoop maxChunk script data acc).1 = .eof)
      ((writeLoop maxChunk script data acc).1 = .starved) := by
  intro script data acc
  fun_induction writeLoop maxChunk script data acc
  next => exact .nil _ rfl
  next => exact .refused ⟨[], rfl⟩ rfl (Or.inr ⟨rfl, rfl, rfl⟩)
  next k rest b bs acc ih =>
    generalize min k (min maxChunk (b :: bs).length) = n at ih ⊢
    -- one turn is a write of the first `n` bytes that returned; the later turns write on from there
    have h1 : SendSpec ((b :: bs).take n) ⟨acc, .accept k :: rest, false⟩ ⟨(b :: bs).take n :: acc, rest, false⟩
        True False False :=
      ⟨⟨[.accept k], rfl⟩, _, Nat.le_refl _, by rw [sent_cons, List.take_length]; rfl, Or.inl ⟨trivial, rfl, rfl⟩⟩
    have h2 := h1.seq id id ih
    rwa [List.take_append_drop] at h2
  next => exact .refused ⟨[.timeout], rfl⟩ rfl (Or.inl ⟨rfl, rfl⟩)
  next e _ _ _ _ => exact .refused ⟨[.err e], rfl⟩ rfl (Or.inl ⟨rfl, rfl⟩)

theorem writeAll_sendSpec (maxChunk : Nat) (data : Bytes) (s : WState) :
    SendSpec data s (writeAll maxChunk data s).2 ((writeAll maxChunk data s).1 = .ok)
      ((writeAll maxChunk data s).1 = .eof) ((writeAll maxChunk data s).1 = .starved) := by
  unfold writeAll
  by_cases hd : data = []
  · rw [if_pos hd]; subst hd; exact .nil s rfl
  · rw [if_neg hd]
    obtain ⟨chunks, script, closed⟩ := s
    cases closed with
    | true => exact .refused ⟨[], rfl⟩ rfl (Or.inl ⟨rfl, rfl⟩)
    | false => exact writeLoop_spec maxChunk script data chunks

/-- the three ways a `write`-like call can end; `full` says whether everything was accepted -/
def WriteEnd (closed0 full : Bool) (r : WriteRes × WState) : Prop :=
  (r.1 = .ok ∧ full = true ∧ r.2.closed = closed0) ∨
  (r.1 = .eof ∧ r.2.closed = true) ∨
  (r.1 = .starved ∧ r.2.script = [] ∧ r.2.closed = false)

/-- `SendSpec` for a call that returns a `WriteRes` -/
def WriteSpec (data : Bytes) (s : WState) (r : WriteRes × WState) : Prop :=
  (∃ pre, s.script = pre ++ r.2.script) ∧
  ∃ m, m ≤ data.length ∧ r.2.sent = s.sent ++ data.take m ∧ WriteEnd s.closed (decide (m = data.length)) r

theorem writeAll_spec (maxChunk : Nat) (data : Bytes) (s : WState) :
    WriteSpec data s (writeAll maxChunk data s) := by
  obtain ⟨hpre, m, hm, hsent, hend⟩ := writeAll_sendSpec maxChunk data s
  exact ⟨hpre, m, hm, hsent, hend.imp_left (And.imp_right (And.imp_left decide_eq_true))⟩

theorem writeSeq_spec (maxChunk : Nat) : ∀ (ws : List Bytes) (s : WState),
    SendSpec ws.flatten s (writeSeq maxChunk ws s).2 ((writeSeq maxChunk ws s).1 = .ok)
      ((writeSeq maxChunk ws s).1 = .eof) ((writeSeq maxChunk ws s).1 = .starved)
  | [], s => .nil s rfl
  | w :: ws, s => by
    have h1 := writeAll_sendSpec maxChunk w s
    rw [writeSeq, List.flatten_cons]
    generalize writeAll maxChunk w s = r at h1 ⊢
    obtain ⟨_ | _ | _, s1⟩ := r
    · exact h1.seq nofun nofun (writeSeq_spec maxChunk ws s1)
    · exact h1.stop nofun _
    · exact h1.stop nofun _

theorem chanSend_spec (z : ZlibFns) (c : Bool) (maxChunk : Nat) (hmax : Gen.frameHeaderSize ≤ maxChunk)
    (p : Bytes) (s : WState) (hf : Fits z c p) :
    SendSpec (frameBytes z c p) s (chanSend z c maxChunk p s).2 ((chanSend z c maxChunk p s).1 = .ok)
      ((chanSend z c maxChunk p s).1 = .err .eofError) ((chanSend z c maxChunk p s).1 = .starved) := by
  obtain ⟨ws, hws, hflat⟩ := sendWrites_ok z c maxChunk p hf hmax
  have H := writeSeq_spec maxChunk ws s
  rw [hflat] at H
  simp only [chanSend, hws]
  generalize writeSeq maxChunk ws s = r at H ⊢
  obtain ⟨_ | _ | _, s'⟩ := r
  · exact H.imp (fun _ => rfl) nofun nofun
  · exact H.imp nofun (fun _ => rfl) nofun
  · exact H.imp nofun nofun (fun _ => rfl)

theorem sendMany_spec (z : ZlibFns) (c : Bool) (maxChunk : Nat) (hmax : Gen.frameHeaderSize ≤ maxChunk) :
    ∀ (ps : List Bytes) (s : WState), (∀ p ∈ ps, Fits z c p) →
      SendSpec (wireOf z c ps) s (sendMany z c maxChunk ps s).2.2
        ((sendMany z c maxChunk ps s).2.1 = .done ∧ (sendMany z c maxChunk ps s).1 = ps.length)
        ((sendMany z c maxChunk ps s).2.1 = .err .eofError) ((sendMany z c maxChunk ps s).2.1 = .starved)
  | [], s, _ => .nil s ⟨rfl, rfl⟩
  | p :: ps, s, hf => by
    have h1 := chanSend_spec z c maxChunk hmax p s (hf p (by simp))
    rw [sendMany, wireOf_cons]
    generalize chanSend z c maxChunk p s = r at h1 ⊢
    obtain ⟨_ | e | _, s1⟩ := r
    · have h2 := sendMany_spec z c maxChunk hmax ps s1 fun q hq => hf q (by simp [hq])
      dsimp only
      generalize sendMany z c maxChunk ps s1 = r at h2 ⊢
      obtain ⟨k, o, s2⟩ := r
      exact h1.seq nofun nofun (h2.imp (fun h => ⟨h.1, congrArg (· + 1) h.2⟩) id id)
    · exact (h1.stop nofun _).imp id (fun h => by rw [SendRes.err.inj h]) nofun
    · exact (h1.stop nofun _).imp id nofun (fun _ => rfl)

/-- `k` is a budget: at least that many calls are still to come in the script.  Writing `data` spends at most `data.length` of
them (`writeAll_accepting` goes from `data.length + k` to `k`). -/
def Accepts (k : Nat) (s : WState) : Prop :=
  s.closed = false ∧ (∀ ev ∈ s.script, accepting ev = true) ∧ k ≤ s.script.length

theorem Accepts.mono {k k' : Nat} {s : WState} (h : Accepts k s) (hk : k' ≤ k) : Accepts k' s :=
  ⟨h.1, h.2.1, Nat.le_trans hk h.2.2⟩

/-- each accepted call takes a byte at least, so `data.length` calls are enough; `k` are left over -/
theorem writeLoop_accepting (maxChunk : Nat) (hmax : 1 ≤ maxChunk) (k : Nat) :
    ∀ (script : List SendEv) (data : Bytes) (acc : List Bytes),
      (∀ ev ∈ script, accepting ev = true) → data.length + k ≤ script.length →
      (writeLoop maxChunk script data acc).1 = .ok ∧ Accepts k (writeLoop maxChunk script data acc).2 := by
  intro script data acc
  fun_induction writeLoop maxChunk script data acc <;> intro hacc hl
  next => exact ⟨rfl, rfl, hacc, by simpa using hl⟩
  next => simp at hl
  next j rest b bs acc ih =>
    have hj : 1 ≤ j := by simpa [accepting] using hacc _ List.mem_cons_self
    refine ih (fun e he => hacc e (List.mem_cons_of_mem _ he)) ?_
    simp only [List.length_drop, List.length_cons] at hl ⊢
    omega
  next => simpa [accepting] using hacc _ List.mem_cons_self
  next => simpa [accepting] using hacc _ List.mem_cons_self

theorem writeAll_accepting (maxChunk : Nat) (hmax : 1 ≤ maxChunk) (data : Bytes) {k : Nat} {s : WState}
    (h : Accepts (data.length + k) s) :
    (writeAll maxChunk data s).1 = .ok ∧ Accepts k (writeAll maxChunk data s).2 := by
  unfold writeAll
  split
  · exact ⟨rfl, h.mono (Nat.le_add_left _ _)⟩
  · rw [h.1, if_neg (by simp)]
    exact writeLoop_accepting maxChunk hmax k s.script data s.chunks h.2.1 h.2.2

theorem writeSeq_accepting (maxChunk : Nat) (hmax : 1 ≤ maxChunk) {k : Nat} : ∀ (ws : List Bytes) {s : WState},
    Accepts (ws.flatten.length + k) s →
    (writeSeq maxChunk ws s).1 = .ok ∧ Accepts k (writeSeq maxChunk ws s).2
  | [], s, h => ⟨rfl, h.mono (Nat.le_add_left _ _)⟩
  | w :: ws, s, h => by
    rw [List.flatten_cons, List.length_append, Nat.add_assoc] at h
    have h1 := writeAll_accepting maxChunk hmax w h
    rw [writeSeq]
    generalize writeAll maxChunk w s = r at h1 ⊢
    obtain ⟨res1, s1⟩ := r
    obtain ⟨rfl, h1⟩ := h1
    exact writeSeq_accepting maxChunk hmax ws h1

theorem chanSend_accepting (z : ZlibFns) (c : Bool) (maxChunk : Nat)
    (hmax : Gen.frameHeaderSize ≤ maxChunk) (p : Bytes) {k : Nat} {s : WState}
    (hf : Fits z c p) (h : Accepts ((frameBytes z c p).length + k) s) :
    (chanSend z c maxChunk p s).1 = .ok ∧ Accepts k (chanSend z c maxChunk p s).2 := by
  obtain ⟨ws, hws, hflat⟩ := sendWrites_ok z c maxChunk p hf hmax
  rw [← hflat] at h
  have h1 := writeSeq_accepting maxChunk (Nat.le_trans hdrSize_pos hmax) ws h
  simp only [chanSend, hws]
  generalize writeSeq maxChunk ws s = r at h1 ⊢
  obtain ⟨res, s'⟩ := r
  obtain ⟨rfl, h1⟩ := h1
  exact ⟨rfl, h1⟩

theorem sendMany_accepting (z : ZlibFns) (c : Bool) (maxChunk : Nat)
    (hmax : Gen.frameHeaderSize ≤ maxChunk) {k : Nat} :
    ∀ (ps : List Bytes) {s : WState}, (∀ p ∈ ps, Fits z c p) → Accepts ((wireOf z c ps).length + k) s →
      (sendMany z c maxChunk ps s).2.1 = .done ∧ Accepts k (sendMany z c maxChunk ps s).2.2
  | [], s, _, h => ⟨rfl, h.mono (Nat.le_add_left _ _)⟩
  | p :: ps, s, hf, h => by
    rw [wireOf_cons, List.length_append, Nat.add_assoc] at h
    have h1 := chanSend_accepting z c maxChunk hmax p (hf p (by simp)) h
    rw [sendMany]
    generalize chanSend z c maxChunk p s = r at h1 ⊢
    obtain ⟨res1, s1⟩ := r
    obtain ⟨rfl, h1⟩ := h1
    exact sendMany_accepting z c maxChunk hmax ps (fun q hq => hf q (by simp [hq])) h1

end Rpyc.Wire
