import RpycModel.Wire.Lemmas
/-
`Channel.recv` on a wire that begins with a stream of frames, or with any prefix of one.
-/
namespace Rpyc.Wire
open Rpyc

theorem frame_take_header (z : ZlibFns) (c : Bool) (p rest : Bytes) :
    (frameBytes z c p ++ rest).take Gen.frameHeaderSize = headerBytes (payload z c p).length (flag c p) := by
  unfold frameBytes
  rw [List.append_assoc]
  exact List.take_left' (headerBytes_length _ _)

theorem frame_drop_header (z : ZlibFns) (c : Bool) (p rest : Bytes) :
    (frameBytes z c p ++ rest).drop Gen.frameHeaderSize = (payload z c p ++ Gen.flusher) ++ rest := by
  unfold frameBytes
  rw [List.append_assoc]
  exact List.drop_left' (headerBytes_length _ _)

/-- One `recv()` when the stream still to come is any prefix of `frame p ++ rest` (the sender may have
died anywhere), under any script: it returns exactly `p` having consumed exactly that frame, or raises
`EOFError` with the stream closed, or blocks with the script used up. -/
theorem recvPacket_prefix (z : Zlib) (c retry : Bool) (maxChunk : Nat) (p rest : Bytes) (s : RState)
    (hf : Fits z.toZlibFns c p) (hw : s.wire <+: frameBytes z.toZlibFns c p ++ rest) :
    RecvSpec (frameBytes z.toZlibFns c p).length s (recvPacket z.toZlibFns retry maxChunk s).2
      ((recvPacket z.toZlibFns retry maxChunk s).1 = .ok p)
      ((recvPacket z.toZlibFns retry maxChunk s).1 = .err .eofError)
      ((recvPacket z.toZlibFns retry maxChunk s).1 = .starved) := by
  have H1 := readExact_cases retry maxChunk Gen.frameHeaderSize s
  unfold recvPacket
  generalize readExact retry maxChunk Gen.frameHeaderSize s = r1 at H1 ⊢
  obtain ⟨_ | _ | _, s1⟩ := r1
  · -- the header arrived
    obtain ⟨hh, hle1, hw1, _⟩ := H1.done nofun nofun
    cases hh
    have hw1' : s1.wire <+: (payload z.toZlibFns c p ++ Gen.flusher) ++ rest := by
      rw [hw1, ← frame_drop_header]
      exact prefix_drop hw hle1
    have hh : s.wire.take Gen.frameHeaderSize = headerBytes (payload z.toZlibFns c p).length (flag c p) := by
      rw [← prefix_take hw hle1, frame_take_header]
    simp only [recvHeader]
    rw [hh, headerLen_headerBytes _ hf, frameBytes_length]
    have H2 := H1.seq nofun nofun
      (readExact_cases retry maxChunk ((payload z.toZlibFns c p).length + Gen.flusher.length) s1)
    generalize readExact retry maxChunk ((payload z.toZlibFns c p).length + Gen.flusher.length) s1 = r2 at H2 ⊢
    obtain ⟨_ | _ | _, s2⟩ := r2
    · refine H2.imp (fun hd => ?_) nofun nofun
      obtain ⟨_, hle2, _, _⟩ := H2.done nofun nofun
      have hd' : s1.wire.take ((payload z.toZlibFns c p).length + Gen.flusher.length)
          = payload z.toZlibFns c p ++ Gen.flusher := by
        rw [← prefix_take hw1' (by rw [hw1, List.length_drop]; omega)]
        exact List.take_left' (by simp)
      simp only [recvBody]
      rw [ReadRes.ok.inj hd, hd', finishPacket_frame]
    · exact H2.imp nofun (fun _ => rfl) nofun
    · exact H2.imp nofun nofun (fun _ => rfl)
  · exact (H1.stop nofun _).imp id (fun _ => rfl) nofun
  · exact (H1.stop nofun _).imp id nofun (fun _ => rfl)

/-- the two ways a `recv()` that returned no packet can have ended -/
def RecvEnd (r : RecvRes × RState) : Prop :=
  (r.1 = .err .eofError ∧ r.2.closed = true) ∨ (r.1 = .starved ∧ r.2.script = [] ∧ r.2.closed = false)

theorem recvPacket_nil (z : ZlibFns) (retry : Bool) (maxChunk : Nat) (s : RState) (hw : s.wire = []) :
    RecvEnd (recvPacket z retry maxChunk s) := by
  have H1 := readExact_cases retry maxChunk Gen.frameHeaderSize s
  unfold recvPacket
  generalize readExact retry maxChunk Gen.frameHeaderSize s = r1 at H1 ⊢
  obtain ⟨_ | _ | _, s1⟩ := r1
  · obtain ⟨_, hle, _⟩ := H1.done nofun nofun
    rw [hw] at hle
    exact absurd hle (Nat.not_le.mpr hdrSize_pos)
  · exact (H1.failed nofun).imp (And.imp_left fun _ => rfl) (And.imp_left nofun)
  · exact (H1.failed nofun).imp (And.imp_left nofun) (And.imp_left fun _ => rfl)

/-- how a series of `recv()` calls on a dying / misbehaving transport can end -/
def ManyEnd (n : Nat) (r : List Bytes × Outcome × RState) : Prop :=
  (r.2.1 = .done ∧ r.1.length = n) ∨
  (r.2.1 = .err .eofError ∧ r.2.2.closed = true) ∨
  (r.2.1 = .starved ∧ r.2.2.script = [] ∧ r.2.2.closed = false)

theorem recvMany_prefix_aux (z : Zlib) (c retry : Bool) (maxChunk : Nat) :
    ∀ (n : Nat) (ps : List Bytes) (s : RState),
      (∀ p ∈ ps, Fits z.toZlibFns c p) → s.wire <+: wireOf z.toZlibFns c ps →
      (recvMany z.toZlibFns retry maxChunk n s).1 <+: ps ∧ ManyEnd n (recvMany z.toZlibFns retry maxChunk n s)
  | 0, _, _, _, _ => ⟨List.nil_prefix, Or.inl ⟨rfl, rfl⟩⟩
  | n + 1, [], s, _, hw => by
    have H := recvPacket_nil z.toZlibFns retry maxChunk s (List.prefix_nil.mp hw)
    rw [recvMany]
    generalize recvPacket z.toZlibFns retry maxChunk s = r at H ⊢
    obtain ⟨_ | e | _, s'⟩ := r
    · exact H.elim (fun h => nomatch h.1) (fun h => nomatch h.1)
    · exact ⟨List.nil_prefix, Or.inr (H.imp
        (And.imp_left fun h => congrArg Outcome.err (RecvRes.err.inj h)) (And.imp_left nofun))⟩
    · exact ⟨List.nil_prefix, Or.inr (H.imp (And.imp_left nofun) (And.imp_left fun _ => rfl))⟩
  | n + 1, p :: ps, s, hf, hw => by
    rw [wireOf_cons] at hw
    have H := recvPacket_prefix z c retry maxChunk p _ s (hf p List.mem_cons_self) hw
    rw [recvMany]
    generalize recvPacket z.toZlibFns retry maxChunk s = r at H ⊢
    obtain ⟨q | e | _, s'⟩ := r
    · obtain ⟨hq, hle, hw', _⟩ := H.done nofun nofun
      cases hq
      have hw'' : s'.wire <+: wireOf z.toZlibFns c ps := by
        rw [hw', ← List.drop_left' (l₂ := wireOf z.toZlibFns c ps) rfl]
        exact prefix_drop hw hle
      obtain ⟨i1, i2⟩ := recvMany_prefix_aux z c retry maxChunk n ps s'
        (fun q hq => hf q (List.mem_cons_of_mem _ hq)) hw''
      dsimp only
      generalize recvMany z.toZlibFns retry maxChunk n s' = r at i1 i2 ⊢
      obtain ⟨got, o, s''⟩ := r
      exact ⟨(List.prefix_cons_inj p).mpr i1, i2.imp_left (And.imp_right (congrArg (· + 1)))⟩
    · exact ⟨List.nil_prefix, Or.inr ((H.failed nofun).imp
        (And.imp_left fun h => congrArg Outcome.err (RecvRes.err.inj h)) (And.imp_left nofun))⟩
    · exact ⟨List.nil_prefix, Or.inr ((H.failed nofun).imp (And.imp_left nofun) (And.imp_left fun _ => rfl))⟩

theorem recvPacket_of_reads (z : Zlib) (c retry : Bool) (maxChunk : Nat) (p : Bytes) {s s1 s2 : RState}
    (hf : Fits z.toZlibFns c p)
    (h1 : readExact retry maxChunk Gen.frameHeaderSize s
      = (.ok (headerBytes (payload z.toZlibFns c p).length (flag c p)), s1))
    (h2 : readExact retry maxChunk ((payload z.toZlibFns c p).length + Gen.flusher.length) s1
      = (.ok (payload z.toZlibFns c p ++ Gen.flusher), s2)) :
    recvPacket z.toZlibFns retry maxChunk s = (.ok p, s2) := by
  unfold recvPacket
  rw [h1]
  simp only [recvHeader]
  rw [headerLen_headerBytes _ hf, h2]
  simp only [recvBody]
  rw [finishPacket_frame]

theorem recvPacket_benign (z : Zlib) (c retry : Bool) (maxChunk : Nat) (hmax : 1 ≤ maxChunk)
    (p rest : Bytes) {k : Nat} {s : RState} (hf : Fits z.toZlibFns c p)
    (hw : s.wire = frameBytes z.toZlibFns c p ++ rest)
    (h : Benign retry ((frameBytes z.toZlibFns c p).length + k) s) :
    (recvPacket z.toZlibFns retry maxChunk s).1 = .ok p ∧
    (recvPacket z.toZlibFns retry maxChunk s).2.wire = rest ∧
    Benign retry k (recvPacket z.toZlibFns retry maxChunk s).2 := by
  rw [frameBytes_length, Nat.add_assoc] at h
  obtain ⟨e1, hw1, h1⟩ := readExact_benign retry maxChunk hmax Gen.frameHeaderSize h
    (by rw [hw, List.length_append, frameBytes_length]; omega)
  rw [hw, frame_take_header] at e1
  rw [hw, frame_drop_header] at hw1
  obtain ⟨e2, hw2, h2⟩ := readExact_benign retry maxChunk hmax
    ((payload z.toZlibFns c p).length + Gen.flusher.length) h1 (by rw [hw1]; simp)
  rw [hw1, List.take_left' (by simp)] at e2
  rw [hw1, List.drop_left' (by simp)] at hw2
  rw [recvPacket_of_reads z c retry maxChunk p hf (Prod.ext e1 rfl) (Prod.ext e2 rfl)]
  exact ⟨rfl, hw2, h2⟩

theorem recvMany_benign (z : Zlib) (c retry : Bool) (maxChunk : Nat) (hmax : 1 ≤ maxChunk) {k : Nat} :
    ∀ (ps : List Bytes) (rest : Bytes) {s : RState},
      (∀ p ∈ ps, Fits z.toZlibFns c p) → s.wire = wireOf z.toZlibFns c ps ++ rest →
      Benign retry ((wireOf z.toZlibFns c ps).length + k) s →
      (recvMany z.toZlibFns retry maxChunk ps.length s).1 = ps ∧
      (recvMany z.toZlibFns retry maxChunk ps.length s).2.1 = .done ∧
      (recvMany z.toZlibFns retry maxChunk ps.length s).2.2.wire = rest ∧
      Benign retry k (recvMany z.toZlibFns retry maxChunk ps.length s).2.2
  | [], rest, s, _, hw, h => ⟨rfl, rfl, hw.trans (List.nil_append rest), h.mono (Nat.le_add_left _ _)⟩
  | p :: ps, rest, s, hf, hw, h => by
    rw [wireOf_cons, List.append_assoc] at hw
    rw [wireOf_cons, List.length_append, Nat.add_assoc] at h
    obtain ⟨e, hw', h'⟩ := recvPacket_benign z c retry maxChunk hmax p _ (hf p (by simp)) hw h
    rw [List.length_cons, recvMany]
    generalize recvPacket z.toZlibFns retry maxChunk s = r at e hw' h' ⊢
    obtain ⟨res, s'⟩ := r
    subst e
    obtain ⟨i1, i2, i3, i4⟩ := recvMany_benign z c retry maxChunk hmax ps rest
      (fun q hq => hf q (by simp [hq])) hw' h'
    dsimp only
    generalize recvMany z.toZlibFns retry maxChunk ps.length s' = r at i1 i2 i3 i4 ⊢
    obtain ⟨got, o, s''⟩ := r
    exact ⟨congrArg (p :: ·) i1, i2, i3, i4⟩

end Rpyc.Wire
