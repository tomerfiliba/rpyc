import RpycModel.Wire.Model
/-
Layer L2 "Wire": the side conditions on the generated constants, frames and their lengths, and `read`: what it
can do under any script (`RecvSpec`, `readExact_cases`) and that it returns under a failure-free one (`Benign`,
`readExact_benign`).  The property theorems are in RpycModel/Props/C05.lean.
-/
namespace Rpyc.Wire
open Rpyc

/-! ### side conditions on the generated constants (a changed constant breaks one of these by name) -/

/-- `FRAME_HEADER.size` is the sum of the two field widths -/
theorem hdrSize_eq : Gen.frameHeaderSize = Gen.frameLenWidth + Gen.frameFlagWidth := by decide

/-- the length field can express every payload length below 4 GiB (the statement's "far beyond the
chunk size"; a narrower field would make `send` refuse large packets with `struct.error`) -/
theorem lenRange_ge : 2 ^ 32 ≤ 256 ^ Gen.frameLenWidth := by decide

theorem one_lt_flagRange : 1 < 256 ^ Gen.frameFlagWidth := by decide

/-- `FLUSHER` is not empty (otherwise `data[:-len(FLUSHER)]` would drop the whole packet) -/
theorem flusher_pos : 0 < Gen.flusher.length := by decide

theorem hdr_le_chunk : Gen.frameHeaderSize ≤ Gen.socketMaxIoChunk ∧ Gen.frameHeaderSize ≤ Gen.pipeMaxIoChunk := by
  decide

theorem chunk_pos : 1 ≤ Gen.socketMaxIoChunk ∧ 1 ≤ Gen.pipeMaxIoChunk := by decide

/-- `stream.retry_errnos` is exactly the platform's would-block errnos (`errno.EAGAIN`, `errno.EWOULDBLOCK`,
generated from the `errno` module, not from rpyc): both are retried, and nothing else is (an errno of a dead
connection in that list would be retried for ever instead of ending in `EOFError`) -/
theorem retry_errnos_are_wouldblock :
    Gen.retryErrnos.contains Gen.eagain = true ∧ Gen.retryErrnos.contains Gen.ewouldblock = true ∧
    Gen.retryErrnos.all (fun e => e == Gen.eagain || e == Gen.ewouldblock) = true := by decide

/-- class relations of the interpreter whose consequences are written into the model: `socket.timeout` is a
`socket.error` (so `write`'s `except socket.error` makes a timeout fatal: `writeLoop`), `socket.error` is an
`EnvironmentError` (so `PipeStream`'s `except EnvironmentError` makes every scripted error fatal: `recvStep` with
`retry = false`), `EOFError` is not a `socket.error` (so the `EOFError` of `ClosedFile` passes through
`except socket.error` unchanged: `readExact` / `writeAll` on a closed stream) -/
theorem exception_classes :
    Gen.timeoutIsSocketError = true ∧ Gen.socketErrorIsEnvironmentError = true ∧ Gen.eofErrorIsSocketError = false := by
  decide

theorem hdrSize_pos : 0 < Gen.frameHeaderSize := by
  have := one_lt_flagRange
  have h2 : Gen.frameFlagWidth ≠ 0 := by
    intro h; rw [h] at this; simp at this
  rw [hdrSize_eq]; omega

theorem prefix_take {w full : Bytes} (h : w <+: full) {n : Nat} (hn : n ≤ w.length) :
    full.take n = w.take n := by
  obtain ⟨t, rfl⟩ := h
  exact List.take_append_of_le_length hn

theorem prefix_drop {w full : Bytes} (h : w <+: full) {n : Nat} (hn : n ≤ w.length) :
    w.drop n <+: full.drop n := by
  obtain ⟨t, rfl⟩ := h
  rw [List.drop_append_of_le_length hn]
  exact List.prefix_append _ _

theorem all_flatten_replicate {α : Type} {p : α → Bool} {l : List α} (h : l.all p = true) (n : Nat) :
    (List.replicate n l).flatten.all p = true := by
  simp [List.all_flatten, List.all_replicate, h]

theorem length_flatten_replicate {α : Type} (n : Nat) (l : List α) :
    (List.replicate n l).flatten.length = n * l.length := by
  rw [List.length_flatten, List.map_replicate, List.sum_replicate_nat]

theorem flag_le_one (c : Bool) (d : Bytes) : flag c d ≤ 1 := by
  unfold flag; split <;> omega

theorem flag_lt_range (c : Bool) (d : Bytes) : flag c d < 256 ^ Gen.frameFlagWidth := by
  have := flag_le_one c d
  have := one_lt_flagRange
  omega

theorem packHeader_of_fits {z : ZlibFns} {c : Bool} {p : Bytes} (h : Fits z c p) :
    packHeader (payload z c p).length (flag c p) = .ok (headerBytes (payload z c p).length (flag c p)) := by
  unfold packHeader
  rw [if_pos ⟨h, flag_lt_range c p⟩]

theorem packHeader_not_fits {z : ZlibFns} {c : Bool} {p : Bytes} (h : ¬ Fits z c p) :
    packHeader (payload z c p).length (flag c p) = .error .structError := by
  unfold packHeader
  rw [if_neg (fun hh => h hh.1)]

theorem frame_of_fits {z : ZlibFns} {c : Bool} {p : Bytes} (h : Fits z c p) :
    frame z c p = .ok (frameBytes z c p) := by
  simp [frame, packHeader_of_fits h, frameBytes]

theorem frame_not_fits {z : ZlibFns} {c : Bool} {p : Bytes} (h : ¬ Fits z c p) :
    frame z c p = .error .structError := by
  simp [frame, packHeader_not_fits h]

@[simp] theorem headerBytes_length (len flg : Nat) : (headerBytes len flg).length = Gen.frameHeaderSize := by
  simp [headerBytes, hdrSize_eq]

theorem frameBytes_length (z : ZlibFns) (c : Bool) (p : Bytes) :
    (frameBytes z c p).length = Gen.frameHeaderSize + ((payload z c p).length + Gen.flusher.length) := by
  simp [frameBytes]

theorem wireOf_cons (z : ZlibFns) (c : Bool) (p : Bytes) (ps : List Bytes) :
    wireOf z c (p :: ps) = frameBytes z c p ++ wireOf z c ps := by
  simp [wireOf]

@[simp] theorem wireOf_nil (z : ZlibFns) (c : Bool) : wireOf z c [] = [] := rfl

theorem payload_length_le {z : ZlibFns} {b : Nat} (hz : ∀ p, (z.compress p).length ≤ p.length + b) (c : Bool)
    (p : Bytes) : (payload z c p).length ≤ p.length + b := by
  unfold payload
  split
  · exact hz p
  · exact Nat.le_add_right _ _

theorem wireOf_length_le {z : ZlibFns} {b : Nat} (hz : ∀ p, (z.compress p).length ≤ p.length + b) (c : Bool) :
    ∀ {ps : List Bytes} {ls : List Nat} {n : Nat}, ps.map List.length = ls →
      ls.sum + ls.length * (Gen.frameHeaderSize + b + Gen.flusher.length) ≤ n → (wireOf z c ps).length ≤ n
  | [], _, _, rfl, _ => Nat.zero_le _
  | p :: ps, _, _, rfl, hn => by
    have h1 := payload_length_le hz c p
    have h2 := wireOf_length_le hz c (ps := ps) rfl (Nat.le_refl _)
    rw [wireOf_cons, List.length_append, frameBytes_length]
    simp only [List.map_cons, List.sum_cons, List.length_cons, Nat.succ_mul] at hn
    omega

theorem fits_of_wireOf_lt {z : ZlibFns} {c : Bool} : ∀ {ps : List Bytes},
    (wireOf z c ps).length < 256 ^ Gen.frameLenWidth → ∀ p ∈ ps, Fits z c p
  | q :: ps, h, p, hp => by
    rw [wireOf_cons, List.length_append, frameBytes_length] at h
    rcases List.mem_cons.mp hp with rfl | hp
    · exact Nat.lt_of_le_of_lt (by omega) h
    · exact fits_of_wireOf_lt (Nat.lt_of_le_of_lt (Nat.le_add_left _ _) h) p hp

theorem headerLen_headerBytes {len : Nat} (flg : Nat) (h : len < 256 ^ Gen.frameLenWidth) :
    headerLen (headerBytes len flg) = len := by
  unfold headerLen headerBytes
  rw [List.take_left' (beN_length _ _), unbe_beN _ _ h]

theorem headerFlag_headerBytes (len : Nat) {flg : Nat} (h : flg < 256 ^ Gen.frameFlagWidth) :
    headerFlag (headerBytes len flg) = flg := by
  unfold headerFlag headerBytes
  rw [List.drop_left' (beN_length _ _), unbe_beN _ _ h]

theorem stripFlusher_append (p : Bytes) : stripFlusher (p ++ Gen.flusher) = p := by
  unfold stripFlusher
  have := flusher_pos
  rw [if_neg (by omega)]
  simp

/-- the receiver's post-processing undoes the sender's pre-processing (uses zlib's round-trip law) -/
theorem finishPacket_frame (z : Zlib) (c : Bool) (p : Bytes) :
    finishPacket z.toZlibFns (headerBytes (payload z.toZlibFns c p).length (flag c p))
      (payload z.toZlibFns c p ++ Gen.flusher) = .ok p := by
  unfold finishPacket
  rw [headerFlag_headerBytes _ (flag_lt_range c p), stripFlusher_append]
  unfold flag payload
  cases useCompression c p with
  | true => simp [z.round_trip]
  | false => simp

theorem recvStep_data {retry : Bool} {maxChunk count : Nat} {wire : Bytes} {ev : RecvEv} {buf : Bytes}
    (h : recvStep retry maxChunk count wire ev = .data buf) :
    buf ≠ [] ∧ buf = wire.take buf.length ∧ buf.length ≤ count ∧ buf.length ≤ wire.length ∧ isChunk ev = true := by
  revert h
  fun_cases recvStep retry maxChunk count wire ev <;> rintro ⟨⟩
  next k hne =>
    refine ⟨hne, ?_, ?_, List.length_take_le' _ _, rfl⟩
    · rw [List.length_take, ← List.take_eq_take_min]
    · rw [List.length_take]; omega

theorem recvStep_again {retry : Bool} {maxChunk count : Nat} {wire : Bytes} {ev : RecvEv}
    (h : recvStep retry maxChunk count wire ev = .again) : isChunk ev = false := by
  revert h
  fun_cases recvStep retry maxChunk count wire ev <;> rintro ⟨⟩ <;> rfl

theorem recvStep_benign {retry : Bool} {maxChunk count : Nat} {wire : Bytes} {ev : RecvEv}
    (hb : benign retry ev = true) (hmax : 1 ≤ maxChunk) (hc : count ≠ 0) (hw : count ≤ wire.length) :
    recvStep retry maxChunk count wire ev ≠ .fatal := by
  revert hb
  fun_cases recvStep retry maxChunk count wire ev <;> intro hb
  next k hnil =>
    simp only [benign, decide_eq_true_eq] at hb
    rw [List.take_eq_nil_iff] at hnil
    rcases hnil with h | h
    · omega
    · subst h; simp at hw; omega
  next => nofun
  next => cases hb
  next => nofun
  next hr => exact absurd hb hr
  next => nofun
  next e hr => exact absurd hb hr

/-- what a reading call that wants the next `n` bytes of the wire can do; `ok`, `eof`, `starved` say which result
was returned: it consumed exactly those bytes, or raised `EOFError` with the stream closed, or blocks with the script
used up -/
def RecvSpec (n : Nat) (s s' : RState) (ok eof starved : Prop) : Prop :=
  (∃ pre, s.script = pre ++ s'.script) ∧
  ((ok ∧ n ≤ s.wire.length ∧ s'.wire = s.wire.drop n ∧ s'.closed = s.closed) ∨
   (eof ∧ s'.closed = true) ∨
   (starved ∧ s'.script = [] ∧ s'.closed = false))

namespace RecvSpec
variable {n n1 n2 : Nat} {s s1 s2 : RState} {ok eof starved ok' eof' starved' : Prop}

theorem nil (s : RState) (hok : ok) : RecvSpec 0 s s ok eof starved :=
  ⟨⟨[], rfl⟩, Or.inl ⟨hok, Nat.zero_le _, rfl, rfl⟩⟩

theorem imp (h : RecvSpec n s s1 ok eof starved) (h1 : ok → ok') (h2 : eof → eof') (h3 : starved → starved') :
    RecvSpec n s s1 ok' eof' starved' :=
  ⟨h.1, h.2.imp (And.imp_left h1) (Or.imp (And.imp_left h2) (And.imp_left h3))⟩

theorem done (h : RecvSpec n s s1 ok eof starved) (he : ¬ eof) (hst : ¬ starved) :
    ok ∧ n ≤ s.wire.length ∧ s1.wire = s.wire.drop n ∧ s1.closed = s.closed :=
  h.2.resolve_right fun h' => h'.elim (fun h' => he h'.1) (fun h' => hst h'.1)

theorem seq (h1 : RecvSpec n1 s s1 ok' eof' starved') (he : ¬ eof') (hst : ¬ starved')
    (h2 : RecvSpec n2 s1 s2 ok eof starved) : RecvSpec (n1 + n2) s s2 ok eof starved := by
  obtain ⟨_, hle1, hw1, hc1⟩ := h1.done he hst
  obtain ⟨⟨pre1, hp1⟩, _⟩ := h1
  obtain ⟨⟨pre2, hp2⟩, hres⟩ := h2
  refine ⟨⟨pre1 ++ pre2, by rw [hp1, hp2, List.append_assoc]⟩, hres.imp_left fun ⟨a, hle2, hw2, hc2⟩ => ?_⟩
  rw [hw1, List.length_drop] at hle2
  exact ⟨a, by omega, by rw [hw2, hw1, List.drop_drop], hc2.trans hc1⟩

theorem failed (h : RecvSpec n s s1 ok eof starved) (hok : ¬ ok) :
    (eof ∧ s1.closed = true) ∨ (starved ∧ s1.script = [] ∧ s1.closed = false) :=
  h.2.resolve_left fun h => hok h.1

/-- the first call did not return (no claim about the wire is left, so `n`, what the whole call wanted, is free) -/
theorem stop (h1 : RecvSpec n1 s s1 ok' eof starved) (hok : ¬ ok') (n : Nat) : RecvSpec n s s1 ok eof starved :=
  ⟨h1.1, Or.inr (h1.failed hok)⟩

end RecvSpec

theorem readLoop_spec (retry : Bool) (maxChunk : Nat) : ∀ (script : List RecvEv) (wire : Bytes) (count : Nat)
    (acc : List Bytes),
    RecvSpec count ⟨wire, script, false⟩ (readLoop retry maxChunk script wire count acc).2
      ((readLoop retry maxChunk script wire count acc).1 = .ok (acc.reverse.flatten ++ wire.take count))
      ((readLoop retry maxChunk script wire count acc).1 = .eof)
      ((readLoop retry maxChunk script wire count acc).1 = .starved) := by
  intro script wire count acc
  fun_induction readLoop retry maxChunk script wire count acc
  next => exact .nil _ (by simp)
  next => exact ⟨⟨[], rfl⟩, Or.inr (Or.inr ⟨rfl, rfl, rfl⟩)⟩
  next => exact .nil _ (by simp)
  next ev rest wire count acc _ buf hstep ih =>
    obtain ⟨_, hbuf, hle, hlw, _⟩ := recvStep_data hstep
    -- one turn is a read of `buf.length` bytes that returned; the later turns read on from there
    have h1 : RecvSpec buf.length ⟨wire, ev :: rest, false⟩ ⟨wire.drop buf.length, rest, false⟩ True False False :=
      ⟨⟨[ev], rfl⟩, Or.inl ⟨trivial, hlw, rfl, rfl⟩⟩
    have hd : (buf :: acc).reverse.flatten ++ (wire.drop buf.length).take (count - buf.length)
        = acc.reverse.flatten ++ wire.take count := by
      have : wire.take count = wire.take buf.length ++ (wire.drop buf.length).take (count - buf.length) := by
        rw [← List.take_add]
        exact congrArg (List.take · wire) (by omega)
      rw [this, ← hbuf]; simp
    have h2 := h1.seq id id (hd ▸ ih)
    rwa [Nat.add_sub_cancel' hle] at h2
  next ev rest wire count acc _ _ ih =>
    have h1 : RecvSpec 0 ⟨wire, ev :: rest, false⟩ ⟨wire, rest, false⟩ True False False :=
      ⟨⟨[ev], rfl⟩, Or.inl ⟨trivial, Nat.zero_le _, rfl, rfl⟩⟩
    have h2 := h1.seq id id ih
    rwa [Nat.zero_add] at h2
  next ev _ _ _ _ _ _ => exact ⟨⟨[ev], rfl⟩, Or.inr (Or.inl ⟨rfl, rfl⟩)⟩

theorem readExact_cases (retry : Bool) (maxChunk n : Nat) (s : RState) :
    RecvSpec n s (readExact retry maxChunk n s).2 ((readExact retry maxChunk n s).1 = .ok (s.wire.take n))
      ((readExact retry maxChunk n s).1 = .eof) ((readExact retry maxChunk n s).1 = .starved) := by
  fun_cases readExact retry maxChunk n s
  next hn => subst hn; exact .nil s rfl
  next _ hcl => exact ⟨⟨[], rfl⟩, Or.inr (Or.inl ⟨rfl, hcl⟩)⟩
  next _ hcl =>
    have h := readLoop_spec retry maxChunk s.script s.wire n []
    exact ⟨h.1, h.2.imp_left (And.imp_right (And.imp_right (And.imp_right
      fun hc => hc.trans (Bool.eq_false_iff.mpr hcl).symm)))⟩

theorem progress_cons (ev : RecvEv) (rest : List RecvEv) :
    progress (ev :: rest) = progress rest + (if isChunk ev = true then 1 else 0) := by
  simp [progress, List.countP_cons]

theorem progress_flatten_replicate (n : Nat) (l : List RecvEv) :
    progress (List.replicate n l).flatten = n * progress l := by
  unfold progress
  rw [List.countP_flatten, List.map_replicate, List.sum_replicate_nat]

/-- `k` is a budget: at least that many data events are still to come in the script.  Reading `n` bytes spends at most `n` of
them (`readExact_benign` goes from `n + k` to `k`), so a caller starts from the length of the wire. -/
def Benign (retry : Bool) (k : Nat) (s : RState) : Prop :=
  s.closed = false ∧ (∀ ev ∈ s.script, benign retry ev = true) ∧ k ≤ progress s.script

theorem Benign.mono {retry : Bool} {k k' : Nat} {s : RState} (h : Benign retry k s) (hk : k' ≤ k) :
    Benign retry k' s :=
  ⟨h.1, h.2.1, Nat.le_trans hk h.2.2⟩

/-- each data event delivers a byte at least, so `count` of them are enough; `k` are left over -/
theorem readLoop_benign (retry : Bool) (maxChunk : Nat) (hmax : 1 ≤ maxChunk) (k : Nat) :
    ∀ (script : List RecvEv) (wire : Bytes) (count : Nat) (acc : List Bytes),
      (∀ ev ∈ script, benign retry ev = true) → count ≤ wire.length → count + k ≤ progress script →
      (readLoop retry maxChunk script wire count acc).1 ≠ .eof ∧
      (readLoop retry maxChunk script wire count acc).1 ≠ .starved ∧
      Benign retry k (readLoop retry maxChunk script wire count acc).2 := by
  intro script wire count acc
  fun_induction readLoop retry maxChunk script wire count acc <;> intro hb hw hp
  next => exact ⟨nofun, nofun, rfl, hb, Nat.le_of_add_left_le hp⟩
  next hc => simp [progress] at hp; omega
  next => exact ⟨nofun, nofun, rfl, hb, Nat.le_of_add_left_le hp⟩
  next ev rest wire count acc hc buf hstep ih =>
    obtain ⟨hne, _, hle, hlw, hch⟩ := recvStep_data hstep
    have hpos : 1 ≤ buf.length := List.length_pos_iff.mpr hne
    rw [progress_cons, if_pos hch] at hp
    exact ih (fun e he => hb e (List.mem_cons_of_mem _ he)) (by rw [List.length_drop]; omega) (by omega)
  next ev rest wire count acc hc hstep ih =>
    rw [progress_cons, recvStep_again hstep] at hp
    exact ih (fun e he => hb e (List.mem_cons_of_mem _ he)) hw (by simpa using hp)
  next ev _ wire _ _ hc hstep => exact absurd hstep (recvStep_benign (hb ev List.mem_cons_self) hmax hc hw)

theorem readExact_benign (retry : Bool) (maxChunk : Nat) (hmax : 1 ≤ maxChunk) (n : Nat) {k : Nat} {s : RState}
    (h : Benign retry (n + k) s) (hw : n ≤ s.wire.length) :
    (readExact retry maxChunk n s).1 = .ok (s.wire.take n) ∧
    (readExact retry maxChunk n s).2.wire = s.wire.drop n ∧
    Benign retry k (readExact retry maxChunk n s).2 := by
  have hlive : (readExact retry maxChunk n s).1 ≠ .eof ∧ (readExact retry maxChunk n s).1 ≠ .starved ∧
      Benign retry k (readExact retry maxChunk n s).2 := by
    unfold readExact
    by_cases hn : n = 0
    · rw [if_pos hn]; exact ⟨nofun, nofun, h.mono (Nat.le_add_left _ _)⟩
    · rw [if_neg hn, h.1, if_neg (by simp)]
      exact readLoop_benign retry maxChunk hmax k s.script s.wire n [] h.2.1 hw h.2.2
  rcases (readExact_cases retry maxChunk n s).2 with ⟨h1, _, h3, _⟩ | ⟨e, _⟩ | ⟨e, _⟩
  · exact ⟨h1, h3, hlive.2.2⟩
  · exact absurd e hlive.1
  · exact absurd e hlive.2.1

end Rpyc.Wire
