import RpycModel.Brine.RoundTrip
/-
Further facts about the brine model: encodings are non-empty and bound the fuel the decoder needs,
every value in the explicit domain encodes, non-dumpable values are refused with TypeError, and the
decoder only ever yields dumpable values and consumes input when it does (both read off the four shapes
a decoding step can take, `dec_step`).
-/
namespace Rpyc.Brine
open Rpyc

theorem encBytes_len (b e : Bytes) (h : encBytes b = .ok e) : 1 ≤ e.length := by
  revert h
  fun_cases encBytes b <;> intro h <;> cases h <;> simp

theorem encInt_len (i : Int) (e : Bytes) (h : encInt i = .ok e) : 1 ≤ e.length := by
  revert h
  fun_cases encInt i <;> intro h <;> cases h <;> simp

theorem encStr_len (s : List Nat) (e : Bytes) (h : encStr s = .ok e) : 1 ≤ e.length := by
  revert h
  fun_cases encStr s <;> intro h <;> cases h <;> simp

theorem tupHeader_len (n : Nat) (e : Bytes) (h : tupHeader n = .ok e) : 1 ≤ e.length := by
  revert h
  fun_cases tupHeader n <;> intro h <;> cases h <;> simp

mutual
theorem need_le : ∀ (v : Val) (e : Bytes), enc v = .ok e → need v ≤ 2 * e.length ∧ 1 ≤ e.length
  | .none, e, h | .notImpl, e, h | .ellipsis, e, h | .bool true, e, h | .bool false, e, h
  | .float _, e, h | .complex _ _, e, h => by cases h; simp [need]
  | .int i, e, h => by have := encInt_len i e h; simp [need]; omega
  | .bytes b, e, h => by have := encBytes_len b e h; simp [need]; omega
  | .str s, e, h => by have := encStr_len s e h; simp [need]; omega
  | .tuple xs, e, h => by
    obtain ⟨hd, body, hhd, hbody, rfl⟩ := enc_tuple_eq_ok h
    have h1 := tupHeader_len _ hd hhd
    have h2 := needL_le xs body hbody
    simp [need]; omega
  | .fset xs, e, h => by
    obtain ⟨hd, body, hhd, hbody, rfl⟩ := enc_fset_eq_ok h
    have h1 := tupHeader_len _ hd hhd
    have h2 := needL_le xs body hbody
    simp [need]; omega
  | .slice a b c, e, h => by
    obtain ⟨ea, eb, ec, hea, heb, hec, rfl⟩ := enc_slice_eq_ok h
    have h1 := need_le a ea hea
    have h2 := need_le b eb heb
    have h3 := need_le c ec hec
    simp [need]; omega
  | .other _, e, h => by cases h
theorem needL_le : ∀ (xs : List Val) (e : Bytes), encL xs = .ok e → needL xs ≤ 2 * e.length
  | [], e, h => by simp [needL]
  | x :: xs, e, h => by
    obtain ⟨ex, exs, hex, hexs, rfl⟩ := encL_cons_eq_ok h
    have h1 := need_le x ex hex
    have h2 := needL_le xs exs hexs
    simp [needL]; omega
end

/-! ### the explicit domain: what the interpreter can render and `struct` can frame -/

def intOk (i : Int) : Bool :=
  (Gen.immLo ≤ i && i < Gen.immHi) ||
  ((Gen.intMaxStrDigits == 0 || (natDigits i.natAbs).length ≤ Gen.intMaxStrDigits)
    && (intRepr i).length < 2 ^ 32)

mutual
/-- integers within the interpreter's digit limit, every length below 2^32 -/
def InDomain : Val → Bool
  | .int i => intOk i
  | .bytes b => b.length < 2 ^ 32
  | .str s => (s.flatMap utf8EncCp).length < 2 ^ 32
  | .tuple xs => xs.length < 2 ^ 32 && InDomainL xs
  | .fset xs => xs.length < 2 ^ 32 && InDomainL xs
  | .slice a b c => InDomain a && InDomain b && InDomain c
  | _ => true
def InDomainL : List Val → Bool
  | [] => true
  | x :: xs => InDomain x && InDomainL xs
end

theorem intOk_of_natAbs_lt (i : Int) (k : Nat) (h : i.natAbs < 10 ^ (k + 1))
    (hlim : Gen.intMaxStrDigits = 0 ∨ k + 1 ≤ Gen.intMaxStrDigits) (h32 : k + 2 < 2 ^ 32) : intOk i = true := by
  have hd := natDigits_length_le_of_lt k i.natAbs h
  have hr := intRepr_length_le i
  simp only [intOk, Bool.or_eq_true, Bool.and_eq_true, decide_eq_true_eq, beq_iff_eq]
  exact Or.inr ⟨hlim.imp_right (Nat.le_trans hd), by omega⟩

theorem encBytes_ok (b : Bytes) (h : b.length < 2 ^ 32) : ∃ e, encBytes b = .ok e := by
  fun_cases encBytes b
  all_goals first | exact ⟨_, rfl⟩ | omega

theorem tupHeader_ok (n : Nat) (h : n < 2 ^ 32) : ∃ e, tupHeader n = .ok e := by
  fun_cases tupHeader n
  all_goals first | exact ⟨_, rfl⟩ | omega

theorem encInt_ok (i : Int) (h : intOk i = true) : ∃ e, encInt i = .ok e := by
  simp only [intOk, Bool.or_eq_true, Bool.and_eq_true, decide_eq_true_eq, beq_iff_eq] at h
  fun_cases encInt i
  all_goals first | exact ⟨_, rfl⟩ | omega

theorem encStr_ok (s : List Nat) (h : (s.flatMap utf8EncCp).length < 2 ^ 32) : ∃ e, encStr s = .ok e := by
  unfold encStr
  rw [dump_surrogatepass, utf8Enc_sp_eq]
  obtain ⟨e, he⟩ := encBytes_ok _ h
  simp [he]

mutual
theorem enc_spec : ∀ (v : Val), InDomain v = true →
    if dumpable v then ∃ e, enc v = .ok e else enc v = .error .typeError
  | .none, _ | .notImpl, _ | .ellipsis, _ | .bool true, _ | .bool false, _
  | .float _, _ | .complex _ _, _ => ⟨_, rfl⟩
  | .int i, hd => encInt_ok i hd
  | .bytes b, hd => encBytes_ok b (of_decide_eq_true hd)
  | .str s, hd => encStr_ok s (of_decide_eq_true hd)
  | .tuple xs, hd | .fset xs, hd => by
    simp [InDomain] at hd
    obtain ⟨h, hh⟩ := tupHeader_ok xs.length hd.1
    have hb := encL_spec xs hd.2
    rw [dumpable]
    split at hb
    · obtain ⟨b, hb⟩ := hb
      simp [*, enc]
    · simp [*, enc]
  | .slice a b c, hd => by
    simp [InDomain] at hd
    have ha := enc_spec a hd.1.1
    have hb := enc_spec b hd.1.2
    have hc := enc_spec c hd.2
    rw [dumpable]
    split at ha
    · obtain ⟨ea, ha⟩ := ha
      split at hb
      · obtain ⟨eb, hb⟩ := hb
        split at hc
        · obtain ⟨ec, hc⟩ := hc
          simp [*, enc]
        · simp [*, enc]
      · simp [*, enc]
    · simp [*, enc]
  | .other _, _ => rfl
theorem encL_spec : ∀ (xs : List Val), InDomainL xs = true →
    if dumpableL xs then ∃ e, encL xs = .ok e else encL xs = .error .typeError
  | [], _ => ⟨[], rfl⟩
  | x :: xs, hd => by
    simp [InDomainL] at hd
    have hx := enc_spec x hd.1
    have hxs := encL_spec xs hd.2
    rw [dumpableL]
    split at hx
    · obtain ⟨ex, hx⟩ := hx
      split at hxs
      · obtain ⟨exs, hxs⟩ := hxs
        simp [*, encL]
      · simp [*, encL]
    · simp [*, encL]
end

theorem enc_ok : ∀ (v : Val), dumpable v = true → InDomain v = true → ∃ e, enc v = .ok e :=
  fun v hdump hd => by simpa [hdump] using enc_spec v hd

theorem encL_ok : ∀ (xs : List Val), dumpableL xs = true → InDomainL xs = true → ∃ e, encL xs = .ok e :=
  fun xs hdump hd => by simpa [hdump] using encL_spec xs hd

theorem enc_refuses : ∀ (v : Val), dumpable v = false → InDomain v = true → enc v = .error .typeError :=
  fun v hdump hd => by simpa [hdump] using enc_spec v hd

theorem encL_refuses : ∀ (xs : List Val), dumpableL xs = false → InDomainL xs = true →
    encL xs = .error .typeError :=
  fun xs hdump hd => by simpa [hdump] using encL_spec xs hd

theorem thenMap_ok (r : Except Err (Val × Bytes)) (f : Val → Except Err Val) (w : Val) (rest : Bytes)
    (h : thenMap r f = .ok (w, rest)) : ∃ v, r = .ok (v, rest) ∧ f v = .ok w := by
  revert h
  fun_cases thenMap r f <;> intro h <;> cases h
  exact ⟨_, rfl, ‹_›⟩

theorem dumpableL_map {α} (f : α → Val) (hf : ∀ x, dumpable (f x) = true) (l : List α) :
    dumpableL (l.map f) = true := by
  induction l with
  | nil => rfl
  | cons x xs ih => simp [dumpableL, hf, ih]

theorem decodeText_dumpable (v w : Val) (h : decodeText v = .ok w) : dumpable w = true := by
  revert h
  fun_cases decodeText v <;> intro h <;> cases h
  rfl

theorem sliceOf_dumpable (v w : Val) (hv : dumpable v = true) (h : sliceOf v = .ok w) : dumpable w = true := by
  revert hv h
  unfold sliceOf
  fun_cases unpack3 v <;> intro hv h <;> cases h
  · simpa [dumpable, dumpableL, Bool.and_assoc] using hv
  · rfl
  · rfl

theorem fsetOf_dumpable (v w : Val) (hv : dumpable v = true) (h : fsetOf v = .ok w) : dumpable w = true := by
  revert hv h
  unfold fsetOf
  fun_cases iterate v <;> intro hv h <;> cases h
  · exact hv
  · exact hv
  · exact dumpableL_map _ (fun _ => rfl) _
  · exact dumpableL_map _ (fun _ => rfl) _

/-- `r` is what a step that has consumed something leaves of `bs` -/
def Rem (bs r : Bytes) : Prop := r.length < bs.length ∧ r <:+ bs

theorem Rem.of_suffix (t : Nat) {rest r : Bytes} (h : r <:+ rest) : Rem (t :: rest) r :=
  ⟨Nat.lt_succ_of_le h.length_le, h.trans (List.suffix_cons t rest)⟩

/-- The values `_load` on `bs` returns without loading anything nested: a constant, the small integer a tag byte stands for,
a window of `bs` as bytes, or the integer such a window spells. -/
inductive Leaf (bs : Bytes) : Val → Prop
  | none : Leaf bs .none
  | notImpl : Leaf bs .notImpl
  | ellipsis : Leaf bs .ellipsis
  | bool (b : Bool) : Leaf bs (.bool b)
  | unit : Leaf bs (.tuple [])
  | float (x : Nat) : Leaf bs (.float x)
  | complex (x y : Nat) : Leaf bs (.complex x y)
  | imm (t : Nat) (ht : t ∈ bs) : Leaf bs (.int ((t : Int) - Gen.immBase))
  | bytes (i k : Nat) : Leaf bs (.bytes ((bs.drop i).take k))
  | int (i k : Nat) (n : Int) (hn : parseInt Gen.intMaxStrDigits ((bs.drop i).take k) = some n) : Leaf bs (.int n)

theorem Leaf.dumpable {bs : Bytes} {v : Val} (h : Leaf bs v) : dumpable v = true := by
  cases h <;> rfl

/-- The shapes of one `_load` step on `bs`: an error that is not the model's "out of fuel"; a value without components
and what remains; a post-processing of the next value; a tuple of the next values.  What remains, and what the next
values are read from, is a proper suffix of `bs`: the tag byte is gone. -/
inductive DecStep (fuel : Nat) (bs : Bytes) : Except Err (Val × Bytes) → Prop
  | fail (e : Err) (he : e ≠ .recursionError) : DecStep fuel bs (.error e)
  | leaf (v : Val) (r : Bytes) (hv : Leaf bs v) (hr : Rem bs r) : DecStep fuel bs (.ok (v, r))
  | post (r : Bytes) (hr : Rem bs r) (f : Val → Except Err Val)
      (hf : f = decodeText ∨ f = sliceOf ∨ f = fsetOf) : DecStep fuel bs (thenMap (dec fuel r) f)
  | tup (n : Nat) (r : Bytes) (hr : Rem bs r) : DecStep fuel bs (decTup fuel n r)

theorem decIntAt_cases (raw r : Bytes) : decIntAt raw r = .error .valueError ∨
    ∃ n, parseInt Gen.intMaxStrDigits raw = some n ∧ decIntAt raw r = .ok (.int n, r) := by
  unfold decIntAt decInt
  cases parseInt Gen.intMaxStrDigits raw
  · exact .inl rfl
  · exact .inr ⟨_, rfl, rfl⟩

theorem DecStep.decIntAt (fuel : Nat) {bs : Bytes} (i k : Nat) (r : Bytes) (hr : Rem bs r) :
    DecStep fuel bs (decIntAt ((bs.drop i).take k) r) := by
  rcases decIntAt_cases ((bs.drop i).take k) r with h | ⟨n, hn, h⟩ <;> rw [h]
  · exact .fail _ (by decide)
  · exact .leaf _ _ (.int i k n hn) hr

theorem dec_step (fuel : Nat) (bs : Bytes) : DecStep fuel bs (dec (fuel+1) bs) := by
  cases bs with
  | nil => rw [dec]; exact .fail _ (by decide)
  | cons t rest =>
    have here : Rem (t :: rest) rest := .of_suffix t (List.suffix_refl _)
    rw [dec]
    cases classify t with
    | none => exact .fail _ (by decide)
    | some tag =>
      cases tag <;> simp only
      case imm => exact .leaf _ _ (.imm t List.mem_cons_self) here
      case none | notImpl | ellipsis | true_ | false_ | emptyTuple => exact .leaf _ _ (by constructor) here
      case emptyStr => exact .leaf _ _ (.bytes 0 0) here
      case str1 | str2 | str3 | str4 => exact .leaf _ _ (.bytes 1 _) (.of_suffix t (List.drop_suffix _ rest))
      case float | complex =>
        split
        · exact .fail _ (by decide)
        · exact .leaf _ _ (by constructor) (.of_suffix t (List.drop_suffix _ rest))
      case strL1 =>
        cases rest with
        | nil => exact .fail _ (by decide)
        | cons l r => exact .leaf _ _ (.bytes 2 l) (.of_suffix t ((List.drop_suffix l r).trans (List.suffix_cons l r)))
      case strL4 =>
        split
        · exact .fail _ (by decide)
        · exact .leaf _ _ (.bytes 5 _) (.of_suffix t ((List.drop_suffix _ _).trans (List.drop_suffix 4 rest)))
      case unicode => exact .post _ here _ (.inl rfl)
      case slice => exact .post _ here _ (.inr (.inl rfl))
      case fset => exact .post _ here _ (.inr (.inr rfl))
      case tup1 | tup2 | tup3 | tup4 => exact .tup _ _ here
      case tupL1 =>
        split
        · exact .fail _ (by decide)
        · exact .tup _ _ (.of_suffix t (List.tail_suffix rest))
      case tupL4 =>
        split
        · exact .fail _ (by decide)
        · exact .tup _ _ (.of_suffix t (List.drop_suffix 4 rest))
      case intL1 =>
        cases rest with
        | nil => exact .fail _ (by decide)
        | cons l r => exact .decIntAt _ 2 l _ (.of_suffix t ((List.drop_suffix l r).trans (List.suffix_cons l r)))
      case intL4 =>
        split
        · exact .fail _ (by decide)
        · exact .decIntAt _ 5 _ _ (.of_suffix t ((List.drop_suffix _ _).trans (List.drop_suffix 4 rest)))

theorem decN_succ_eq_ok {fuel n : Nat} {bs r : Bytes} {xs : List Val} (h : decN (fuel+1) (n+1) bs = .ok (xs, r)) :
    ∃ x r1 xs', dec fuel bs = .ok (x, r1) ∧ decN (fuel+1) n r1 = .ok (xs', r) ∧ xs = x :: xs' := by
  rw [decN] at h
  split at h
  · cases h
  · split at h
    · cases h
    · cases h; exact ⟨_, _, _, ‹_›, ‹_›, rfl⟩

theorem decTup_eq_ok {fuel n : Nat} {bs r : Bytes} {v : Val} (h : decTup fuel n bs = .ok (v, r)) :
    ∃ xs, decN fuel n bs = .ok (xs, r) ∧ v = .tuple xs := by
  rw [decTup] at h
  split at h
  · cases h
  · cases h; exact ⟨_, ‹_›, rfl⟩

/-- Whatever `_load` returns is a value `dumpable` accepts (the decoder builds nothing else), and it has consumed at
least one byte; loading `n` items never yields more bytes. -/
theorem dec_ok_both : ∀ fuel,
    (∀ bs v r, dec fuel bs = .ok (v, r) → dumpable v = true ∧ r.length < bs.length) ∧
    (∀ n bs xs r, decN fuel n bs = .ok (xs, r) → dumpableL xs = true ∧ r.length ≤ bs.length) := by
  intro fuel
  induction fuel with
  | zero =>
    refine ⟨fun bs v r h => (by rw [dec] at h; cases h), fun n bs xs r h => ?_⟩
    cases n with
    | zero => rw [decN] at h; cases h; exact ⟨rfl, Nat.le_refl _⟩
    | succ n => rw [decN] at h; cases h
  | succ fuel ih =>
    obtain ⟨ihD, ihN⟩ := ih
    constructor
    · intro bs v r h
      have hs := dec_step fuel bs
      generalize dec (fuel+1) bs = x at hs h
      cases hs with
      | fail => cases h
      | leaf _ _ hv hr => cases h; exact ⟨hv.dumpable, hr.1⟩
      | post r0 hr f hf =>
        obtain ⟨v0, hv0, hfv⟩ := thenMap_ok _ _ v r h
        obtain ⟨hd0, hl⟩ := ihD _ _ _ hv0
        refine ⟨?_, Nat.lt_trans hl hr.1⟩
        rcases hf with rfl | rfl | rfl
        · exact decodeText_dumpable v0 v hfv
        · exact sliceOf_dumpable v0 v hd0 hfv
        · exact fsetOf_dumpable v0 v hd0 hfv
      | tup n r' hr =>
        obtain ⟨xs, hxs, rfl⟩ := decTup_eq_ok h
        obtain ⟨hd, hl⟩ := ihN _ _ _ _ hxs
        exact ⟨hd, Nat.lt_of_le_of_lt hl hr.1⟩
    · intro n
      induction n with
      | zero => intro bs xs r h; rw [decN] at h; cases h; exact ⟨rfl, Nat.le_refl _⟩
      | succ n ihn =>
        intro bs xs r h
        obtain ⟨x, r1, xs', hx, hxs, rfl⟩ := decN_succ_eq_ok h
        obtain ⟨hd, hl⟩ := ihD _ _ _ hx
        obtain ⟨hdL, hlL⟩ := ihn _ _ _ hxs
        exact ⟨by simp [dumpableL, hd, hdL], by omega⟩

theorem dec_dumpable (fuel : Nat) (bs : Bytes) (v : Val) (r : Bytes) (h : dec fuel bs = .ok (v, r)) :
    dumpable v = true := ((dec_ok_both fuel).1 bs v r h).1

theorem dec_consumes (fuel : Nat) (bs : Bytes) (v : Val) (r : Bytes) (h : dec fuel bs = .ok (v, r)) :
    r.length < bs.length := ((dec_ok_both fuel).1 bs v r h).2

end Rpyc.Brine
