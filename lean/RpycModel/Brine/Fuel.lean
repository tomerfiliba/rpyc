import RpycModel.Brine.Closed
/-
The fuel `load` gives the decoder is adequate for every byte string: `recursionError` (the model's
"out of fuel") is never the outcome.  So the model's `load` is a total function that fails only where
the transcription of `_load` fails.
-/
namespace Rpyc.Brine
open Rpyc

theorem decodeText_ne_rec (v : Val) : decodeText v ≠ .error .recursionError := by
  fun_cases decodeText v <;> simp

theorem sliceOf_ne_rec (v : Val) : sliceOf v ≠ .error .recursionError := by
  unfold sliceOf
  fun_cases unpack3 v <;> simp

theorem fsetOf_ne_rec (v : Val) : fsetOf v ≠ .error .recursionError := by
  unfold fsetOf
  fun_cases iterate v <;> simp

theorem thenMap_ne_rec (r : Except Err (Val × Bytes)) (f : Val → Except Err Val)
    (hr : r ≠ .error .recursionError) (hf : ∀ v, f v ≠ .error .recursionError) :
    thenMap r f ≠ .error .recursionError := by
  fun_cases thenMap r f
  case case1 => exact hr
  case case2 hfv =>
    intro he
    cases he
    exact hf _ hfv
  case case3 => nofun

theorem dec_fuel_ok_both : ∀ fuel,
    (∀ bs, 2 * bs.length + 2 ≤ fuel → dec fuel bs ≠ .error .recursionError) ∧
    (∀ n bs, 2 * bs.length + 3 ≤ fuel → decN fuel n bs ≠ .error .recursionError) := by
  -- A step spends one unit and hands on at most `rest`, one byte shorter than its input, so the bound drops by two:
  -- enough for the inner `dec` and, one unit to spare, for `decN`.  Inside `decN` every item after the first starts
  -- from what `dec` left, which is strictly shorter (`dec_consumes`), so the same fuel goes on being enough.
  intro fuel
  induction fuel with
  | zero => exact ⟨fun bs h => by omega, fun n bs h => by omega⟩
  | succ fuel ih =>
    obtain ⟨ihD, ihN⟩ := ih
    constructor
    · intro bs hb
      have hs := dec_step fuel bs
      generalize dec (fuel+1) bs = x at hs
      cases hs with
      | fail e he => simpa using he
      | leaf => simp
      | post r hr f hf =>
        refine thenMap_ne_rec _ _ (ihD r (by have := hr.1; omega)) ?_
        rcases hf with rfl | rfl | rfl
        · exact decodeText_ne_rec
        · exact sliceOf_ne_rec
        · exact fsetOf_ne_rec
      | tup n r hr =>
        intro he
        rw [decTup] at he
        split at he
        · cases he; exact ihN n r (by have := hr.1; omega) ‹_›
        · cases he
    · intro n
      induction n with
      | zero => intro bs _; rw [decN]; simp
      | succ n ihn =>
        intro bs hb he
        rw [decN] at he
        split at he
        · cases he; exact ihD bs (by omega) ‹_›
        · rename_i x r1 hx
          have hlt := dec_consumes fuel bs x r1 hx
          split at he
          · cases he; exact ihn r1 (by omega) ‹_›
          · cases he

theorem load_never_out_of_fuel (bs : Bytes) : load bs ≠ .error .recursionError :=
  fun h => (dec_fuel_ok_both _).1 bs (Nat.le_refl _) (load_eq_error.1 h)

end Rpyc.Brine
