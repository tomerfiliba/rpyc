import RpycModel.Brine.Lemmas
/-
The brine round trip: `dec (enc v ++ rest) = (v, rest)` for every well-formed value, by mutual
structural induction over values and value lists — unbounded sizes and nesting.
-/
namespace Rpyc.Brine
open Rpyc

/-- `_dump_str` and `_load_unicode` use compatible error handlers: whatever the encoder lets through,
the decoder accepts.  (A generated fact: breaks if only the dump side is given `surrogatepass`.) -/
theorem codec_modes : Gen.dumpStrSurrogatePass = true → Gen.loadStrSurrogatePass = true := by decide

/-- `_dump_str` passes `surrogatepass` (generated fact; false on a tree where lone surrogates make
`dump` raise although `dumpable` says yes). -/
theorem dump_surrogatepass : Gen.dumpStrSurrogatePass = true := by decide

mutual
/-- fuel that `dec` needs for the encoding of a value.  Every `dec` spends one unit on its tag; text, frozenset and
slice decode the value under the tag with what is left; a tuple's items are decoded by `decN`, whose call of `dec`
spends one more (`.tuple`: 2 + …; `.fset` and `.slice` are a tag over a tuple: 3 + …).  `decN` hands its own fuel on
from item to item, hence the `max` in `needL` and the `needL xs + 1` of `decN_encL`. -/
def need : Val → Nat
  | .str _ => 2
  | .tuple xs => 2 + needL xs
  | .fset xs => 3 + needL xs
  | .slice a b c => 3 + max (need a) (max (need b) (need c))
  | _ => 1
def needL : List Val → Nat
  | [] => 0
  | x :: xs => max (need x) (needL xs)
end

theorem need_pos (v : Val) : 1 ≤ need v := by
  fun_cases need v <;> omega

theorem wfL_cons (x : Val) (xs : List Val) : Val.wfL (x :: xs) = (x.wf && Val.wfL xs) := by
  simp [Val.wfL]

theorem dec_encBytes (b e : Bytes) (h : encBytes b = .ok e) (fuel : Nat) (tail : Bytes) :
    dec (fuel+1) (e ++ tail) = .ok (.bytes b, tail) := by
  revert h
  fun_cases encBytes b <;> intro h <;> cases h
  case case1 h0 => rw [List.eq_nil_of_length_eq_zero h0]; exact dec_tag_emptyStr fuel tail
  case case2 h1 => simp [dec_tag_str1, List.take_left' h1, List.drop_left' h1]
  case case3 h2 => simp [dec_tag_str2, List.take_left' h2, List.drop_left' h2]
  case case4 h3 => simp [dec_tag_str3, List.take_left' h3, List.drop_left' h3]
  case case5 h4 => simp [dec_tag_str4, List.take_left' h4, List.drop_left' h4]
  case case6 => simp [dec_tag_strL1, decStrL1]
  case case7 hlt =>
    simp only [List.cons_append, List.append_assoc, dec_tag_strL4]
    rw [if_neg (by simp), take_beN_append, drop_beN_append, unbe_beN 4 _ hlt]
    simp

theorem dec_encInt (i : Int) (e : Bytes) (h : encInt i = .ok e) (fuel : Nat) (tail : Bytes) :
    dec (fuel+1) (e ++ tail) = .ok (.int i, tail) := by
  revert h
  fun_cases encInt i <;> intro h <;> cases h
  case case1 himm => exact dec_imm fuel tail i himm
  case case3 _ hlim _ =>
    have hp := parseInt_intRepr Gen.intMaxStrDigits i (by omega)
    simp [dec_tag_intL1, decIntL1, decIntAt, decInt, hp]
  case case4 _ hlim _ hlt =>
    have hp := parseInt_intRepr Gen.intMaxStrDigits i (by omega)
    simp only [List.cons_append, List.append_assoc, dec_tag_intL4]
    rw [if_neg (by simp), take_beN_append, drop_beN_append, unbe_beN 4 _ hlt]
    simp [decIntAt, decInt, hp]

theorem dec_tupHeader (n : Nat) (hd : Bytes) (h : tupHeader n = .ok hd) (fuel : Nat) (tail : Bytes) :
    dec (fuel+1) (hd ++ tail) = decTup fuel n tail := by
  revert h
  fun_cases tupHeader n <;> intro h <;> cases h
  case case1 h0 => subst h0; simp [dec_tag_emptyTuple, decTup, decN]
  case case2 h1 => subst h1; exact dec_tag_tup1 fuel tail
  case case3 h2 => subst h2; exact dec_tag_tup2 fuel tail
  case case4 h3 => subst h3; exact dec_tag_tup3 fuel tail
  case case5 h4 => subst h4; exact dec_tag_tup4 fuel tail
  case case6 => simp [dec_tag_tupL1]
  case case7 hlt =>
    simp only [List.cons_append, dec_tag_tupL4]
    rw [if_neg (by simp), take_beN_append, drop_beN_append, unbe_beN 4 _ hlt]

theorem dec_encStr (s : List Nat) (e : Bytes) (hwf : ∀ c ∈ s, c < 0x110000) (h : encStr s = .ok e)
    (fuel : Nat) (tail : Bytes) : dec (fuel+2) (e ++ tail) = .ok (.str s, tail) := by
  obtain ⟨u, eb, hu, heb, rfl⟩ := encStr_eq_ok h
  have hdec := utf8Dec_enc _ _ codec_modes s u hwf hu
  simp [dec_tag_unicode, dec_encBytes u eb heb fuel tail, thenMap, decodeText, hdec]

theorem dec_tupItems {xs : List Val} {hd body tail : Bytes} {fuel : Nat} (hhd : tupHeader xs.length = .ok hd)
    (hN : decN (fuel+1) xs.length (body ++ tail) = .ok (xs, tail)) :
    dec (fuel+2) (hd ++ (body ++ tail)) = .ok (.tuple xs, tail) := by
  rw [dec_tupHeader xs.length hd hhd, decTup, hN]

mutual
theorem dec_enc : ∀ (v : Val) (e : Bytes), v.wf = true → enc v = .ok e →
    ∀ (fuel : Nat) (tail : Bytes), need v ≤ fuel → dec fuel (e ++ tail) = .ok (v, tail)
  | v, _, _, _, 0, _, hf => absurd (need_pos v) (by omega)
  | .none, _, _, rfl, f+1, tail, _ => dec_tag_none f tail
  | .notImpl, _, _, rfl, f+1, tail, _ => dec_tag_notImpl f tail
  | .ellipsis, _, _, rfl, f+1, tail, _ => dec_tag_ellipsis f tail
  | .bool true, _, _, rfl, f+1, tail, _ => dec_tag_true f tail
  | .bool false, _, _, rfl, f+1, tail, _ => dec_tag_false f tail
  | .int i, e, _, h, f+1, tail, _ => dec_encInt i e h f tail
  | .float b, _, hw, rfl, f+1, tail, _ => by
    have hb : b < 256 ^ 8 := by simpa [Val.wf] using hw
    simp only [List.cons_append, dec_tag_float]
    rw [if_neg (by simp), take_beN_append, drop_beN_append, unbe_beN 8 b hb]
  | .complex r i, _, hw, rfl, f+1, tail, _ => by
    have hb : r < 256 ^ 8 ∧ i < 256 ^ 8 := by simpa [Val.wf] using hw
    have hd16 : (beN 8 r ++ (beN 8 i ++ tail)).drop 16 = tail := by
      rw [← List.drop_drop (i := 8) (j := 8), drop_beN_append, drop_beN_append]
    simp only [List.cons_append, List.append_assoc, dec_tag_complex]
    rw [if_neg (by simp; omega), take_beN_append, drop_beN_append, take_beN_append, hd16,
      unbe_beN 8 r hb.1, unbe_beN 8 i hb.2]
  | .bytes b, e, _, h, f+1, tail, _ => dec_encBytes b e h f tail
  | .str s, e, hw, h, fuel, tail, hf => by
    obtain ⟨f, rfl⟩ := Nat.exists_eq_add_of_le' (m := 2) hf
    exact dec_encStr s e (by simpa [Val.wf] using hw) h f tail
  | .tuple xs, e, hw, h, fuel, tail, hf => by
    obtain ⟨hd, body, hhd, hbody, rfl⟩ := enc_tuple_eq_ok h
    rw [need] at hf
    obtain ⟨f, rfl⟩ : ∃ f, fuel = f + 2 := ⟨fuel - 2, by omega⟩
    rw [List.append_assoc]
    exact dec_tupItems hhd (decN_encL xs body hw hbody (f+1) tail (by omega))
  | .fset xs, e, hw, h, fuel, tail, hf => by
    obtain ⟨hd, body, hhd, hbody, rfl⟩ := enc_fset_eq_ok h
    rw [need] at hf
    obtain ⟨f, rfl⟩ : ∃ f, fuel = f + 3 := ⟨fuel - 3, by omega⟩
    rw [List.cons_append, List.append_assoc, dec_tag_fset,
      dec_tupItems hhd (decN_encL xs body hw hbody (f+1) tail (by omega))]
    rfl
  | .slice a b c, e, hw, h, fuel, tail, hf => by
    obtain ⟨ea, eb, ec, hea, heb, hec, rfl⟩ := enc_slice_eq_ok h
    obtain ⟨f, rfl⟩ : ∃ f, fuel = f + 3 := ⟨fuel - 3, by simp [need] at hf; omega⟩
    have hw' : (a.wf = true ∧ b.wf = true) ∧ c.wf = true := by simpa [Val.wf] using hw
    have hfa : need a ≤ f ∧ need b ≤ f ∧ need c ≤ f := by
      rw [need, Nat.add_comm] at hf
      simpa [Nat.max_le] using Nat.le_of_add_le_add_right hf
    have ha := dec_enc a ea hw'.1.1 hea f (eb ++ (ec ++ tail)) hfa.1
    have hb := dec_enc b eb hw'.1.2 heb f (ec ++ tail) hfa.2.1
    have hc := dec_enc c ec hw'.2 hec f tail hfa.2.2
    simp only [List.cons_append, List.append_assoc, dec_tag_slice, dec_tag_tup3]
    simp [decTup, decN, ha, hb, hc, thenMap, sliceOf, unpack3]
  | .other _, _, _, h, _+1, _, _ => by cases h
theorem decN_encL : ∀ (xs : List Val) (e : Bytes), Val.wfL xs = true → encL xs = .ok e →
    ∀ (fuel : Nat) (tail : Bytes), needL xs + 1 ≤ fuel → decN fuel xs.length (e ++ tail) = .ok (xs, tail)
  | [], e, _, h, fuel, tail, _ => by
    cases h; simp [decN]
  | x :: xs, e, hw, h, fuel, tail, hf => by
    obtain ⟨ex, exs, hex, hexs, rfl⟩ := encL_cons_eq_ok h
    obtain ⟨f, rfl⟩ : ∃ f, fuel = f + 1 := ⟨fuel - 1, by omega⟩
    have hw' : x.wf = true ∧ Val.wfL xs = true := by simpa [wfL_cons] using hw
    have hfx : need x ≤ f ∧ needL xs + 1 ≤ f + 1 := by
      rw [needL] at hf
      simpa [Nat.max_le] using Nat.le_of_add_le_add_right hf
    have hx := dec_enc x ex hw'.1 hex f (exs ++ tail) hfx.1
    have hxs := decN_encL xs exs hw'.2 hexs (f+1) tail hfx.2
    simp [decN, List.append_assoc, hx, hxs]
end

end Rpyc.Brine
