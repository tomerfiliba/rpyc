import RpycModel.Brine.Model
/-
What one step of `dec` does on each tag, what a successful encoding consists of (`*_eq_ok`), and `load` in terms of
`dec`.
The `dec_tag_*` lemmas are where the generated tag table is used: each is one unfolding of `dec` and the
evaluation of `classify` on the concrete tag, which needs the tag to be outside the immediate-int window and
different from every tag tested before it, so a collision introduced in rpyc/core/brine.py breaks the lemma
of the shadowed tag by name.
-/
namespace Rpyc.Brine
open Rpyc

section tags
variable (fuel : Nat) (rest : Bytes)

theorem dec_tag_none : dec (fuel+1) (Gen.tagNone :: rest) = .ok (.none, rest) := by rw [dec]; rfl
theorem dec_tag_notImpl : dec (fuel+1) (Gen.tagNotImplemented :: rest) = .ok (.notImpl, rest) := by rw [dec]; rfl
theorem dec_tag_ellipsis : dec (fuel+1) (Gen.tagEllipsis :: rest) = .ok (.ellipsis, rest) := by rw [dec]; rfl
theorem dec_tag_true : dec (fuel+1) (Gen.tagTrue :: rest) = .ok (.bool true, rest) := by rw [dec]; rfl
theorem dec_tag_false : dec (fuel+1) (Gen.tagFalse :: rest) = .ok (.bool false, rest) := by rw [dec]; rfl
theorem dec_tag_emptyTuple : dec (fuel+1) (Gen.tagEmptyTuple :: rest) = .ok (.tuple [], rest) := by rw [dec]; rfl
theorem dec_tag_emptyStr : dec (fuel+1) (Gen.tagEmptyStr :: rest) = .ok (.bytes [], rest) := by rw [dec]; rfl
theorem dec_tag_float : dec (fuel+1) (Gen.tagFloat :: rest) =
    if rest.length < 8 then .error .structError
    else .ok (.float (unbe (rest.take 8)), rest.drop 8) := by rw [dec]; rfl
theorem dec_tag_complex : dec (fuel+1) (Gen.tagComplex :: rest) =
    if rest.length < 16 then .error .structError
    else .ok (.complex (unbe (rest.take 8)) (unbe ((rest.drop 8).take 8)), rest.drop 16) := by rw [dec]; rfl

theorem dec_tag_str1 : dec (fuel+1) (Gen.tagStr1 :: rest) = .ok (.bytes (rest.take 1), rest.drop 1) := by rw [dec]; rfl
theorem dec_tag_str2 : dec (fuel+1) (Gen.tagStr2 :: rest) = .ok (.bytes (rest.take 2), rest.drop 2) := by rw [dec]; rfl
theorem dec_tag_str3 : dec (fuel+1) (Gen.tagStr3 :: rest) = .ok (.bytes (rest.take 3), rest.drop 3) := by rw [dec]; rfl
theorem dec_tag_str4 : dec (fuel+1) (Gen.tagStr4 :: rest) = .ok (.bytes (rest.take 4), rest.drop 4) := by rw [dec]; rfl
theorem dec_tag_strL1 : dec (fuel+1) (Gen.tagStrL1 :: rest) = decStrL1 rest := by rw [dec]; rfl
theorem dec_tag_strL4 : dec (fuel+1) (Gen.tagStrL4 :: rest) =
    if rest.length < 4 then .error .structError
    else .ok (.bytes ((rest.drop 4).take (unbe (rest.take 4))), (rest.drop 4).drop (unbe (rest.take 4))) := by rw [dec]; rfl
theorem dec_tag_unicode : dec (fuel+1) (Gen.tagUnicode :: rest) = thenMap (dec fuel rest) decodeText := by rw [dec]; rfl
theorem dec_tag_tup1 : dec (fuel+1) (Gen.tagTup1 :: rest) = decTup fuel 1 rest := by rw [dec]; rfl
theorem dec_tag_tup2 : dec (fuel+1) (Gen.tagTup2 :: rest) = decTup fuel 2 rest := by rw [dec]; rfl
theorem dec_tag_tup3 : dec (fuel+1) (Gen.tagTup3 :: rest) = decTup fuel 3 rest := by rw [dec]; rfl
theorem dec_tag_tup4 : dec (fuel+1) (Gen.tagTup4 :: rest) = decTup fuel 4 rest := by rw [dec]; rfl
theorem dec_tag_tupL1 : dec (fuel+1) (Gen.tagTupL1 :: rest) =
    if rest.length < 1 then .error .structError else decTup fuel (rest.headD 0) rest.tail := by rw [dec]; rfl
theorem dec_tag_tupL4 : dec (fuel+1) (Gen.tagTupL4 :: rest) =
    if rest.length < 4 then .error .structError
    else decTup fuel (unbe (rest.take 4)) (rest.drop 4) := by rw [dec]; rfl
theorem dec_tag_slice : dec (fuel+1) (Gen.tagSlice :: rest) = thenMap (dec fuel rest) sliceOf := by rw [dec]; rfl
theorem dec_tag_fset : dec (fuel+1) (Gen.tagFset :: rest) = thenMap (dec fuel rest) fsetOf := by rw [dec]; rfl
theorem dec_tag_intL1 : dec (fuel+1) (Gen.tagIntL1 :: rest) = decIntL1 rest := by rw [dec]; rfl
theorem dec_tag_intL4 : dec (fuel+1) (Gen.tagIntL4 :: rest) =
    if rest.length < 4 then .error .structError
    else decIntAt ((rest.drop 4).take (unbe (rest.take 4))) ((rest.drop 4).drop (unbe (rest.take 4))) := by rw [dec]; rfl

theorem dec_imm (i : Int) (h : Gen.immLo ≤ i ∧ i < Gen.immHi) :
    dec (fuel+1) ((i + Gen.immBase).toNat :: rest) = .ok (.int i, rest) := by
  have h0 : 0 ≤ i + Gen.immBase := by simp [Gen.immLo, Gen.immBase] at *; omega
  have h1 : ((i + Gen.immBase).toNat : Int) = i + Gen.immBase := Int.toNat_of_nonneg h0
  have h2 : isImm (i + Gen.immBase).toNat = true := by simpa [isImm, h1] using h
  simp only [dec, classify, h2, if_true, h1, Int.add_sub_cancel]
end tags

theorem enc_tuple_eq_ok {xs : List Val} {e : Bytes} (h : enc (.tuple xs) = .ok e) :
    ∃ hd body, tupHeader xs.length = .ok hd ∧ encL xs = .ok body ∧ e = hd ++ body := by
  rw [enc] at h
  split at h
  · cases h
  · split at h
    · cases h
    · cases h; exact ⟨_, _, ‹_›, ‹_›, rfl⟩

theorem enc_fset_eq_ok {xs : List Val} {e : Bytes} (h : enc (.fset xs) = .ok e) :
    ∃ hd body, tupHeader xs.length = .ok hd ∧ encL xs = .ok body ∧ e = Gen.tagFset :: (hd ++ body) := by
  rw [enc] at h
  split at h
  · cases h
  · split at h
    · cases h
    · cases h; exact ⟨_, _, ‹_›, ‹_›, rfl⟩

theorem enc_slice_eq_ok {a b c : Val} {e : Bytes} (h : enc (.slice a b c) = .ok e) :
    ∃ ea eb ec, enc a = .ok ea ∧ enc b = .ok eb ∧ enc c = .ok ec ∧
      e = Gen.tagSlice :: Gen.tagTup3 :: (ea ++ (eb ++ ec)) := by
  rw [enc] at h
  split at h
  · cases h
  · split at h
    · cases h
    · split at h
      · cases h
      · cases h; exact ⟨_, _, _, ‹_›, ‹_›, ‹_›, rfl⟩

theorem encL_cons_eq_ok {x : Val} {xs : List Val} {e : Bytes} (h : encL (x :: xs) = .ok e) :
    ∃ ex exs, enc x = .ok ex ∧ encL xs = .ok exs ∧ e = ex ++ exs := by
  rw [encL] at h
  split at h
  · cases h
  · split at h
    · cases h
    · cases h; exact ⟨_, _, ‹_›, ‹_›, rfl⟩

theorem encStr_eq_ok {s : List Nat} {e : Bytes} (h : encStr s = .ok e) :
    ∃ u eb, utf8Enc Gen.dumpStrSurrogatePass s = some u ∧ encBytes u = .ok eb ∧ e = Gen.tagUnicode :: eb := by
  revert h
  fun_cases encStr s <;> intro h <;> cases h
  exact ⟨_, _, ‹_›, ‹_›, rfl⟩

theorem load_eq_ok {bs : Bytes} {v : Val} : load bs = .ok v ↔ ∃ r, dec (2 * bs.length + 2) bs = .ok (v, r) := by
  unfold load
  split <;> simp [*]

theorem load_eq_error {bs : Bytes} {e : Err} : load bs = .error e ↔ dec (2 * bs.length + 2) bs = .error e := by
  unfold load
  split <;> simp [*]

end Rpyc.Brine
