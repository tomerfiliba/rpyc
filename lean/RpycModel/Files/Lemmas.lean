import RpycModel.Files.Model
/-
L9 Files: the chunk loop copies exactly; `upload` is `prune`; `uploadOver` is `prune` followed by `overlay`
(`uploadOver_eq_overlay`), from which the facts about histories follow as facts about `overlay`; `download` is `upload`.
-/
namespace Rpyc.Files
open Rpyc

theorem copyLoop_spec (chunk : Nat) (hc : 1 ≤ chunk) :
    ∀ (f : Nat) (src dst : Bytes), src.length < f → copyLoop chunk f src dst = dst ++ src := by
  intro f src dst
  fun_induction copyLoop chunk f src dst with
  | case1 => intro h; omega
  | case2 f src dst he =>
    -- nothing left to take: as `chunk ≥ 1`, `src` is empty
    rcases (by simpa [List.take_eq_nil_iff] using he : chunk = 0 ∨ src = []) with h0 | rfl
    · omega
    · simp
  | case3 f src dst he ih =>
    -- a non-empty chunk was taken: the rest is shorter, and `take ++ drop` is `src`
    have hne : chunk ≠ 0 ∧ src ≠ [] := by simpa [List.take_eq_nil_iff] using he
    have := List.length_pos_iff.mpr hne.2
    intro h
    rw [ih (by rw [List.length_drop]; omega), List.append_assoc, List.take_append_drop]

theorem copyFile_eq (chunk : Nat) (hc : 1 ≤ chunk) (b : Bytes) : copyFile chunk b = b := by
  rw [copyFile, copyLoop_spec chunk hc _ _ _ (Nat.lt_succ_self _), List.nil_append]

/-- what `upload` reports for a pruned source -/
def outcome (ignoreInvalid : Bool) : Option Tree → Except FErr (Option Tree)
  | some t => .ok (some t)
  | none => if ignoreInvalid then .ok none else .error .valueError

theorem outcome_ok {ii : Bool} {o r : Option Tree} (h : outcome ii o = .ok r) : r = o := by
  cases o with
  | some t => exact (Except.ok.inj h).symm
  | none =>
    cases ii with
    | true => exact (Except.ok.inj h).symm
    | false => cases h

mutual
theorem upload_eq (chunk : Nat) (hc : 1 ≤ chunk) (f : Filter) (ii : Bool) :
    ∀ t : Tree, upload chunk f ii t = outcome ii (prune f t)
  | .dir es => by
    simp only [upload, prune, outcome]
    rw [uploadDir_eq chunk hc f es]
  | .file b => by
    simp only [upload, prune, outcome, copyFile_eq chunk hc]
  | .other => by
    simp only [upload, prune, outcome]
theorem uploadDir_eq (chunk : Nat) (hc : 1 ≤ chunk) (f : Filter) :
    ∀ es : Entries, uploadDir chunk f es = .ok (pruneEntries f es)
  | .nil => by simp only [uploadDir, pruneEntries]
  | .cons n t rest => by
    simp only [uploadDir, pruneEntries]
    split
    · rw [upload_eq chunk hc f true t, uploadDir_eq chunk hc f rest]
      cases prune f t with
      | none => simp [outcome]
      | some t' => simp [outcome]
    · exact uploadDir_eq chunk hc f rest
end

mutual
theorem prune_none_regular : ∀ t : Tree, regular t = true → prune none t = some t
  | .dir es, h => by
    simp only [regular] at h
    simp only [prune]
    rw [pruneEntries_none_regular es h]
  | .file b, _ => by simp only [prune]
  | .other, h => by simp [regular] at h
theorem pruneEntries_none_regular : ∀ es : Entries, regularEntries es = true → pruneEntries none es = es
  | .nil, _ => by simp only [pruneEntries]
  | .cons n t rest, h => by
    simp only [regularEntries, Bool.and_eq_true] at h
    simp only [pruneEntries, passes, if_true]
    rw [prune_none_regular t h.1, pruneEntries_none_regular rest h.2]
end

def itemsOpt (pre : List Name) : Option Tree → List Item
  | some t => items pre t
  | none => []

mutual
theorem items_path : ∀ (t : Tree) (pre : List Name), ∀ i ∈ items pre t, ∃ suf, i.path = pre ++ suf
  | .dir es, pre, i, hi => by
    simp only [items, List.mem_cons] at hi
    rcases hi with rfl | hi
    · exact ⟨[], by simp [Item.path]⟩
    · exact itemsOf_path es pre i hi
  | .file b, pre, i, hi => by
    simp only [items, List.mem_singleton] at hi
    subst hi; exact ⟨[], by simp [Item.path]⟩
  | .other, pre, i, hi => by
    simp only [items, List.mem_singleton] at hi
    subst hi; exact ⟨[], by simp [Item.path]⟩
theorem itemsOf_path : ∀ (es : Entries) (pre : List Name), ∀ i ∈ itemsOf pre es, ∃ suf, i.path = pre ++ suf
  | .nil, pre, i, hi => by simp [itemsOf] at hi
  | .cons n t rest, pre, i, hi => by
    simp only [itemsOf, List.mem_append] at hi
    rcases hi with hi | hi
    · obtain ⟨suf, h⟩ := items_path t (pre ++ [n]) i hi
      exact ⟨n :: suf, by simp [h]⟩
    · exact itemsOf_path rest pre i hi
end

theorem keeps_step (f : Filter) (pre : List Name) (n : Name) (hp : passes f n = true) (i : Item)
    (hi : ∃ suf, i.path = (pre ++ [n]) ++ suf) : keeps f pre.length i = keeps f (pre.length + 1) i := by
  obtain ⟨suf, h⟩ := hi
  have h1 : List.drop pre.length i.path = n :: suf := by rw [h]; simp
  have h2 : List.drop (pre.length + 1) i.path = suf := by
    have : pre.length + 1 = (pre ++ [n]).length := by simp
    rw [h, this, List.drop_left]
  simp [keeps, h1, h2, hp]

theorem keeps_rejected (f : Filter) (pre : List Name) (n : Name) (hp : passes f n = false) (i : Item)
    (hi : ∃ suf, i.path = (pre ++ [n]) ++ suf) : keeps f pre.length i = false := by
  obtain ⟨suf, h⟩ := hi
  have h1 : List.drop pre.length i.path = n :: suf := by rw [h]; simp
  simp [keeps, h1, hp]

mutual
theorem prune_items (f : Filter) :
    ∀ (t : Tree) (pre : List Name), itemsOpt pre (prune f t) = (items pre t).filter (keeps f pre.length)
  | .dir es, pre => by
    simp only [prune, itemsOpt, items, List.filter_cons]
    have hk : keeps f pre.length (.dirAt pre) = true := by simp [keeps, Item.isOther, Item.path]
    rw [hk, if_pos rfl, pruneEntries_items f es pre]
  | .file b, pre => by
    simp [prune, itemsOpt, items, keeps, Item.isOther, Item.path]
  | .other, pre => by
    simp [prune, itemsOpt, items, keeps, Item.isOther]
theorem pruneEntries_items (f : Filter) :
    ∀ (es : Entries) (pre : List Name),
      itemsOf pre (pruneEntries f es) = (itemsOf pre es).filter (keeps f pre.length)
  | .nil, pre => by simp [pruneEntries, itemsOf]
  | .cons n t rest, pre => by
    simp only [pruneEntries, itemsOf, List.filter_append]
    cases hp : passes f n with
    | true =>
      simp only [if_true]
      have hsub : (items (pre ++ [n]) t).filter (keeps f pre.length)
          = (items (pre ++ [n]) t).filter (keeps f (pre.length + 1)) := by
        apply List.filter_congr
        intro i hi
        exact keeps_step f pre n hp i (items_path t _ i hi)
      have ht := prune_items f t (pre ++ [n])
      simp only [List.length_append, List.length_singleton] at ht
      rw [hsub, ← ht]
      cases hpr : prune f t with
      | none => simp [itemsOpt, pruneEntries_items f rest pre]
      | some t' => simp [itemsOpt, itemsOf, pruneEntries_items f rest pre]
    | false =>
      simp only [Bool.false_eq_true, if_false]
      have hnone : (items (pre ++ [n]) t).filter (keeps f pre.length) = [] := by
        rw [List.filter_eq_nil_iff]
        intro i hi
        simp [keeps_rejected f pre n hp i (items_path t _ i hi)]
      rw [hnone, List.nil_append]
      exact pruneEntries_items f rest pre
end

theorem prune_none_iff (f : Filter) (t : Tree) : prune f t = none ↔ t = .other := by
  cases t <;> simp [prune]

theorem names_pruneEntries (f : Filter) : ∀ (es : Entries) (n : Name), n ∈ (pruneEntries f es).names → n ∈ es.names
  | .nil, _, h => h
  | .cons m t rest, n, h => by
    have ih := names_pruneEntries f rest n
    simp only [pruneEntries] at h
    simp only [Entries.names, List.mem_cons]
    split at h
    · split at h
      · simp only [Entries.names, List.mem_cons] at h
        exact h.imp_right ih
      · exact .inr (ih h)
    · exact .inr (ih h)

mutual
theorem prune_keeps (f : Filter) : ∀ (t pt : Tree), prune f t = some pt →
    regular pt = true ∧ (distinctNames t = true → distinctNames pt = true)
  | .dir es, _, h => by cases h; exact pruneEntries_keeps f es
  | .file _, _, h => by cases h; exact ⟨rfl, fun _ => rfl⟩
  | .other, _, h => nomatch h
theorem pruneEntries_keeps (f : Filter) : ∀ es : Entries,
    regularEntries (pruneEntries f es) = true
      ∧ (distinctEntries es = true → distinctEntries (pruneEntries f es) = true)
  | .nil => ⟨rfl, fun _ => rfl⟩
  | .cons n t rest => by
    obtain ⟨hr, hd⟩ := pruneEntries_keeps f rest
    simp only [pruneEntries, distinctEntries, Bool.and_eq_true, Bool.not_eq_true', List.contains_eq_mem,
      decide_eq_false_iff_not]
    split
    · cases hp : prune f t with
      | some t' =>
        obtain ⟨hrt, hdt⟩ := prune_keeps f t t' hp
        simp only [regularEntries, distinctEntries, Bool.and_eq_true, Bool.not_eq_true', List.contains_eq_mem,
          decide_eq_false_iff_not]
        exact ⟨⟨hrt, hr⟩, fun h => ⟨⟨fun hn => h.1.1 (names_pruneEntries f rest n hn), hdt h.1.2⟩, hd h.2⟩⟩
      | none => exact ⟨hr, fun h => hd h.2⟩
    · exact ⟨hr, fun h => hd h.2⟩
end

theorem prune_regular (f : Filter) : ∀ (t pt : Tree), prune f t = some pt → regular pt = true :=
  fun t pt h => (prune_keeps f t pt h).1

theorem pruneEntries_regular (f : Filter) : ∀ es : Entries, regularEntries (pruneEntries f es) = true :=
  fun es => (pruneEntries_keeps f es).1

theorem Entries.append_nil : ∀ a : Entries, a.append .nil = a
  | .nil => rfl
  | .cons n t rest => by simp [Entries.append, Entries.append_nil rest]

theorem Entries.append_assoc : ∀ a b c : Entries, (a.append b).append c = a.append (b.append c)
  | .nil, _, _ => rfl
  | .cons n t rest, b, c => by simp [Entries.append, Entries.append_assoc rest b c]

theorem Entries.names_append : ∀ a b : Entries, (a.append b).names = a.names ++ b.names
  | .nil, _ => rfl
  | .cons n t rest, b => by simp [Entries.append, Entries.names, Entries.names_append rest b]

theorem Entries.find_append_notin : ∀ (pre ds : Entries) (n : Name), n ∉ pre.names →
    (pre.append ds).find n = ds.find n
  | .nil, _, _, _ => rfl
  | .cons m t rest, ds, n, h => by
    simp only [Entries.names, List.mem_cons, not_or] at h
    have hm : ¬ m = n := fun e => h.1 e.symm
    simp [Entries.append, Entries.find, hm, Entries.find_append_notin rest ds n h.2]

theorem Entries.set_append_notin : ∀ (pre ds : Entries) (n : Name) (t : Tree), n ∉ pre.names →
    (pre.append ds).set n t = pre.append (ds.set n t)
  | .nil, _, _, _, _ => rfl
  | .cons m d rest, ds, n, t, h => by
    simp only [Entries.names, List.mem_cons, not_or] at h
    have hm : ¬ m = n := fun e => h.1 e.symm
    simp [Entries.append, Entries.set, hm, Entries.set_append_notin rest ds n t h.2]

theorem Entries.find_notin (ds : Entries) (n : Name) (h : n ∉ ds.names) : ds.find n = none := by
  have := Entries.find_append_notin ds .nil n h
  rwa [Entries.append_nil] at this

theorem Entries.set_notin (ds : Entries) (n : Name) (t : Tree) (h : n ∉ ds.names) :
    ds.set n t = ds.append (.cons n t .nil) := by
  have := Entries.set_append_notin ds .nil n t h
  rwa [Entries.append_nil] at this

theorem Entries.set_find_self : ∀ (ds : Entries) (n : Name) (x : Tree), ds.find n = some x → ds.set n x = ds
  | .nil, _, _, h => by simp [Entries.find] at h
  | .cons m d rest, n, x, h => by
    by_cases hm : m = n
    · simp [Entries.find, hm] at h
      simp [Entries.set, hm, h]
    · simp [Entries.find, hm] at h
      simp [Entries.set, hm, Entries.set_find_self rest n x h]

theorem uploadDirOver_other_step (chunk : Nat) (f : Filter) (n : Name) (rest ds : Entries)
    (hp : passes f n = true) :
    uploadDirOver chunk f (.cons n .other rest) ds = uploadDirOver chunk f rest ds := by
  simp only [uploadDirOver, hp, if_true, uploadOver]
  cases hf : ds.find n with
  | none => rfl
  | some x => simp [Entries.set_find_self ds n x hf]

/-- the specification: prune, then overlay -/
def overSpec (f : Filter) (ii : Bool) (t : Tree) (dst : Option Tree) : Except FErr (Option Tree) :=
  match prune f t with
  | none => if ii then .ok dst else .error .valueError
  | some pt =>
    match overlay pt dst with
    | .ok r => .ok (some r)
    | .error e => .error e

mutual
theorem uploadOver_eq_overlay (chunk : Nat) (hc : 1 ≤ chunk) (f : Filter) (ii : Bool) :
    ∀ (t : Tree) (dst : Option Tree), uploadOver chunk f ii t dst = overSpec f ii t dst
  | .dir es, dst => by
    simp only [overSpec, prune]
    cases dst with
    | none => simp only [uploadOver, overlay, uploadDirOver_eq_overlay chunk hc f es .nil]; split <;> rfl
    | some d =>
      cases d with
      | dir ds => simp only [uploadOver, overlay, uploadDirOver_eq_overlay chunk hc f es ds]; split <;> rfl
      | file b => simp only [uploadOver, overlay]
      | other => simp only [uploadOver, overlay]
  | .file b, dst => by
    have hcopy := copyFile_eq chunk hc b
    simp only [overSpec, prune]
    cases dst with
    | none => simp only [uploadOver, overlay, hcopy]
    | some d => cases d <;> simp only [uploadOver, overlay, hcopy]
  | .other, dst => by simp only [overSpec, prune, uploadOver]
theorem uploadDirOver_eq_overlay (chunk : Nat) (hc : 1 ≤ chunk) (f : Filter) :
    ∀ (es ds : Entries), uploadDirOver chunk f es ds = overlayEntries (pruneEntries f es) ds
  | .nil, ds => by simp only [uploadDirOver, pruneEntries, overlayEntries]
  | .cons n t rest, ds => by
    cases hp : passes f n with
    | false =>
      simp only [uploadDirOver, pruneEntries, hp, Bool.false_eq_true, if_false]
      exact uploadDirOver_eq_overlay chunk hc f rest ds
    | true =>
      cases hpr : prune f t with
      | none =>
        have ht := (prune_none_iff f t).mp hpr
        subst ht
        rw [uploadDirOver_other_step chunk f n rest ds hp]
        simp only [pruneEntries, hp, if_true, prune]
        exact uploadDirOver_eq_overlay chunk hc f rest ds
      | some pt =>
        have h1 := uploadOver_eq_overlay chunk hc f true t (ds.find n)
        simp only [overSpec, hpr] at h1
        simp only [uploadDirOver, pruneEntries, hp, if_true, hpr, overlayEntries, h1]
        cases overlay pt (ds.find n) with
        | error e => rfl
        | ok r => exact uploadDirOver_eq_overlay chunk hc f rest (ds.set n r)
end

theorem overlayEntries_cons_notin (n : Name) (x : Tree) : ∀ (es ds : Entries), n ∉ es.names →
    overlayEntries es (.cons n x ds) = (overlayEntries es ds).map (.cons n x)
  | .nil, _, _ => rfl
  | .cons m t rest, ds, h => by
    simp only [Entries.names, List.mem_cons, not_or] at h
    simp only [overlayEntries, Entries.find, if_neg h.1]
    cases overlay t (ds.find m) with
    | error e => rfl
    | ok t' =>
      simp only [Entries.set, if_neg h.1]
      exact overlayEntries_cons_notin n x rest (ds.set m t') h.2

mutual
theorem overlay_under : ∀ (t : Tree) (dst : Option Tree), regular t = true → distinctNames t = true →
    (∀ d, dst = some d → sameShape t d = true) → overlay t dst = .ok t
  | .file _, dst, _, _, hs => by
    cases dst with
    | none => rfl
    | some d =>
      cases d with
      | file _ => rfl
      | _ => exact nomatch hs _ rfl
  | .dir es, dst, hr, hd, hs => by
    cases dst with
    | none => rw [overlay, overlayEntries_under es .nil hr hd (.inl rfl)]
    | some d =>
      cases d with
      | dir ds => rw [overlay, overlayEntries_under es ds hr hd (.inr (hs _ rfl))]
      | _ => exact nomatch hs _ rfl
  | .other, _, hr, _, _ => nomatch hr
theorem overlayEntries_under : ∀ (es ds : Entries), regularEntries es = true → distinctEntries es = true →
    (ds = .nil ∨ sameShapeEntries es ds = true) → overlayEntries es ds = .ok es
  | .nil, .nil, _, _, _ => rfl
  | .nil, .cons .., _, _, hs => by simp [sameShapeEntries] at hs
  | .cons n t rest, ds, hr, hd, hs => by
    simp only [regularEntries, distinctEntries, Bool.and_eq_true, Bool.not_eq_true', List.contains_eq_mem,
      decide_eq_false_iff_not] at hr hd
    -- the entry called `n` becomes `t`, at the head of a destination that `rest` fits again
    obtain ⟨ds', hstep, hs'⟩ : ∃ ds', overlayEntries (.cons n t rest) ds = overlayEntries rest (.cons n t ds')
        ∧ (ds' = .nil ∨ sameShapeEntries rest ds' = true) := by
      cases ds with
      | nil =>
        refine ⟨.nil, ?_, .inl rfl⟩
        rw [overlayEntries, Entries.find, overlay_under t none hr.1 hd.1.2 (fun _ h => nomatch h)]
        rfl
      | cons m d ds' =>
        simp only [sameShapeEntries, Bool.and_eq_true, beq_iff_eq, reduceCtorEq, false_or] at hs
        obtain ⟨⟨rfl, hsd⟩, hsr⟩ := hs
        refine ⟨ds', ?_, .inr hsr⟩
        rw [overlayEntries, Entries.find, if_pos rfl, overlay_under t (some d) hr.1 hd.1.2 (fun _ h => Option.some.inj h ▸ hsd)]
        simp only [Entries.set, if_pos]
    rw [hstep, overlayEntries_cons_notin n t rest ds' hd.1.1, overlayEntries_under rest ds' hr.2 hd.2 hs']
    rfl
end

/-- onto nothing, or onto something of the shape of what `t` transfers to (for instance what an earlier transfer of a
tree with the same names left there), what is left of the source arrives — every byte of every file replaced -/
theorem uploadOver_under (chunk : Nat) (hc : 1 ≤ chunk) (f : Filter) (ii : Bool) (t pt : Tree) (dst : Option Tree)
    (hd : distinctNames t = true) (hp : prune f t = some pt) (hs : ∀ d, dst = some d → sameShape pt d = true) :
    uploadOver chunk f ii t dst = .ok (some pt) := by
  obtain ⟨hr, hdp⟩ := prune_keeps f t pt hp
  rw [uploadOver_eq_overlay chunk hc, overSpec]
  simp only [hp, overlay_under pt dst hr (hdp hd) hs]

theorem overlayEntries_append_notin : ∀ (pre es ds : Entries), (∀ n ∈ pre.names, n ∉ es.names) →
    overlayEntries es (pre.append ds) = (overlayEntries es ds).map pre.append
  | .nil, es, ds, _ => by
    show overlayEntries es ds = _
    cases overlayEntries es ds <;> rfl
  | .cons n x pre, es, ds, h => by
    rw [Entries.append, overlayEntries_cons_notin n x es _ (h n (by simp [Entries.names])),
      overlayEntries_append_notin pre es ds fun m hm => h m (by simp [Entries.names, hm])]
    cases overlayEntries es ds <;> rfl

/-- `uploadOver_under` inside a directory: onto entries of the shape of what `es` transfers to, behind entries `pre`
that the source does not name -/
theorem uploadDirOver_sameShape (chunk : Nat) (hc : 1 ≤ chunk) (f : Filter) :
    ∀ (es pre ds : Entries), distinctEntries es = true → (∀ n ∈ es.names, n ∉ pre.names) →
      sameShapeEntries (pruneEntries f es) ds = true →
      uploadDirOver chunk f es (pre.append ds) = .ok (pre.append (pruneEntries f es)) := by
  intro es pre ds hd hdis hs
  rw [uploadDirOver_eq_overlay chunk hc,
    overlayEntries_append_notin pre _ ds fun n hn hm => hdis n (names_pruneEntries f es n hm) hn,
    overlayEntries_under _ ds (pruneEntries_keeps f es).1 ((pruneEntries_keeps f es).2 hd) (.inr hs)]
  rfl

theorem downloadLoop_eq (chunk : Nat) : ∀ (f : Nat) (a b : Bytes), downloadLoop chunk f a b = copyLoop chunk f a b := by
  intro f
  induction f with
  | zero => intro a b; rfl
  | succ f ih => intro a b; simp [downloadLoop, copyLoop, ih]

theorem downloadFile_eq (chunk : Nat) (b : Bytes) : downloadFile chunk b = copyFile chunk b := by
  simp [downloadFile, copyFile, downloadLoop_eq]

mutual
theorem download_eq_upload (chunk : Nat) (f : Filter) (ii : Bool) : ∀ t : Tree, download chunk f ii t = upload chunk f ii t
  | .dir es => by simp only [download, upload, downloadDir_eq_uploadDir chunk f es]
  | .file b => by simp only [download, upload, downloadFile_eq]
  | .other => by simp only [download, upload]
theorem downloadDir_eq_uploadDir (chunk : Nat) (f : Filter) :
    ∀ es : Entries, downloadDir chunk f es = uploadDir chunk f es
  | .nil => by simp only [downloadDir, uploadDir]
  | .cons n t rest => by
    simp only [downloadDir, uploadDir, download_eq_upload chunk f true t, downloadDir_eq_uploadDir chunk f rest]
end

mutual
theorem sameShape_refl : ∀ t : Tree, sameShape t t = true
  | .file _ => by simp only [sameShape]
  | .other => by simp only [sameShape]
  | .dir es => by simp only [sameShape]; exact sameShapeEntries_refl es
theorem sameShapeEntries_refl : ∀ es : Entries, sameShapeEntries es es = true
  | .nil => by simp only [sameShapeEntries]
  | .cons n t rest => by
    simp only [sameShapeEntries, beq_self_eq_true, Bool.true_and, sameShape_refl t, sameShapeEntries_refl rest]
end

/-! ### definitional lemmas (one-step unfoldings, not property theorems) -/

/-- a path that is neither a directory nor a regular file: `ValueError`, unless `ignore_invalid` (then
nothing is created); inside a tree such entries are skipped -/
theorem invalid_top_level (chunk : Nat) (f : Filter) :
    upload chunk f false .other = .error .valueError ∧ upload chunk f true .other = .ok none := by
  simp [upload]

/-- the filter sees the entry's name, never the top-level path: a single file is always transferred -/
theorem top_level_not_filtered (chunk : Nat) (hc : 1 ≤ chunk) (f : Filter) (ii : Bool) (b : Bytes) :
    upload chunk f ii (.file b) = .ok (some (.file b)) := by
  rw [upload_eq chunk hc]; rfl

/-- A filter object that is falsy is no filter (the code tests `not filter or filter(fn)`): a callable
defining `__bool__`/`__len__` as false is ignored and everything is transferred, whatever it would reject.
With a truthy callable the filter is its predicate. -/
theorem falsy_filter_is_no_filter (p : Name → Bool) :
    effective (some ⟨false, p⟩) = none ∧ effective (some ⟨true, p⟩) = some p ∧ effective none = none :=
  ⟨rfl, rfl, rfl⟩

end Rpyc.Files
