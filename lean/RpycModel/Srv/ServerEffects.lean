import RpycModel.Srv.ServerLemmas
/-
What any server step may do — one relation `Eff s t T` ("from `s` to `t`, touching only the clients in
`T`") proved once for every function of the automaton, over the whole alphabet (hostile frames, stalled and failing
authentication, server close) and all four kinds (`EffO`: a one-shot server that closes itself touches everybody).
From it: the configuration and, except for a one-shot server, the listener / accept-loop flags never change;
credentials, once sent, never change; a client's phase never goes back to "waiting"; service instances and lent
objects are allocated from counters (hence distinct); clients outside `T` keep their whole record (containment).
At the end: the alphabet of C16, what each of its actions amounts to (`step_c16`), and that the configuration is the
same along every run.
-/
namespace Rpyc.Srv

/-- taken from the listen queue: any phase but `absent` and `backlog` (a client the server has finished with counts) -/
def Live (p : Phase) : Prop :=
  p = .authing ∨ p = .idle ∨ p = .queued ∨ p = .blocked ∨ p = .done ∨ p = .closing

/-- how the record of one client may change (`c` in state `s`, `d` in state `t`) -/
structure CRel (s t : St) (c d : Cli) : Prop where
  /-- credentials are fixed, except that a client that connected without any may send them later -/
  cred : d.cred = c.cred ∨ c.cred = .silent
  phase : d.phase = c.phase ∨ Live d.phase
  inst : d.inst = c.inst ∨ ∃ a, d.inst = some a ∧ s.nextInst ≤ a ∧ a < t.nextInst
  table : ∀ o ∈ d.table, o ∈ c.table ∨ (s.nextObj ≤ o ∧ o < t.nextObj)

theorem CRel.refl (s t : St) (c : Cli) : CRel s t c c :=
  ⟨Or.inl rfl, Or.inl rfl, Or.inl rfl, fun _ h => Or.inl h⟩

theorem CRel.trans {s t u : St} {c d e' : Cli} (h1 : CRel s t c d) (h2 : CRel t u d e') (hI : s.nextInst ≤ t.nextInst)
    (hI' : t.nextInst ≤ u.nextInst) (hO : s.nextObj ≤ t.nextObj) (hO' : t.nextObj ≤ u.nextObj) : CRel s u c e' := by
  refine ⟨?_, ?_, ?_, ?_⟩
  · rcases h1.cred with h | h
    · rcases h2.cred with h' | h'
      · exact Or.inl (h'.trans h)
      · exact Or.inr (h ▸ h')
    · exact Or.inr h
  · rcases h2.phase with h | h
    · rcases h1.phase with h' | h'
      · exact Or.inl (h.trans h')
      · exact Or.inr (h ▸ h')
    · exact Or.inr h
  · rcases h2.inst with h | ⟨a, ha, hl, hu⟩
    · rcases h1.inst with h' | ⟨a, ha, hl, hu⟩
      · exact Or.inl (h.trans h')
      · exact Or.inr ⟨a, h.trans ha, hl, by omega⟩
    · exact Or.inr ⟨a, ha, by omega, hu⟩
  · intro o ho
    rcases h2.table o ho with h | ⟨hl, hu⟩
    · rcases h1.table o h with h' | ⟨hl, hu⟩
      · exact Or.inl h'
      · exact Or.inr ⟨hl, by omega⟩
    · exact Or.inr ⟨by omega, hu⟩

/-- the same record, up to membership of `Server.clients` being cleared (`clients.clear()` of the pool touches every
record and means nothing for a client that was not in the set) -/
def Same (c d : Cli) : Prop := d = c ∨ d = { c with tracked := false }

theorem Same.refl (c : Cli) : Same c c := Or.inl rfl
theorem Same.trans {c d e : Cli} (h1 : Same c d) (h2 : Same d e) : Same c e := by
  rcases h1 with rfl | rfl <;> rcases h2 with rfl | rfl
  · exact Or.inl rfl
  · exact Or.inr rfl
  · exact Or.inr rfl
  · exact Or.inr rfl

theorem Same.phase {c d : Cli} (h : Same c d) : d.phase = c.phase := by rcases h with rfl | rfl <;> rfl
theorem Same.inst {c d : Cli} (h : Same c d) : d.inst = c.inst := by rcases h with rfl | rfl <;> rfl
theorem Same.table {c d : Cli} (h : Same c d) : d.table = c.table := by rcases h with rfl | rfl <;> rfl

/-- everything allocated so far is below the counters -/
def Bound (s : St) : Prop :=
  (∀ j a, (s.cli j).inst = some a → a < s.nextInst) ∧ (∀ j o, o ∈ (s.cli j).table → o < s.nextObj)

/-- what a function of the automaton may do on the way from `s` to `t`, touching only the clients in `T` -/
structure Eff (s t : St) (T : Nat → Prop) : Prop where
  cfg : t.cfg = s.cfg
  /-- listener and accept loop stay as they are while the server is open; not on a one-shot server, which closes itself
  when its client ends -/
  flags : s.cfg.kind ≠ .oneshot → s.closedFlag = false →
    t.listening = s.listening ∧ t.active = s.active ∧ t.acceptAlive = s.acceptAlive ∧ t.closedFlag = s.closedFlag ∧
    t.poolUp = s.poolUp
  /-- a free accept thread stays free, except on a one-shot server (whose accept thread serves the client itself) and on a
  pool whose authenticator waits for a client that sends no credentials -/
  busy : (s.cfg.kind = .threaded ∨ s.cfg.kind = .forking ∨ ∀ j, (s.cli j).cred ≠ .silent) → s.closedFlag = false →
    s.acceptBusy = none → s.cfg.kind ≠ .oneshot → t.acceptBusy = none
  nI : s.nextInst ≤ t.nextInst
  nO : s.nextObj ≤ t.nextObj
  cli : ∀ j, CRel s t (s.cli j) (t.cli j)
  /-- containment: a client outside `T` that is not waiting in the pool's queue keeps its record -/
  frame : ∀ j, ¬ T j → j ∉ s.queue → Same (s.cli j) (t.cli j)
  queue : ∀ j ∈ t.queue, j ∈ s.queue ∨ T j
  /-- ... exactly, unless the server is a pool (whose `clients.clear()` rewrites every record) -/
  exact : s.cfg.kind ≠ .pool → ∀ j, ¬ T j → j ∉ s.queue → t.cli j = s.cli j
  /-- two clients share a service instance / an object id afterwards only if they did before -/
  uniqI : Bound s → ∀ i j a, (t.cli i).inst = some a → (t.cli j).inst = some a →
    i = j ∨ ((s.cli i).inst = some a ∧ (s.cli j).inst = some a)
  uniqO : Bound s → ∀ i j o, o ∈ (t.cli i).table → o ∈ (t.cli j).table →
    i = j ∨ (o ∈ (s.cli i).table ∧ o ∈ (s.cli j).table)

theorem not_live_backlog : ¬ Live .backlog := by simp [Live]

/-- nobody goes back to the listen queue -/
theorem Eff.backlog_before {s t : St} {T : Nat → Prop} (e : Eff s t T) {j : Nat} (h : (t.cli j).phase = .backlog) :
    (s.cli j).phase = .backlog := by
  rcases (e.cli j).phase with h1 | h1
  · exact h1 ▸ h
  · exact absurd (h ▸ h1) not_live_backlog

/-- the client / allocation part of `Eff` alone (what `Server.close` also respects) -/
structure EffC (s t : St) (T : Nat → Prop) : Prop where
  cfg : t.cfg = s.cfg
  nI : s.nextInst ≤ t.nextInst
  nO : s.nextObj ≤ t.nextObj
  cli : ∀ j, CRel s t (s.cli j) (t.cli j)
  frame : ∀ j, ¬ T j → Same (s.cli j) (t.cli j)
  uniqI : Bound s → ∀ i j a, (t.cli i).inst = some a → (t.cli j).inst = some a →
    i = j ∨ ((s.cli i).inst = some a ∧ (s.cli j).inst = some a)
  uniqO : Bound s → ∀ i j o, o ∈ (t.cli i).table → o ∈ (t.cli j).table →
    i = j ∨ (o ∈ (s.cli i).table ∧ o ∈ (s.cli j).table)

theorem EffC.bound {s t : St} {T : Nat → Prop} (e : EffC s t T) (b : Bound s) : Bound t := by
  refine ⟨?_, ?_⟩
  · intro j a h
    rcases (e.cli j).inst with h1 | ⟨a', h1, _, h3⟩
    · have := b.1 j a (by rw [← h1]; exact h); have := e.nI; omega
    · rw [h1] at h; cases h; exact h3
  · intro j o h
    rcases (e.cli j).table o h with h1 | ⟨_, h2⟩
    · have := b.2 j o h1; have := e.nO; omega
    · exact h2

theorem EffC.refl (s : St) (T : Nat → Prop) : EffC s s T :=
  ⟨rfl, Nat.le_refl _, Nat.le_refl _, fun _ => CRel.refl s s _, fun _ _ => Same.refl _,
    fun _ _ _ _ hi hj => Or.inr ⟨hi, hj⟩, fun _ _ _ _ hi hj => Or.inr ⟨hi, hj⟩⟩

theorem EffC.trans {s t u : St} {T T' : Nat → Prop} (e1 : EffC s t T) (e2 : EffC t u T') :
    EffC s u (fun j => T j ∨ T' j) := by
  refine ⟨e2.cfg.trans e1.cfg, Nat.le_trans e1.nI e2.nI, Nat.le_trans e1.nO e2.nO, ?_, ?_, ?_, ?_⟩
  · intro j; exact (e1.cli j).trans (e2.cli j) e1.nI e2.nI e1.nO e2.nO
  · intro j hj
    exact (e1.frame j (fun h => hj (Or.inl h))).trans (e2.frame j (fun h => hj (Or.inr h)))
  · intro b i j a hi hj
    rcases e2.uniqI (e1.bound b) i j a hi hj with h | ⟨h1, h2⟩
    · exact Or.inl h
    · exact e1.uniqI b i j a h1 h2
  · intro b i j o hi hj
    rcases e2.uniqO (e1.bound b) i j o hi hj with h | ⟨h1, h2⟩
    · exact Or.inl h
    · exact e1.uniqO b i j o h1 h2

theorem EffC.mono {s t : St} {T T' : Nat → Prop} (e : EffC s t T) (h : ∀ j, T j → T' j) : EffC s t T' :=
  { e with frame := fun j hj => e.frame j (fun hT => hj (h j hT)) }

theorem Eff.toC {s t : St} {T : Nat → Prop} (e : Eff s t T) : EffC s t (fun _ => True) :=
  ⟨e.cfg, e.nI, e.nO, e.cli, fun _ h => absurd trivial h, e.uniqI, e.uniqO⟩

theorem Eff.bound {s t : St} {T : Nat → Prop} (e : Eff s t T) (b : Bound s) : Bound t := e.toC.bound b

theorem Eff.mono' {s t : St} {T T' : Nat → Prop} (e : Eff s t T) (h : ∀ j, T j → T' j ∨ j ∈ s.queue) : Eff s t T' :=
  { e with
    frame := fun j hj hq => e.frame j (fun hT => (h j hT).elim hj hq) hq
    queue := fun j hj => (e.queue j hj).elim Or.inl (fun hT => (h j hT).elim Or.inr Or.inl)
    exact := fun hk j hj hq => e.exact hk j (fun hT => (h j hT).elim hj hq) hq }

theorem Eff.mono {s t : St} {T T' : Nat → Prop} (e : Eff s t T) (h : ∀ j, T j → T' j) : Eff s t T' :=
  e.mono' (fun j hT => Or.inl (h j hT))

theorem Eff.trans {s t u : St} {T T' : Nat → Prop} (e1 : Eff s t T) (e2 : Eff t u T') :
    Eff s u (fun j => T j ∨ T' j) := by
  have hk : t.cfg = s.cfg := e1.cfg
  have c := e1.toC.trans e2.toC
  -- a client outside `T` is in `t`'s queue only if it was in `s`'s
  have hq : ∀ j, ¬ T j → j ∉ s.queue → j ∉ t.queue := fun j hj hq hq' => (e1.queue j hq').elim hq hj
  refine ⟨c.cfg, ?_, ?_, c.nI, c.nO, c.cli, ?_, ?_, ?_, c.uniqI, c.uniqO⟩
  · intro h1 h2
    obtain ⟨a1, a2, a3, a4, a5⟩ := e1.flags h1 h2
    obtain ⟨b1, b2, b3, b4, b5⟩ := e2.flags (by rw [hk]; exact h1) (by rw [a4]; exact h2)
    exact ⟨b1.trans a1, b2.trans a2, b3.trans a3, b4.trans a4, b5.trans a5⟩
  · intro h1 h2 h3 h4
    have hb := e1.busy h1 h2 h3 h4
    have hc := (e1.flags h4 h2).2.2.2.1
    refine e2.busy ?_ (by rw [hc]; exact h2) hb (by rw [hk]; exact h4)
    rcases h1 with h1 | h1 | h1
    · exact Or.inl (by rw [hk]; exact h1)
    · exact Or.inr (Or.inl (by rw [hk]; exact h1))
    · refine Or.inr (Or.inr (fun j => ?_))
      rcases (e1.cli j).cred with h | h
      · rw [h]; exact h1 j
      · exact absurd h (h1 j)
  · intro j hj hq'
    exact (e1.frame j (fun h => hj (Or.inl h)) hq').trans
      (e2.frame j (fun h => hj (Or.inr h)) (hq j (fun h => hj (Or.inl h)) hq'))
  · intro j hj
    rcases e2.queue j hj with h | h
    · exact (e1.queue j h).imp id Or.inl
    · exact Or.inr (Or.inr h)
  · intro hkind j hj hq'
    rw [e2.exact (by rw [hk]; exact hkind) j (fun h => hj (Or.inr h)) (hq j (fun h => hj (Or.inl h)) hq'),
      e1.exact hkind j (fun h => hj (Or.inl h)) hq']

/-- `Eff` is `EffC` together with the clauses about the server's flags and the pool's queue -/
theorem EffC.toEff {s t : St} {T : Nat → Prop} (e : EffC s t T)
    (flags : s.cfg.kind ≠ .oneshot → s.closedFlag = false →
      t.listening = s.listening ∧ t.active = s.active ∧ t.acceptAlive = s.acceptAlive ∧ t.closedFlag = s.closedFlag ∧
      t.poolUp = s.poolUp)
    (busy : (s.cfg.kind = .threaded ∨ s.cfg.kind = .forking ∨ ∀ j, (s.cli j).cred ≠ .silent) → s.closedFlag = false →
      s.acceptBusy = none → s.cfg.kind ≠ .oneshot → t.acceptBusy = none)
    (queue : ∀ j ∈ t.queue, j ∈ s.queue ∨ T j) (exact : s.cfg.kind ≠ .pool → ∀ j, ¬ T j → t.cli j = s.cli j) :
    Eff s t T :=
  ⟨e.cfg, flags, busy, e.nI, e.nO, e.cli, fun j hj _ => e.frame j hj, queue, fun hk j hj _ => exact hk j hj, e.uniqI,
    e.uniqO⟩

/-- for a one-shot server the flag clauses of `Eff` say nothing -/
theorem EffC.toEff_oneshot {s t : St} {T : Nat → Prop} (e : EffC s t T) (h : s.cfg.kind = .oneshot)
    (hq : ∀ j ∈ t.queue, j ∈ s.queue ∨ T j) (hall : ∀ j, T j) : Eff s t T :=
  e.toEff (fun h1 => absurd h h1) (fun _ _ _ h4 => absurd h h4) hq (fun _ j hj => absurd (hall j) hj)

/-- a map over all records that keeps credentials and instances, only finishes clients, and only shrinks tables -/
theorem EffC.map (s t : St) (f : Cli → Cli) (hc : ∀ c, (f c).cred = c.cred)
    (hp : ∀ c, (f c).phase = c.phase ∨ Live (f c).phase) (hi : ∀ c, (f c).inst = c.inst)
    (ht : ∀ c o, o ∈ (f c).table → o ∈ c.table) (e1 : t.cfg = s.cfg) (e2 : t.nextInst = s.nextInst)
    (e3 : t.nextObj = s.nextObj) (e4 : t.cli = (s.mapCli f).cli) : EffC s t (fun _ => True) := by
  have hcli : ∀ j, t.cli j = f (s.cli j) := fun j => by rw [e4]; rfl
  refine ⟨e1, by omega, by omega, ?_, fun j hj => absurd trivial hj, ?_, ?_⟩
  · intro j; rw [hcli]
    exact ⟨Or.inl (hc _), hp _, Or.inl (hi _), fun o ho => Or.inl (ht _ o ho)⟩
  · intro _ i j a h1 h2
    rw [hcli, hi] at h1 h2; exact Or.inr ⟨h1, h2⟩
  · intro _ i j o h1 h2
    rw [hcli] at h1 h2; exact Or.inr ⟨ht _ o h1, ht _ o h2⟩

/-- the record of `k` replaced, within `CRel`: what is allocated for it comes from the counters, so nobody else holds it -/
theorem EffC.setServe (s t : St) (k : Nat) (c' : Cli) (n' : Nat) (hcred : c'.cred = (s.cli k).cred ∨ (s.cli k).cred = .silent)
    (hph : c'.phase = (s.cli k).phase ∨ Live c'.phase)
    (hinst : c'.inst = (s.cli k).inst ∨ ∃ a, c'.inst = some a ∧ s.nextInst ≤ a ∧ a < t.nextInst) (hn : s.nextObj ≤ n')
    (htab : ∀ o ∈ c'.table, o ∈ (s.cli k).table ∨ (s.nextObj ≤ o ∧ o < n'))
    (e1 : t.cfg = s.cfg) (e8 : s.nextInst ≤ t.nextInst) (e9 : t.nextObj = n') (e10 : t.cli = (s.set k c').cli) :
    EffC s t (· = k) := by
  have hcli : ∀ j, j ≠ k → t.cli j = s.cli j := fun j hj => by rw [e10]; exact set_cli_ne _ _ _ _ hj
  have hk : t.cli k = c' := by rw [e10]; simp
  -- what a record holds afterwards it held before, or it is `k`'s and fresh
  have oldI : ∀ j x, (t.cli j).inst = some x → (s.cli j).inst = some x ∨ j = k ∧ s.nextInst ≤ x := by
    intro j x h
    by_cases hj : j = k
    · subst hj; rw [hk] at h
      rcases hinst with h1 | ⟨y, h1, hl, _⟩
      · exact Or.inl (h1 ▸ h)
      · rw [h1] at h; cases h; exact Or.inr ⟨rfl, hl⟩
    · exact Or.inl (hcli j hj ▸ h)
  have oldO : ∀ j o, o ∈ (t.cli j).table → o ∈ (s.cli j).table ∨ j = k ∧ s.nextObj ≤ o := by
    intro j o h
    by_cases hj : j = k
    · subst hj; rw [hk] at h; exact (htab o h).imp id fun h => ⟨rfl, h.1⟩
    · exact Or.inl (hcli j hj ▸ h)
  refine ⟨e1, e8, by omega, ?_, fun j hj => Or.inl (hcli j hj), ?_, ?_⟩
  · intro j; by_cases hj : j = k
    · subst hj; rw [hk]
      exact ⟨hcred, hph, hinst, fun o ho => by rw [e9]; exact htab o ho⟩
    · rw [hcli j hj]; exact CRel.refl _ _ _
  · intro b i j x h1 h2
    rcases oldI i x h1 with g1 | g1 <;> rcases oldI j x h2 with g2 | g2
    · exact Or.inr ⟨g1, g2⟩
    · have := b.1 i x g1; omega
    · have := b.1 j x g2; omega
    · exact Or.inl (g1.1.trans g2.1.symm)
  · intro b i j o h1 h2
    rcases oldO i o h1 with g1 | g1 <;> rcases oldO j o h2 with g2 | g2
    · exact Or.inr ⟨g1, g2⟩
    · have := b.2 i o g1; omega
    · have := b.2 j o g2; omega
    · exact Or.inl (g1.1.trans g2.1.symm)

/-- one record rewritten: same credentials and instance, phase kept or moved forward, table not grown -/
theorem EffC.set1 (s t : St) (k : Nat) (c' : Cli) (hcred : c'.cred = (s.cli k).cred)
    (hph : c'.phase = (s.cli k).phase ∨ Live c'.phase) (hinst : c'.inst = (s.cli k).inst)
    (htab : ∀ o ∈ c'.table, o ∈ (s.cli k).table)
    (e1 : t.cfg = s.cfg) (e8 : t.nextInst = s.nextInst) (e9 : t.nextObj = s.nextObj)
    (e10 : t.cli = (s.set k c').cli) : EffC s t (· = k) :=
  EffC.setServe s t k c' s.nextObj (Or.inl hcred) hph (Or.inl hinst) (Nat.le_refl _) (fun o ho => Or.inl (htab o ho))
    e1 (Nat.le_of_eq e8.symm) e9 e10

/-- ... and the server's flags and the pool's queue left alone -/
theorem Eff.setServe (s t : St) (k : Nat) (c' : Cli) (n' : Nat) (hcred : c'.cred = (s.cli k).cred ∨ (s.cli k).cred = .silent)
    (hph : c'.phase = (s.cli k).phase ∨ Live c'.phase)
    (hinst : c'.inst = (s.cli k).inst ∨ ∃ a, c'.inst = some a ∧ s.nextInst ≤ a ∧ a < t.nextInst) (hn : s.nextObj ≤ n')
    (htab : ∀ o ∈ c'.table, o ∈ (s.cli k).table ∨ (s.nextObj ≤ o ∧ o < n'))
    (e1 : t.cfg = s.cfg) (e2 : t.listening = s.listening) (e3 : t.active = s.active)
    (e4 : t.acceptAlive = s.acceptAlive) (e5 : t.closedFlag = s.closedFlag) (e6 : t.poolUp = s.poolUp)
    (e7 : t.acceptBusy = s.acceptBusy) (e8 : s.nextInst ≤ t.nextInst) (e9 : t.nextObj = n')
    (e10 : t.cli = (s.set k c').cli) (e11 : t.queue = s.queue) : Eff s t (· = k) :=
  (EffC.setServe s t k c' n' hcred hph hinst hn htab e1 e8 e9 e10).toEff (fun _ _ => ⟨e2, e3, e4, e5, e6⟩)
    (fun _ _ h _ => by rw [e7]; exact h) (fun j hj => Or.inl (e11 ▸ hj))
    (fun _ j hj => by rw [e10]; exact set_cli_ne _ _ _ _ hj)

theorem Eff.set1 (s t : St) (k : Nat) (c' : Cli) (hcred : c'.cred = (s.cli k).cred)
    (hph : c'.phase = (s.cli k).phase ∨ Live c'.phase) (hinst : c'.inst = (s.cli k).inst)
    (htab : ∀ o ∈ c'.table, o ∈ (s.cli k).table)
    (e1 : t.cfg = s.cfg) (e2 : t.listening = s.listening) (e3 : t.active = s.active)
    (e4 : t.acceptAlive = s.acceptAlive) (e5 : t.closedFlag = s.closedFlag) (e6 : t.poolUp = s.poolUp)
    (e7 : t.acceptBusy = s.acceptBusy) (e8 : t.nextInst = s.nextInst) (e9 : t.nextObj = s.nextObj)
    (e10 : t.cli = (s.set k c').cli) (e11 : t.queue = s.queue) : Eff s t (· = k) :=
  Eff.setServe s t k c' s.nextObj (Or.inl hcred) hph (Or.inl hinst) (Nat.le_refl _) (fun o ho => Or.inl (htab o ho))
    e1 e2 e3 e4 e5 e6 e7 (Nat.le_of_eq e8.symm) e9 e10 e11

/-- nothing the relation reads has changed -/
theorem Eff.same (s t : St) (T : Nat → Prop) (e1 : t.cfg = s.cfg) (e2 : t.listening = s.listening)
    (e3 : t.active = s.active) (e4 : t.acceptAlive = s.acceptAlive) (e5 : t.closedFlag = s.closedFlag)
    (e6 : t.poolUp = s.poolUp) (e7 : t.acceptBusy = s.acceptBusy) (e8 : t.nextInst = s.nextInst)
    (e9 : t.nextObj = s.nextObj) (e10 : t.cli = s.cli) (e11 : ∀ j ∈ t.queue, j ∈ s.queue ∨ T j) : Eff s t T := by
  refine ⟨e1, fun _ _ => ⟨e2, e3, e4, e5, e6⟩, fun _ _ h _ => by rw [e7]; exact h, by omega, by omega, ?_, ?_, e11,
    fun _ j _ _ => by rw [e10], ?_, ?_⟩
  · intro j; rw [e10]; exact CRel.refl _ _ _
  · intro j _ _; rw [e10]; exact Same.refl _
  · intro _ i j a h1 h2; rw [e10] at h1 h2; exact Or.inr ⟨h1, h2⟩
  · intro _ i j o h1 h2; rw [e10] at h1 h2; exact Or.inr ⟨h1, h2⟩

theorem Eff.refl (s : St) (T : Nat → Prop) : Eff s s T :=
  Eff.same s s T rfl rfl rfl rfl rfl rfl rfl rfl rfl rfl fun _ h => Or.inl h

/-- a map over all records that changes nothing but membership of `Server.clients` -/
theorem Eff.mapSame (s t : St) (f : Cli → Cli) (hs : ∀ c, Same c (f c)) (hk : s.cfg.kind = .pool)
    (e1 : t.cfg = s.cfg) (e2 : t.listening = s.listening) (e3 : t.active = s.active)
    (e4 : t.acceptAlive = s.acceptAlive) (e5 : t.closedFlag = s.closedFlag) (e6 : t.poolUp = s.poolUp)
    (e7 : t.acceptBusy = none ∨ t.acceptBusy = s.acceptBusy) (e8 : t.nextInst = s.nextInst) (e9 : t.nextObj = s.nextObj)
    (e10 : t.cli = (s.mapCli f).cli) (e11 : t.queue = s.queue) : Eff s t (fun _ => False) := by
  have hcli : ∀ j, t.cli j = f (s.cli j) := fun j => by rw [e10]; rfl
  have hi : ∀ c, (f c).inst = c.inst := fun c => (hs c).inst
  have ht : ∀ c, (f c).table = c.table := fun c => (hs c).table
  refine ⟨e1, fun _ _ => ⟨e2, e3, e4, e5, e6⟩, ?_, by omega, by omega, ?_, ?_, fun j hj => Or.inl (e11 ▸ hj),
    fun h => absurd hk h, ?_, ?_⟩
  · intro _ _ h _
    rcases e7 with e7 | e7
    · exact e7
    · rw [e7]; exact h
  · intro j; rw [hcli]
    refine ⟨?_, Or.inl (hs _).phase, Or.inl (hi _), fun o ho => Or.inl (by rw [← ht]; exact ho)⟩
    rcases hs (s.cli j) with h | h <;> rw [h] <;> exact Or.inl rfl
  · intro j _ _; rw [hcli]; exact hs _
  · intro _ i j a h1 h2
    rw [hcli, hi] at h1 h2; exact Or.inr ⟨h1, h2⟩
  · intro _ i j o h1 h2
    rw [hcli, ht] at h1 h2; exact Or.inr ⟨h1, h2⟩

/-- `built`: a fresh service instance from the counter -/
theorem built_eff (s : St) (k : Nat) : Eff s (built s k) (· = k) :=
  Eff.setServe s _ k
    { s.cli k with inst := some s.nextInst, connOpen := true, connHooks := (s.cli k).connHooks + 1, phase := .idle }
    s.nextObj (Or.inl rfl) (Or.inr (Or.inr (Or.inl rfl)))
    (Or.inr ⟨s.nextInst, rfl, Nat.le_refl _, Nat.lt_succ_self _⟩) (Nat.le_refl _) (fun _ h => Or.inl h)
    rfl rfl rfl rfl rfl rfl rfl (Nat.le_succ _) rfl rfl rfl

/-! ### serving an inbox -/

theorem endServe_cred (c : Cli) : (endServe c).cred = c.cred := by
  unfold endServe release closeConn; split <;> rfl
theorem endServe_table (c : Cli) (o : Nat) (h : o ∈ (endServe c).table) : o ∈ c.table := by
  unfold endServe release closeConn at h; split at h <;> simp_all
theorem endServeD_cred (c : Cli) : (endServeD c).cred = c.cred := by
  unfold endServeD endServe release closeConn; split <;> split <;> rfl
theorem endServeD_table (c : Cli) (o : Nat) (h : o ∈ (endServeD c).table) : o ∈ c.table := by
  unfold endServeD endServe release closeConn at h; split at h <;> split at h <;> simp_all
theorem endServeD_live (c : Cli) : Live (endServeD c).phase := by
  unfold endServeD endServe release; split <;> simp [Live]
theorem release_table (c : Cli) : (release c).table = c.table := rfl
theorem release_cred (c : Cli) : (release c).cred = c.cred := rfl
theorem release_inst (c : Cli) : (release c).inst = c.inst := rfl

/-- what serving does to a record -/
structure Served1 (c : Cli) (n : Nat) (r : Cli × Nat) : Prop where
  cred : r.1.cred = c.cred
  live : Live r.1.phase
  inst : r.1.inst = c.inst
  le : n ≤ r.2
  table : ∀ o ∈ r.1.table, o ∈ c.table ∨ (n ≤ o ∧ o < r.2)

theorem answer_served (c : Cli) (seq : Nat) (r : ReqKind) (n : Nat) :
    (answer c seq r n).1.cred = c.cred ∧ (answer c seq r n).1.inst = c.inst ∧ n ≤ (answer c seq r n).2 ∧
    ∀ o ∈ (answer c seq r n).1.table, o ∈ c.table ∨ (n ≤ o ∧ o < (answer c seq r n).2) := by
  cases r with
  | ping => exact ⟨rfl, rfl, Nat.le_refl _, fun o ho => Or.inl ho⟩
  | probe oid => exact ⟨rfl, rfl, Nat.le_refl _, fun o ho => Or.inl ho⟩
  | drop oid => exact ⟨rfl, rfl, Nat.le_refl _, fun o ho => Or.inl (List.mem_filter.mp ho).1⟩
  | arm => exact ⟨rfl, rfl, Nat.le_refl _, fun o ho => Or.inl ho⟩
  | lend =>
    refine ⟨rfl, rfl, Nat.le_succ _, ?_⟩
    intro o ho
    simp only [answer, List.mem_cons] at ho
    rcases ho with h | h
    · right; subst h; exact ⟨Nat.le_refl _, Nat.lt_succ_self _⟩
    · exact Or.inl h

/-- a request is answered first, the rest is served from what that left -/
theorem Served1.after_answer {c : Cli} {seq : Nat} {r : ReqKind} {n : Nat} {res : Cli × Nat}
    (h : Served1 (answer c seq r n).1 (answer c seq r n).2 res) : Served1 c n res := by
  obtain ⟨a1, a2, a3, a4⟩ := answer_served c seq r n
  refine ⟨h.cred.trans a1, h.live, h.inst.trans a2, Nat.le_trans a3 h.le, ?_⟩
  intro o ho
  rcases h.table o ho with h1 | ⟨h1, h2⟩
  · rcases a4 o h1 with h3 | ⟨h3, h4⟩
    · exact Or.inl h3
    · exact Or.inr ⟨h3, Nat.lt_of_lt_of_le h4 h.le⟩
  · exact Or.inr ⟨Nat.le_trans a3 h1, h2⟩

theorem consume_served (l : List Item) (c : Cli) (n : Nat) : Served1 c n (consume l c n) := by
  have ended (c : Cli) (n : Nat) : Served1 c n (endServeD c, n) :=
    ⟨endServeD_cred c, endServeD_live c, endServeD_inst c, Nat.le_refl _, fun o ho => Or.inl (endServeD_table c o ho)⟩
  fun_induction consume l c n
  next c n => exact ⟨rfl, by simp [Live], rfl, Nat.le_refl _, fun o ho => Or.inl ho⟩
  next ih => exact ih.after_answer
  next ih => exact ih
  next ih => exact ih
  next c n => exact ended c n
  next c n => exact ended c n
  next c n => exact ended c n
  next c n _ => exact ⟨rfl, by simp [Live], rfl, Nat.le_refl _, fun o ho => Or.inl ho⟩
  next c n _ => exact ended c n

theorem poolConsume_served (l : List Item) (c : Cli) (n : Nat) : Served1 c n (poolConsume l c n) := by
  have ended (c : Cli) (n : Nat) : Served1 c n (endServe c, n) :=
    ⟨endServe_cred c, by simp [Live], by simp, Nat.le_refl _, fun o ho => Or.inl (endServe_table c o ho)⟩
  fun_induction poolConsume l c n
  next c n => exact ⟨rfl, by simp [Live], rfl, Nat.le_refl _, fun o ho => Or.inl ho⟩
  next ih => exact ih.after_answer
  next ih => exact ih
  next ih => exact ih
  next ih => exact ih
  next c n => exact ended c n
  next c n => exact ended c n
  next c n _ => exact ⟨rfl, by simp [Live], rfl, Nat.le_refl _, fun o ho => Or.inl ho⟩
  next c n _ => exact ended c n

/-! ### every function of the automaton -/

/-- `Eff` up to what a one-shot server does when its client ends: its accept thread closes the server (`afterEnd`), and
that touches every client.  Besides, only a pool uses the pool's queue. -/
structure EffO (s t : St) (T : Nat → Prop) : Prop extends Eff s t (fun j => T j ∨ s.cfg.kind = .oneshot) where
  idle : s.cfg.kind ≠ .pool → t.queue = s.queue

/-- from a function that leaves the queue alone -/
theorem Eff.toO {s t : St} {T : Nat → Prop} (e : Eff s t T) (hq : t.queue = s.queue := by rfl) : EffO s t T :=
  ⟨e.mono fun _ => Or.inl, fun _ => hq⟩

/-- from a function that only a pool calls -/
theorem Eff.poolO {s t : St} {T : Nat → Prop} (e : Eff s t T) (hk : s.cfg.kind = .pool) : EffO s t T :=
  ⟨e.mono fun _ => Or.inl, fun h => absurd hk h⟩

theorem EffO.refl (s : St) (T : Nat → Prop) : EffO s s T := (Eff.refl s T).toO

theorem EffO.mono {s t : St} {T T' : Nat → Prop} (e : EffO s t T) (h : ∀ j, T j → T' j) : EffO s t T' :=
  ⟨e.toEff.mono fun j => Or.imp_left (h j), e.idle⟩

theorem EffO.trans {s t u : St} {T T' : Nat → Prop} (e1 : EffO s t T) (e2 : EffO t u T') :
    EffO s u (fun j => T j ∨ T' j) := by
  refine ⟨(e1.toEff.trans e2.toEff).mono ?_, fun hk => (e2.idle (e1.cfg ▸ hk)).trans (e1.idle hk)⟩
  rintro j ((h | h) | (h | h))
  · exact Or.inl (Or.inl h)
  · exact Or.inr h
  · exact Or.inl (Or.inr h)
  · exact Or.inr (e1.cfg ▸ h)

/-- one function after another, both about the same clients -/
theorem EffO.andThen {s t u : St} {T : Nat → Prop} (e1 : EffO s t T) (e2 : EffO t u T) : EffO s u T :=
  (e1.trans e2).mono fun _ h => h.elim id id

/-- whom the arrival of something from client `k` may concern: `k`, and those waiting in the listen queue (the accept loop
may be set going again) -/
def Tw (s : St) (k : Nat) (j : Nat) : Prop := j = k ∨ (s.cli j).phase = .backlog

theorem Tw_or {s t : St} {T : Nat → Prop} {k : Nat} (e : Eff s t T) (j : Nat) (hj : j = k ∨ Tw t k j) : Tw s k j :=
  hj.elim Or.inl (Or.imp_right e.backlog_before)

theorem closeEffect_cred (c : Cli) : (closeEffect c).cred = c.cred := by
  unfold closeEffect shutOne
  split
  · cases c.phase <;> simp [endServeD_cred, release_cred]
  · split <;> rfl

theorem closeEffect_phase (c : Cli) : (closeEffect c).phase = c.phase ∨ Live (closeEffect c).phase := by
  unfold closeEffect shutOne
  split
  · cases h : c.phase <;> first | exact Or.inr (endServeD_live c) | simp [Live, h]
  · split <;> simp [Live]

theorem closeEffect_table (c : Cli) (o : Nat) (h : o ∈ (closeEffect c).table) : o ∈ c.table := by
  unfold closeEffect shutOne at h
  split at h
  · cases hp : c.phase <;> simp [hp] at h <;> first | exact h | exact endServeD_table c o h
  · split at h <;> exact h

theorem dropEffect_cred (c : Cli) : (dropEffect c).cred = c.cred := by
  unfold dropEffect; split <;> simp [endServe_cred]
theorem dropEffect_phase (c : Cli) : (dropEffect c).phase = c.phase ∨ Live (dropEffect c).phase := by
  unfold dropEffect; split <;> simp [Live]
theorem dropEffect_table (c : Cli) (o : Nat) (h : o ∈ (dropEffect c).table) : o ∈ c.table := by
  unfold dropEffect at h; split at h
  · exact endServe_table c o h
  · exact h

theorem baseClose_effC (s : St) : EffC s (baseClose s) (fun _ => True) := by
  unfold baseClose
  split
  · exact EffC.refl s _
  · exact EffC.map s _ closeEffect closeEffect_cred closeEffect_phase closeEffect_inst closeEffect_table rfl rfl rfl rfl

theorem poolClose_effC (s t : St) (h : poolClose s = some t) : EffC s t (fun _ => True) := by
  unfold poolClose at h
  split at h
  · cases h
  · simp only [Option.some.injEq] at h
    subst h
    refine ((baseClose_effC s).trans (EffC.map (baseClose s) { ((baseClose s).mapCli dropEffect) with poolUp := false, blocked := [] }
      dropEffect dropEffect_cred dropEffect_phase dropEffect_inst dropEffect_table rfl rfl rfl rfl)).mono
      (fun _ _ => trivial)

theorem afterEnd_eff (s : St) (k : Nat) : EffO s (afterEnd s k) (· = k) := by
  fun_cases afterEnd s k
  next hk =>
    have e1 : EffC s { (s.set k { s.cli k with tracked := false }) with acceptBusy := none, acceptAlive := false }
        (· = k) :=
      EffC.set1 s _ k { s.cli k with tracked := false } rfl (Or.inl rfl) rfl (fun _ h => h) rfl rfl rfl rfl
    exact ⟨EffC.toEff_oneshot ((e1.trans (baseClose_effC _)).mono (fun j _ => Or.inr hk)) hk
      (fun j hj => Or.inl (by simpa using hj)) (fun j => Or.inr hk), fun _ => baseClose_queue _⟩
  · exact (Eff.set1 s (s.set k { s.cli k with tracked := false }) k { s.cli k with tracked := false } rfl (Or.inl rfl) rfl
      (fun _ h => h) rfl rfl rfl rfl rfl rfl rfl rfl rfl rfl rfl).toO

theorem applyConsumed_eff (s : St) (k : Nat) (r : Cli × Nat) (h : Served1 (s.cli k) s.nextObj r) :
    EffO s (applyConsumed s k r) (· = k) := by
  have e1 : Eff s { (s.set k r.1) with nextObj := r.2 } (· = k) :=
    Eff.setServe s _ k r.1 r.2 (Or.inl h.cred) (Or.inr h.live) (Or.inl h.inst) h.le h.table rfl rfl rfl rfl rfl rfl rfl (Nat.le_refl _) rfl rfl rfl
  unfold applyConsumed
  split
  · exact e1.toO.andThen (afterEnd_eff _ k)
  · exact e1.toO

theorem runDedicated_eff (s : St) (k : Nat) : EffO s (runDedicated s k) (· = k) := by
  unfold runDedicated
  have e0 : Eff s { s with frames := s.frames + dedFrames (s.cli k).inbox } (· = k) :=
    Eff.same s _ _ rfl rfl rfl rfl rfl rfl rfl rfl rfl rfl (fun j hj => Or.inl hj)
  exact e0.toO.andThen (applyConsumed_eff _ k _ (consume_served _ _ _))

theorem serveClient_eff (s : St) (k : Nat) : EffO s (serveClient s k) (· = k) := by
  unfold serveClient
  exact (built_eff s k).toO.andThen (runDedicated_eff _ k)

theorem release_eff (s : St) (k : Nat) : Eff s (s.set k (release (s.cli k))) (· = k) :=
  Eff.set1 s _ k (release (s.cli k)) rfl (Or.inr (by simp [Live])) rfl (fun _ h => h)
    rfl rfl rfl rfl rfl rfl rfl rfl rfl rfl rfl

theorem authServe_eff (s : St) (k : Nat) : EffO s (authServe s k) (· = k) := by
  have rej : EffO s (afterEnd (s.set k (release (s.cli k))) k) (· = k) := (release_eff s k).toO.andThen (afterEnd_eff _ k)
  fun_cases authServe s k
  · exact rej
  · exact serveClient_eff s k
  · exact rej
  · exact rej
  · exact (Eff.set1 s (s.set k { s.cli k with phase := .authing }) k { s.cli k with phase := .authing } rfl
      (Or.inr (by simp [Live])) rfl (fun _ h => h) rfl rfl rfl rfl rfl rfl rfl rfl rfl rfl rfl).toO
  · exact rej
  · exact serveClient_eff s k

/-! #### pool -/

theorem poolPlace_eff (s : St) (k : Nat) (r : Cli × Nat) (h : Served1 (s.cli k) s.nextObj r) :
    Eff s (poolPlace s k r) (· = k) := by
  fun_cases poolPlace s k r
  · exact Eff.setServe s _ k { r.1 with phase := .closing } r.2 (Or.inl h.cred) (Or.inr (by simp [Live])) (Or.inl h.inst) h.le
      h.table rfl rfl rfl rfl rfl rfl rfl (Nat.le_refl _) rfl rfl rfl
  · exact Eff.setServe s _ k { r.1 with inFd := false } r.2 (Or.inl h.cred) (Or.inr h.live) (Or.inl h.inst) h.le
      h.table rfl rfl rfl rfl rfl rfl rfl (Nat.le_refl _) rfl rfl rfl
  · exact Eff.setServe s _ k r.1 r.2 (Or.inl h.cred) (Or.inr h.live) (Or.inl h.inst) h.le h.table
      rfl rfl rfl rfl rfl rfl rfl (Nat.le_refl _) rfl rfl rfl
  · exact Eff.setServe s _ k { r.1 with polled := true } r.2 (Or.inl h.cred) (Or.inr h.live) (Or.inl h.inst) h.le
      h.table rfl rfl rfl rfl rfl rfl rfl (Nat.le_refl _) rfl rfl rfl

theorem poolServeOne_eff (s : St) (k : Nat) : Eff s (poolServeOne s k) (· = k) := by
  unfold poolServeOne
  have e0 : Eff s { s with frames := s.frames + poolFrames (s.cli k).inbox } (· = k) :=
    Eff.same s _ _ rfl rfl rfl rfl rfl rfl rfl rfl rfl rfl (fun j hj => Or.inl hj)
  exact (e0.trans (poolPlace_eff _ k _ (poolConsume_served _ _ _))).mono (fun j hj => hj.elim id id)

/-- free workers serve only connections that were waiting in the queue handed to them -/
theorem drain_eff (l : List Nat) (s : St) : Eff s (drain l s) (· ∈ l) := by
  fun_induction drain l s
  next s => exact Eff.same s _ _ rfl rfl rfl rfl rfl rfl rfl rfl rfl rfl (fun j hj => Or.inr hj)
  next s _ => exact Eff.same s _ _ rfl rfl rfl rfl rfl rfl rfl rfl rfl rfl (fun j hj => Or.inr hj)
  next a l s _ ih =>
    refine ((poolServeOne_eff s a).trans ih).mono ?_
    rintro j (rfl | hj)
    · exact List.mem_cons_self
    · exact List.mem_cons_of_mem _ hj

theorem poolWake_eff (s : St) (k : Nat) : Eff s (poolWake s k) (· = k) := by
  fun_cases poolWake s k
  · exact Eff.refl s _
  · refine ((Eff.set1 s (s.set k { s.cli k with phase := .queued, polled := false }) k
      { s.cli k with phase := .queued, polled := false } rfl (Or.inr (by simp [Live])) rfl (fun _ h => h)
      rfl rfl rfl rfl rfl rfl rfl rfl rfl rfl rfl).trans (drain_eff _ _)).mono' ?_
    intro j hj
    rcases hj with hj | hj
    · exact Or.inl hj
    · simp at hj; rcases hj with hj | hj
      · exact Or.inr hj
      · exact Or.inl hj

theorem poolUnblock_eff (s : St) (k : Nat) : Eff s (poolUnblock s k) (· = k) := by
  fun_cases poolUnblock s k
  · exact Eff.set1 s _ k { endServe (s.cli k) with phase := .closing } (endServe_cred _) (Or.inr (by simp [Live]))
      (endServe_inst _) (fun o h => endServe_table _ o h) rfl rfl rfl rfl rfl rfl rfl rfl rfl rfl rfl
  refine ((Eff.set1 s { (s.set k { endServe (s.cli k) with inFd := false }) with blocked := rm k s.blocked } k
    { endServe (s.cli k) with inFd := false } (endServe_cred _) (Or.inr (by simp [Live])) (endServe_inst _)
    (fun o h => endServe_table _ o h) rfl rfl rfl rfl rfl rfl rfl rfl rfl rfl rfl).trans (drain_eff _ _)).mono' ?_
  intro j hj
  rcases hj with hj | hj
  · exact Or.inl hj
  · exact Or.inr hj

theorem untrackAll_eff (s : St) (hk : s.cfg.kind = .pool) : Eff s (untrackAll s) (fun _ => False) :=
  Eff.mapSame s _ (fun c => { c with tracked := false }) (fun _ => Or.inr rfl) hk
    rfl rfl rfl rfl rfl rfl (Or.inr rfl) rfl rfl rfl rfl

theorem poolBuild_eff (s : St) (k : Nat) (hk : s.cfg.kind = .pool) : Eff s (poolBuild s k) (· = k) := by
  unfold poolBuild
  have e2 : Eff (built s k) ((built s k).set k { (built s k).cli k with inFd := true, polled := true }) (· = k) :=
    Eff.set1 (built s k) _ k { (built s k).cli k with inFd := true, polled := true } rfl (Or.inl rfl) rfl
      (fun _ h => h) rfl rfl rfl rfl rfl rfl rfl rfl rfl rfl rfl
  refine ((((built_eff s k).trans e2).trans (untrackAll_eff _ hk)).trans (poolWake_eff _ k)).mono ?_
  intro j hj
  rcases hj with ((hj | hj) | hj) | hj
  · exact hj
  · exact hj
  · exact absurd hj id
  · exact hj

theorem poolReject_eff (s : St) (k : Nat) (hk : s.cfg.kind = .pool) :
    Eff s (untrackAll (s.set k (release (s.cli k)))) (· = k) :=
  ((release_eff s k).trans (untrackAll_eff _ hk)).mono fun _ hj => hj.elim id False.elim

theorem poolAccept_eff (s : St) (k : Nat) (hk : s.cfg.kind = .pool) : Eff s (poolAccept s k) (· = k) := by
  fun_cases poolAccept s k
  · exact poolReject_eff s k hk
  · exact poolBuild_eff s k hk
  · exact poolReject_eff s k hk
  · exact poolReject_eff s k hk
  next hsil _ _ =>
    -- the stall: only a client that sends no credentials can occupy the accept thread
    refine (EffC.set1 s { (s.set k { s.cli k with phase := .authing }) with acceptBusy := some k } k
      { s.cli k with phase := .authing } rfl (Or.inr (by simp [Live])) rfl (fun _ h => h) rfl rfl rfl rfl).toEff
      (fun _ _ => ⟨rfl, rfl, rfl, rfl, rfl⟩) (fun h1 _ _ _ => ?_) (fun _ => Or.inl)
      (fun _ j hj => set_cli_ne _ _ _ _ hj)
    rcases h1 with h1 | h1 | h1
    · rw [hk] at h1; cases h1
    · rw [hk] at h1; cases h1
    · exact absurd hsil (h1 k)
  · exact poolReject_eff s k hk
  · exact poolBuild_eff s k hk

/-! #### the accept loop and the client actions -/

theorem acceptOne_eff (s : St) (k : Nat) : EffO s (acceptOne s k) (· = k) := by
  fun_cases acceptOne s k
  · have e1 : Eff s { (s.set k { s.cli k with srvFd := true, tracked := true, phase := .idle }) with
        accepted := s.accepted + 1 } (· = k) :=
      Eff.set1 s _ k { s.cli k with srvFd := true, tracked := true, phase := .idle } rfl (Or.inr (by simp [Live])) rfl
        (fun _ h => h) rfl rfl rfl rfl rfl rfl rfl rfl rfl rfl rfl
    exact e1.toO.andThen (authServe_eff _ k)
  · have e1 : Eff s { (s.set k { s.cli k with child := true, phase := .idle }) with accepted := s.accepted + 1 }
        (· = k) :=
      Eff.set1 s _ k { s.cli k with child := true, phase := .idle } rfl (Or.inr (by simp [Live])) rfl
        (fun _ h => h) rfl rfl rfl rfl rfl rfl rfl rfl rfl rfl rfl
    exact e1.toO.andThen (authServe_eff _ k)
  next hk =>
    have e1 : EffC s { (s.set k { s.cli k with srvFd := true, tracked := true, phase := .idle }) with
        accepted := s.accepted + 1, acceptBusy := some k } (· = k) :=
      EffC.set1 s _ k { s.cli k with srvFd := true, tracked := true, phase := .idle } rfl (Or.inr (by simp [Live])) rfl
        (fun _ h => h) rfl rfl rfl rfl
    have e2 := authServe_eff { (s.set k { s.cli k with srvFd := true, tracked := true, phase := .idle }) with
        accepted := s.accepted + 1, acceptBusy := some k } k
    refine ⟨EffC.toEff_oneshot ((e1.trans e2.toC).mono (fun j _ => Or.inr hk)) hk ?_ (fun j => Or.inr hk), e2.idle⟩
    intro j hj
    exact (e2.queue j hj).imp id fun _ => Or.inr hk
  next hk =>
    have e1 : Eff s { (s.set k { s.cli k with srvFd := true, tracked := true, phase := .idle }) with
        accepted := s.accepted + 1 } (· = k) :=
      Eff.set1 s _ k { s.cli k with srvFd := true, tracked := true, phase := .idle } rfl (Or.inr (by simp [Live])) rfl
        (fun _ h => h) rfl rfl rfl rfl rfl rfl rfl rfl rfl rfl rfl
    exact ((e1.trans (poolAccept_eff _ k hk)).mono fun j hj => hj.elim id id).poolO hk

/-- the accept loop touches only clients that were waiting in the listen queue (or in the pool's queue) -/
theorem acceptAll_eff (l : List Nat) (s : St) : EffO s (acceptAll l s) (fun j => (s.cli j).phase = .backlog) := by
  fun_induction acceptAll l s
  next s => exact EffO.refl s _
  next a l s hacc ih =>
    have hb : (s.cli a).phase = .backlog := by simp at hacc; exact hacc.2
    have e1 := acceptOne_eff s a
    refine (e1.trans ih).mono ?_
    rintro j (rfl | hj)
    · exact hb
    · exact e1.backlog_before hj
  next ih => exact ih

/-- pool: the accept thread is done with client `k` and the accept loop goes on -/
theorem resume_eff {s u : St} {k : Nat} (e : Eff s u (· = k)) (hk : u.cfg.kind = .pool) (l : List Nat) :
    EffO s (acceptAll l { u with acceptBusy := none }) (Tw s k) := by
  have e2 : Eff u { u with acceptBusy := none } (fun _ => False) :=
    Eff.mapSame _ _ id (fun _ => Or.inl rfl) hk rfl rfl rfl rfl rfl rfl (Or.inl rfl) rfl rfl rfl rfl
  have e12 := e.trans e2
  refine ((e12.poolO (e.cfg ▸ hk)).trans (acceptAll_eff l _)).mono ?_
  rintro j ((hj | hj) | hj)
  · exact Or.inl hj
  · exact hj.elim
  · exact Or.inr (e12.backlog_before hj)

theorem poolAuthGone_eff (s : St) (k : Nat) (hk : s.cfg.kind = .pool) : EffO s (poolAuthGone s k) (Tw s k) :=
  resume_eff (poolReject_eff s k hk) hk _

theorem poolAuthDone_eff (s : St) (k : Nat) (hk : s.cfg.kind = .pool) : EffO s (poolAuthDone s k) (Tw s k) :=
  resume_eff (poolBuild_eff s k hk) (by rw [(poolBuild_eff s k hk).cfg]; exact hk) _

theorem wake_eff (s : St) (k : Nat) : EffO s (wake s k) (Tw s k) := by
  fun_cases wake s k
  next _ hk => exact ((poolWake_eff s k).poolO hk).mono fun _ => Or.inl
  · exact (runDedicated_eff s k).mono fun _ => Or.inl
  next _ _ hk => exact ((poolUnblock_eff s k).poolO hk).mono fun _ => Or.inl
  · exact (Eff.set1 s (s.set k (endServeD (s.cli k))) k (endServeD (s.cli k)) (endServeD_cred _)
      (Or.inr (endServeD_live _)) (endServeD_inst _) (fun o h => endServeD_table _ o h)
      rfl rfl rfl rfl rfl rfl rfl rfl rfl rfl rfl).toO.mono fun _ => Or.inl
  · exact ((Eff.set1 s (s.set k (endServe (s.cli k))) k (endServe (s.cli k)) (endServe_cred _)
      (Or.inr (by simp [Live])) (endServe_inst _) (fun o h => endServe_table _ o h)
      rfl rfl rfl rfl rfl rfl rfl rfl rfl rfl rfl).toO.andThen (afterEnd_eff _ k)).mono fun _ => Or.inl
  · exact EffO.refl s _
  next _ _ hk => exact poolAuthGone_eff s k hk
  · exact ((release_eff s k).toO.andThen (afterEnd_eff _ k)).mono fun _ => Or.inl
  · exact EffO.refl s _
  · exact EffO.refl s _

/-- the thread of a threaded / one-shot / forking server's client comes back from the blocking `on_disconnect` -/
theorem dedRelease_eff (s : St) (k : Nat) : EffO s (dedRelease s k) (· = k) := by
  unfold dedRelease
  exact (Eff.set1 s (s.set k { s.cli k with phase := .done, child := false, slowHook := false }) k
    { s.cli k with phase := .done, child := false, slowHook := false } rfl (Or.inr (by simp [Live])) rfl
    (fun o h => h) rfl rfl rfl rfl rfl rfl rfl rfl rfl rfl rfl).toO.andThen (afterEnd_eff _ k)

/-- bytes written by a client change nothing the relation reads until the server reads them -/
theorem inbox_eff (s : St) (k : Nat) (c' : Cli) (h1 : c'.cred = (s.cli k).cred) (h2 : c'.phase = (s.cli k).phase)
    (h3 : c'.inst = (s.cli k).inst) (h4 : c'.table = (s.cli k).table) : Eff s (s.set k c') (· = k) :=
  Eff.set1 s _ k c' h1 (Or.inl h2) h3 (fun o h => by rw [← h4]; exact h) rfl rfl rfl rfl rfl rfl rfl rfl rfl rfl rfl

theorem send_eff (s : St) (k : Nat) (l : List Item) : EffO s (send s k l) (Tw s k) := by
  unfold send
  split
  · exact EffO.refl s _
  · have e1 := inbox_eff s k { s.cli k with inbox := (s.cli k).inbox ++ l } rfl rfl rfl rfl
    exact (e1.toO.trans (wake_eff _ k)).mono (Tw_or e1)

/-- late credentials: the record of a client that had sent none -/
theorem cred_eff (s : St) (k : Nat) (c : Cred) (h : (s.cli k).cred = .silent) :
    Eff s (s.set k { s.cli k with cred := c }) (· = k) :=
  Eff.setServe s _ k { s.cli k with cred := c } s.nextObj (Or.inr h) (Or.inl rfl) (Or.inl rfl) (Nat.le_refl _)
    (fun _ h => Or.inl h) rfl rfl rfl rfl rfl rfl rfl (Nat.le_refl _) rfl rfl rfl

theorem supply_eff (s : St) (k : Nat) (c : Cred) (h : (s.cli k).cred = .silent) : EffO s (supply s k c) (Tw s k) := by
  have ec := cred_eff s k c h
  have lift : ∀ {u : St}, EffO (s.set k { s.cli k with cred := c }) u (Tw (s.set k { s.cli k with cred := c }) k) →
      EffO s u (Tw s k) := fun e => (ec.toO.trans e).mono (Tw_or ec)
  fun_cases supply s k c
  · exact ec.toO.mono fun _ => Or.inl
  next _ _ hk _ => exact lift (poolAuthDone_eff _ k hk)
  next _ _ hk _ => exact lift (poolAuthGone_eff _ k hk)
  · exact lift ((serveClient_eff _ k).mono fun _ => Or.inl)
  · exact ((Eff.setServe s (s.set k (release { s.cli k with cred := c })) k (release { s.cli k with cred := c })
      s.nextObj (Or.inr h) (Or.inr (by simp [Live])) (Or.inl rfl) (Nat.le_refl _) (fun _ h => Or.inl h)
      rfl rfl rfl rfl rfl rfl rfl (Nat.le_refl _) rfl rfl rfl).toO.andThen (afterEnd_eff _ k)).mono fun _ => Or.inl
  · exact ec.toO.mono fun _ => Or.inl

/-- who an action is about -/
def Op.client : Op → Option Nat
  | .connect k _ => some k
  | .call k _ => some k
  | .raw k _ => some k
  | .gracefulClose k => some k
  | .abruptClose k => some k
  | .serverClose => none
  | .creds k _ => some k
  | .connectReuse k _ => some k
  | .releaseHook k => some k
  | .acceptFault => none
  | .connectNoSpawn k => some k

/-- whom an action other than a `connect` may concern -/
def touched (s : St) (op : Op) (j : Nat) : Prop :=
  some j = op.client ∨ (s.cli j).phase = .backlog ∨ ((∃ k, op = .releaseHook k) ∧ s.cfg.spare = false ∧ s.cfg.kind = .pool)

theorem Tw.touched {s : St} {op : Op} {k j : Nat} (hc : op.client = some k) (h : Tw s k j) : touched s op j :=
  h.imp (fun h => by rw [hc, h]) Or.inl

theorem dropVictim_cred (c : Cli) : (dropVictim c).cred = c.cred := by simp [dropVictim, endServe_cred]
theorem dropVictim_inst (c : Cli) : (dropVictim c).inst = c.inst := by simp [dropVictim]
theorem dropVictim_table (c : Cli) (o : Nat) (h : o ∈ (dropVictim c).table) : o ∈ c.table :=
  endServe_table c o (by simpa [dropVictim] using h)

/-- the worker leaves the blocking `on_disconnect` of `k` and drops "its" descriptor: with the repaired code only `k`'s own
record changes; with the pinned code possibly the connection of whoever holds that number now -/
theorem poolRelease_eff (s : St) (k : Nat) (hk : s.cfg.kind = .pool) :
    Eff s (poolRelease s k) (touched s (.releaseHook k)) := by
  unfold poolRelease
  -- only `k`'s own record changes, then free workers take what waits in the queue
  have own : ∀ b : List Nat, Eff s
      (drain s.queue { (s.set k { s.cli k with phase := .done, inFd := false, slowHook := false }) with blocked := b })
      (touched s (.releaseHook k)) := by
    intro b
    refine ((Eff.set1 s { (s.set k { s.cli k with phase := .done, inFd := false, slowHook := false }) with blocked := b } k
      { s.cli k with phase := .done, inFd := false, slowHook := false } rfl (Or.inr (by simp [Live])) rfl (fun _ h => h)
      rfl rfl rfl rfl rfl rfl rfl rfl rfl rfl rfl).trans (drain_eff _ _)).mono' ?_
    rintro j (hj | hj)
    · exact Or.inl (Or.inl (hj ▸ rfl))
    · exact Or.inr hj
  split
  · exact own _
  · rename_i hsp
    split
    · rename_i v _
      split
      · exact own _
      · have e1 : Eff s (s.set v (dropVictim (s.cli v))) (· = v) :=
          Eff.set1 s _ v (dropVictim (s.cli v)) (dropVictim_cred _) (Or.inr (by simp [dropVictim, Live]))
            (dropVictim_inst _) (fun o h => dropVictim_table _ o h) rfl rfl rfl rfl rfl rfl rfl rfl rfl rfl rfl
        rename_i hvk
        have hkv : k ≠ v := fun h => hvk h.symm
        have hck : (s.set v (dropVictim (s.cli v))).cli k = s.cli k := set_cli_ne _ _ _ _ hkv
        have e2 : Eff (s.set v (dropVictim (s.cli v)))
            { ((s.set v (dropVictim (s.cli v))).set k { s.cli k with phase := .done, inFd := false, slowHook := false }) with
              blocked := rm k s.blocked } (· = k) :=
          Eff.set1 _ _ k { s.cli k with phase := .done, inFd := false, slowHook := false } (by rw [hck])
            (Or.inr (by simp [Live])) (by rw [hck]) (fun o h => by rw [hck]; exact h)
            rfl rfl rfl rfl rfl rfl rfl rfl rfl rfl rfl
        refine ((e1.trans e2).trans (drain_eff _ _)).mono' ?_
        rintro j ((hj | hj) | hj)
        · exact Or.inl (Or.inr (Or.inr ⟨⟨k, rfl⟩, by simpa using hsp, hk⟩))
        · exact Or.inl (Or.inl (hj ▸ rfl))
        · exact Or.inr hj
    · exact own _

/-- the alphabet of C16: everything clients can do, good or hostile; the administrator does not close the server -/
def Op.c16 : Op → Bool
  | .serverClose => false
  -- an error from `accept()` is an event of the environment, not a client action; for the code that survives it the step
  -- changes nothing (ServerContain: `accept_fault_harmless`, `run_ignores_accept_faults`)
  | .acceptFault => false
  -- a client for which no thread / child can be started: an event of the environment too (Props/C16: `spawn_failure_*`)
  | .connectNoSpawn _ => false
  -- (a newcomer whose socket is given the descriptor number of a connection closed before - `connectReuse`, what every
  -- connect after a disconnect is on a real server - is part of the alphabet)
  | _ => true

/-- what an action of the alphabet does: a step within `EffO` (nothing at all, for a `connect` that is refused), or a
newcomer arrives - on a reused descriptor number after the stale entry under that number was replaced -/
theorem step_c16 {s t : St} {o : Obs} {op : Op} (hop : op.c16 = true) (hs : step s op = .ok (t, o)) :
    EffO s t (touched s op) ∨ (∃ k cred, op = .connect k cred ∧ t = arrive s k cred) ∨
    ∃ k j, op = .connectReuse k j ∧ ((s.cli j).phase = .closing ∨ (s.cli j).phase = .done) ∧
      t = arrive (displace s k j) k .good := by
  -- `call`, `raw`, `gracefulClose`, `abruptClose`: something is sent after a change to the sender's own record
  have sent : ∀ (k : Nat) (c' : Cli) (l : List Item), c'.cred = (s.cli k).cred → c'.phase = (s.cli k).phase →
      c'.inst = (s.cli k).inst → c'.table = (s.cli k).table → op.client = some k →
      EffO s (send (s.set k c') k l) (touched s op) := by
    intro k c' l h1 h2 h3 h4 hc
    have e1 := inbox_eff s k c' h1 h2 h3 h4
    exact ((e1.toO.trans (send_eff _ k l)).mono (Tw_or e1)).mono fun j => Tw.touched hc
  cases op with
  | serverClose | acceptFault | connectNoSpawn k => cases hop
  | connect k cred =>
    obtain ⟨-, -, ⟨-, rfl, -⟩ | ⟨-, rfl, -⟩⟩ := step_ok hs
    · exact Or.inl (EffO.refl _ _)
    · exact Or.inr (Or.inl ⟨k, cred, rfl, rfl⟩)
  | connectReuse k j =>
    obtain ⟨⟨-, -, hp, -⟩, rfl, -⟩ := step_ok hs
    exact Or.inr (Or.inr ⟨k, j, rfl, hp, rfl⟩)
  | call k r | raw k l | gracefulClose k | abruptClose k =>
    obtain ⟨-, rfl, -⟩ := step_ok hs
    exact Or.inl (sent k _ _ rfl rfl rfl rfl rfl)
  | creds k c =>
    obtain ⟨hsil, rfl, -⟩ := step_ok hs
    exact Or.inl ((supply_eff s k c hsil).mono fun j => Tw.touched rfl)
  | releaseHook k =>
    obtain ⟨-, ⟨hpool, rfl⟩ | ⟨-, rfl⟩, -⟩ := step_ok hs
    · exact Or.inl ((poolRelease_eff s k hpool).poolO hpool)
    · exact Or.inl ((dedRelease_eff s k).mono fun j hj => Or.inl (hj ▸ rfl))

theorem step_close_effC {s t : St} {o : Obs} (h : step s .serverClose = .ok (t, o)) : EffC s t (fun _ => True) := by
  rcases (step_ok h).1 with ⟨_, hp⟩ | ⟨_, rfl⟩
  · exact poolClose_effC s t hp
  · exact baseClose_effC s

/-- the events outside that alphabet: nothing happens (an error from `accept()` that is logged, a newcomer refused by a
closed listener), the server closes, or a newcomer is turned away -/
theorem step_env {s t : St} {o : Obs} {op : Op} (hop : op.c16 = false) (hs : step s op = .ok (t, o)) :
    t = s ∨ step s .serverClose = .ok (t, o) ∨ ∃ k, t = rejectNew s k := by
  cases op with
  | serverClose => exact Or.inr (Or.inl hs)
  | acceptFault => exact (step_ok hs).2.imp (·.2.1) fun h => Or.inl h.2
  | connectNoSpawn k => exact (step_ok hs).2.imp (·.1) fun h => Or.inr ⟨k, h.2.1⟩
  | _ => cases hop

/-! ### the configuration never changes -/

theorem arrive_cfg (s : St) (k : Nat) (cred : Cred) : (arrive s k cred).cfg = s.cfg :=
  (acceptAll_eff (s.ids ++ [k]) (joined s k cred)).cfg

theorem step_cfg {s s' : St} {o : Obs} (op : Op) (h : step s op = .ok (s', o)) : s'.cfg = s.cfg := by
  cases hop : op.c16 with
  | true =>
    rcases step_c16 hop h with e | ⟨k, cred, _, rfl⟩ | ⟨k, j, _, _, rfl⟩
    · exact e.cfg
    · exact arrive_cfg s k cred
    · exact arrive_cfg (displace s k j) k .good
  | false =>
    rcases step_env hop h with rfl | h' | ⟨k, rfl⟩
    · rfl
    · exact (step_close_effC h').cfg
    · rfl

theorem run_cfg (l : List Op) (s : St) : (run s l).cfg = s.cfg :=
  run_inv (P := fun t => t.cfg = s.cfg) (A := fun _ => True) (fun h _ hs => (step_cfg _ hs).trans h) rfl l fun _ _ => trivial

theorem Reach.cfg {cfg : Cfg} {s : St} (h : Reach cfg s) : s.cfg = cfg := by
  obtain ⟨ops, _, rfl⟩ := h
  rw [run_cfg]; rfl

end Rpyc.Srv
