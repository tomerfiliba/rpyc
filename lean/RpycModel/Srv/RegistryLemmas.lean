import RpycModel.Srv.RegistryTable
/-
The generated facts about the interpreter and about the code under test, the abstract view of the registry's table, its
representation invariant, and what `_add_service` and `_remove_service` do to both.
-/
namespace Rpyc.Registry
open Rpyc

/-! ### facts about the interpreter the check runs under and about the code under test (generated; each is a named obligation) -/

/-- every brine value can be a dict key (Python >= 3.12: `slice` is hashable) -/
theorem brine_values_hashable : Gen.allBrineValuesHashable = true := by decide

/-- the real `logging.Logger` survives the two `warn` calls that sit outside every `try` in `_work` -/
theorem real_logger_survives_warn : Gen.realLoggerSurvivesWarn = true := by decide

/-- `brine.dump(reply)` and `_send` sit inside a guard of their own: when they raise, `_work` logs and goes on
(observed on the live loop with a `brine` whose dump of one reply raises RecursionError) -/
theorem reply_dump_guarded : Gen.replyDumpGuarded = true := by decide

mutual
theorem hashable_true : ∀ v, hashable v = true
  | .none | .notImpl | .ellipsis | .bool _ | .int _ | .float _ | .complex _ _ | .bytes _ | .str _ | .fset _ | .other _ => by
    first | rfl | (simp only [hashable]; decide)
  | .tuple xs => by simp only [hashable, hashableL_true xs, Bool.and_true]; decide
  | .slice a b c => by simp only [hashable, hashable_true a, hashable_true b, hashable_true c, Bool.and_true]; decide
theorem hashableL_true : ∀ xs, hashableL xs = true
  | [] => rfl
  | x :: xs => by simp only [hashableL, hashable_true x, hashableL_true xs, Bool.and_true]
end

theorem warnStep_eq_idle (sv : Services) : warnStep sv = idle sv := by
  simp [warnStep, idle, real_logger_survives_warn]

/-- the abstract registry: (name code, address code) ↦ time of the last refresh -/
abbrev AbsMap := List Nat → List Nat → Option Int

def viewInner (o : Option Inner) (a : List Nat) : Option Int :=
  match o with
  | none => none
  | some inner => alFind addrCode inner a

def view (sv : Services) : AbsMap := fun n a => viewInner (alFind keyCode sv n) a

/-- the association lists are dicts: keys distinct up to `keyCode` / `addrCode`; and no name is kept with an empty inner
dict (`afterPop` deletes it) -/
def Inv (sv : Services) : Prop :=
  (alKeys keyCode sv).Nodup ∧ ∀ e ∈ sv, (alKeys addrCode e.2).Nodup ∧ e.2 ≠ []

theorem inv_nil : Inv [] := ⟨by simp, by simp⟩

theorem Inv.inner_nodup {sv : Services} (h : Inv sv) {c : List Nat} {inner : Inner} (hf : alFind keyCode sv c = some inner) :
    (alKeys addrCode inner).Nodup := by
  obtain ⟨_, hm, _⟩ := mem_of_alFind keyCode sv c inner hf
  exact (h.2 _ hm).1

theorem view_nil (n a : List Nat) : view [] n a = none := rfl

theorem view_none_of_absent (sv : Services) (n : List Nat) (h : alFind keyCode sv n = none) (x : List Nat) :
    view sv n x = none := by
  simp [view, h, viewInner]

theorem innerOf_nil_or_mem (sv : Services) (name : Val) : innerOf sv name = [] ∨ ∃ k, (k, innerOf sv name) ∈ sv := by
  unfold innerOf
  cases hf : alFind keyCode sv (keyCode name) with
  | none => exact .inl rfl
  | some inner =>
    obtain ⟨k, hm, _⟩ := mem_of_alFind keyCode sv _ inner hf
    exact .inr ⟨k, hm⟩

theorem innerOf_nodup (sv : Services) (name : Val) (h : Inv sv) : (alKeys addrCode (innerOf sv name)).Nodup := by
  rcases innerOf_nil_or_mem sv name with h0 | ⟨k, hm⟩
  · rw [h0]; exact List.nodup_nil
  · exact (h.2 _ hm).1

theorem alFind_innerOf (sv : Services) (name : Val) (a : List Nat) :
    alFind addrCode (innerOf sv name) a = view sv (keyCode name) a := by
  unfold innerOf view viewInner
  cases alFind keyCode sv (keyCode name) <;> rfl

/-! ### the inner dict under one name replaced: what `_add_service` and `_remove_service` both come to -/

theorem view_alSet (sv : Services) (name : Val) (inner : Inner) (n x : List Nat) :
    view (alSet keyCode sv name inner) n x = if n = keyCode name then alFind addrCode inner x else view sv n x := by
  unfold view
  rw [alFind_alSet]
  exact apply_ite (viewInner · x) _ _ _

theorem inv_alSet (sv : Services) (name : Val) (inner : Inner) (h : Inv sv) (hnd : (alKeys addrCode inner).Nodup)
    (hne : inner ≠ []) : Inv (alSet keyCode sv name inner) := by
  refine ⟨nodup_alSet _ _ _ _ h.1, fun e he => ?_⟩
  rcases mem_alSet _ _ _ _ _ he with he' | ⟨he', _⟩
  · exact h.2 e he'
  · rw [he']; exact ⟨hnd, hne⟩

/-- an empty dict is deleted instead of stored, and finds nothing either way -/
theorem view_afterPop (sv : Services) (name : Val) (inner : Inner) (h : (alKeys keyCode sv).Nodup) (n x : List Nat) :
    view (afterPop sv name inner) n x = if n = keyCode name then alFind addrCode inner x else view sv n x := by
  unfold afterPop
  split
  · have he : inner = [] := List.isEmpty_iff.mp ‹_›
    subst he
    unfold view
    rw [alFind_alErase _ _ _ _ h]
    exact apply_ite (viewInner · x) _ _ _
  · exact view_alSet sv name inner n x

theorem inv_afterPop (sv : Services) (name : Val) (inner : Inner) (h : Inv sv) (hnd : (alKeys addrCode inner).Nodup) :
    Inv (afterPop sv name inner) := by
  unfold afterPop
  split
  · exact ⟨nodup_alErase _ _ _ h.1, fun e hm => h.2 e ((alErase_sublist keyCode sv _).subset hm)⟩
  · exact inv_alSet sv name inner h hnd (fun hnil => ‹¬ _› (by rw [hnil]; rfl))

theorem ite_pair {α : Type} (m : List Nat → List Nat → α) (k c n x : List Nat) (v : α) :
    (if n = k then (if x = c then v else m k x) else m n x) = if n = k ∧ x = c then v else m n x := by
  by_cases hn : n = k
  · simp only [hn, true_and, if_true]
  · simp only [hn, false_and, if_false]

theorem view_addService (sv : Services) (name : Val) (a : Addr) (now : Int) (n x : List Nat) :
    view (addService sv name a now).1 n x
      = if n = keyCode name ∧ x = addrCode a then some now else view sv n x := by
  unfold addService
  rw [view_alSet, alFind_alSet, alFind_innerOf]
  exact ite_pair (view sv) _ _ n x _

theorem inv_addService (sv : Services) (name : Val) (a : Addr) (now : Int) (h : Inv sv) :
    Inv (addService sv name a now).1 :=
  inv_alSet sv name _ h (nodup_alSet _ _ _ _ (innerOf_nodup sv name h)) (alSet_ne_nil _ _ _ _)

theorem notes_addService (sv : Services) (name : Val) (a : Addr) (now : Int) :
    (addService sv name a now).2
      = if (view sv (keyCode name) (addrCode a)).isNone then [.added name a] else [] := by
  unfold addService
  simp only [alFind_innerOf]

theorem view_removeService (sv : Services) (name : Val) (a : Addr) (h : Inv sv) (n x : List Nat) :
    view (removeService sv name a).sv n x
      = if n = keyCode name ∧ x = addrCode a then none else view sv n x := by
  unfold removeService
  cases hf : alFind keyCode sv (keyCode name) with
  | none =>
    simp only
    by_cases hn : n = keyCode name ∧ x = addrCode a
    · rw [if_pos hn, hn.1]
      exact view_none_of_absent sv _ hf x
    · rw [if_neg hn]
  | some inner =>
    have hv : alFind addrCode inner x = view sv (keyCode name) x := by unfold view; rw [hf]; rfl
    rw [view_afterPop _ _ _ h.1, alFind_alErase _ _ _ _ (h.inner_nodup hf), hv]
    exact ite_pair (view sv) _ _ n x _

theorem inv_removeService (sv : Services) (name : Val) (a : Addr) (h : Inv sv) : Inv (removeService sv name a).sv := by
  unfold removeService
  cases hf : alFind keyCode sv (keyCode name) with
  | none => exact h
  | some inner => exact inv_afterPop sv name _ h (nodup_alErase _ _ _ (h.inner_nodup hf))

theorem removeService_sublist (sv : Services) (name : Val) (a : Addr) :
    ∀ e ∈ (removeService sv name a).sv, ∃ e' ∈ sv, e.2.Sublist e'.2 := by
  unfold removeService
  cases hf : alFind keyCode sv (keyCode name) with
  | none => exact fun e he => ⟨e, he, .refl _⟩
  | some inner =>
    obtain ⟨k, hm, _⟩ := mem_of_alFind keyCode sv _ inner hf
    simp only [afterPop]
    split
    · exact fun e he => ⟨e, (alErase_sublist keyCode sv _).subset he, .refl _⟩
    · intro e he
      rcases mem_alSet keyCode _ _ _ e he with he' | ⟨he', _⟩
      · exact ⟨e, he', .refl _⟩
      · exact ⟨_, hm, he' ▸ alErase_sublist addrCode inner _⟩

theorem notes_removeService (sv : Services) (name : Val) (a : Addr) :
    (removeService sv name a).notes
      = if (view sv (keyCode name) (addrCode a)).isSome then [.removed name a] else [] := by
  unfold removeService
  cases hf : alFind keyCode sv (keyCode name) with
  | none => simp [view, hf, viewInner]
  | some inner => simp [view, hf, viewInner]

theorem err_removeService (sv : Services) (name : Val) (a : Addr) :
    (removeService sv name a).err = if (alFind keyCode sv (keyCode name)).isSome then none else some .keyError := by
  unfold removeService
  cases hf : alFind keyCode sv (keyCode name) <;> simp

theorem present_of_view (sv : Services) (n x : List Nat) (h : (view sv n x).isSome = true) :
    (alFind keyCode sv n).isSome = true := by
  cases hf : alFind keyCode sv n with
  | none => rw [view_none_of_absent sv n hf] at h; cases h
  | some _ => rfl

end Rpyc.Registry
