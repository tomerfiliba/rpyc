import RpycModel.Srv.RegistryNotes
/-
The loops of the three commands: invariant, notifications, and effect on the abstract view.  The loops of
`cmd_unregister` and `cmd_query` are runs of `_remove_service` (`Removes`); what holds of every such run is proved once.
-/
namespace Rpyc.Registry
open Rpyc

@[simp] theorem prepend_sv (ns : List Note) (r : Res) : (Res.prepend ns r).sv = r.sv := rfl
@[simp] theorem prepend_notes (ns : List Note) (r : Res) : (Res.prepend ns r).notes = ns ++ r.notes := rfl
@[simp] theorem prepend_err (ns : List Note) (r : Res) : (Res.prepend ns r).err = r.err := rfl

/-- how the effect of a loop's first iteration on the view joins that of the rest -/
theorem ite_ite_same {α : Type} {A B C : Prop} [Decidable A] [Decidable B] [Decidable C] (h : C ↔ A ∨ B) (v m : α) :
    (if A then v else if B then v else m) = if C then v else m := by
  by_cases hA : A
  · rw [if_pos hA, if_pos (h.2 (.inl hA))]
  · by_cases hB : B
    · rw [if_neg hA, if_pos hB, if_pos (h.2 (.inr hB))]
    · rw [if_neg hA, if_neg hB, if_neg fun hC => (h.1 hC).elim hA hB]

def upperCodes (env : Env) (ss : List (List Nat)) : List (List Nat) :=
  ss.map (fun s => keyCode (.str (strUpper env s)))

theorem regLoop_spec (env : Env) (a : Addr) (now : Int) : ∀ (ss : List (List Nat)) (sv : Services), Inv sv →
    Inv (regLoop env a now ss sv).1 ∧ Grow sv (regLoop env a now ss sv).1
    ∧ Exact sv (regLoop env a now ss sv).2 (regLoop env a now ss sv).1
    ∧ ∀ n x, view (regLoop env a now ss sv).1 n x
        = if n ∈ upperCodes env ss ∧ x = addrCode a then some now else view sv n x
  | [], sv, h => ⟨h, grow_refl sv, exact_refl sv, by simp [regLoop, upperCodes]⟩
  | s :: ss, sv, h => by
    have h1 := inv_addService sv (.str (strUpper env s)) a now h
    obtain ⟨i2, g2, e2, v2⟩ := regLoop_spec env a now ss _ h1
    simp only [regLoop]
    refine ⟨i2, grow_trans (grow_addService _ _ _ _) g2,
      exact_trans_grow (exact_addService _ _ _ _) e2 (grow_addService _ _ _ _) g2, ?_⟩
    intro n x
    rw [v2, view_addService]
    exact ite_ite_same (by rw [upperCodes, List.map_cons, List.mem_cons, or_and_right, or_comm]; rfl) _ _

/-- `Removes sv ns sv'`: some sequence of `_remove_service` calls, on whatever names and addresses, takes the table `sv`
to `sv'` and fires the notifications `ns` -/
inductive Removes : Services → List Note → Services → Prop
  | nil (sv : Services) : Removes sv [] sv
  | cons (sv : Services) (name : Val) (a : Addr) (ns : List Note) (sv' : Services) :
      Removes (removeService sv name a).sv ns sv' → Removes sv ((removeService sv name a).notes ++ ns) sv'

theorem Removes.one (sv : Services) (name : Val) (a : Addr) :
    Removes sv (removeService sv name a).notes (removeService sv name a).sv := by
  have := Removes.cons sv name a [] _ (.nil _)
  rwa [List.append_nil] at this

theorem Removes.spec {sv sv' : Services} {ns : List Note} (r : Removes sv ns sv') (h : Inv sv) :
    Inv sv' ∧ Shrink sv sv' ∧ Exact sv ns sv' := by
  induction r with
  | nil sv => exact ⟨h, shrink_refl sv, exact_refl sv⟩
  | cons sv name a ns sv' _ ih =>
    obtain ⟨i2, s2, e2⟩ := ih (inv_removeService sv name a h)
    exact ⟨i2, shrink_trans (shrink_removeService sv name a h) s2,
      exact_trans_shrink (exact_removeService sv name a h) e2 (shrink_removeService sv name a h) s2⟩

theorem Removes.sublist {sv sv' : Services} {ns : List Note} (r : Removes sv ns sv') :
    ∀ e ∈ sv', ∃ e' ∈ sv, e.2.Sublist e'.2 := by
  induction r with
  | nil sv => exact fun e he => ⟨e, he, .refl _⟩
  | cons sv name a _ _ _ ih =>
    intro e he
    obtain ⟨e1, he1, s1⟩ := ih e he
    obtain ⟨e0, he0, s0⟩ := removeService_sublist sv name a e1 he1
    exact ⟨e0, he0, s1.trans s0⟩

theorem alFind_removeService_other (sv : Services) (name : Val) (a : Addr) (c : List Nat) (hc : c ≠ keyCode name) :
    alFind keyCode (removeService sv name a).sv c = alFind keyCode sv c := by
  unfold removeService
  cases hf : alFind keyCode sv (keyCode name) with
  | none => rfl
  | some inner =>
    simp only [afterPop]
    split
    · exact alFind_alErase_other _ _ _ _ hc
    · exact alFind_alSet_other _ _ _ _ _ hc

theorem unregLoop_removes (a : Addr) : ∀ (names : List Val) (sv : Services),
    Removes sv (unregLoop a names sv).notes (unregLoop a names sv).sv
  | [], sv => .nil sv
  | m :: ms, sv => by
    simp only [unregLoop]
    cases (removeService sv m a).err with
    | some e => exact .one sv m a
    | none => exact .cons sv m a _ _ (unregLoop_removes a ms _)

theorem unregLoop_ok (a : Addr) : ∀ (names : List Val) (sv : Services), Inv sv → (names.map keyCode).Nodup →
    (∀ m ∈ names, (alFind keyCode sv (keyCode m)).isSome = true) →
    (unregLoop a names sv).err = none
    ∧ ∀ n x, view (unregLoop a names sv).sv n x
        = if n ∈ names.map keyCode ∧ x = addrCode a then none else view sv n x := by
  intro names sv
  fun_induction unregLoop a names sv <;> intro h hnd hp
  next sv => exact ⟨rfl, by simp⟩
  next m ms sv e he => rw [err_removeService, hp m (by simp)] at he; cases he
  next m ms sv he ih =>
    simp only [List.map_cons, List.nodup_cons] at hnd
    have hp' : ∀ m' ∈ ms, (alFind keyCode (removeService sv m a).sv (keyCode m')).isSome = true := by
      intro m' hm'
      have hne : keyCode m' ≠ keyCode m := fun hh => hnd.1 (hh ▸ List.mem_map.mpr ⟨m', hm', rfl⟩)
      rw [alFind_removeService_other _ _ _ _ hne]
      exact hp m' (by simp [hm'])
    obtain ⟨e2, v2⟩ := ih (inv_removeService sv m a h) hnd.2 hp'
    refine ⟨e2, ?_⟩
    intro n x
    rw [prepend_sv, v2, view_removeService sv m a h]
    exact ite_ite_same (by rw [List.map_cons, List.mem_cons, or_and_right, or_comm]) _ _

@[simp] theorem unregFinish_sv (r : Res) : (unregFinish r).sv = r.sv := by
  unfold unregFinish; split <;> rfl
@[simp] theorem unregFinish_notes (r : Res) : (unregFinish r).notes = r.notes := by
  unfold unregFinish; split <;> rfl

theorem unregFinish_removes (a : Addr) (names : List Val) (sv : Services) :
    Removes sv (unregFinish (unregLoop a names sv)).notes (unregFinish (unregLoop a names sv)).sv := by
  rw [unregFinish_sv, unregFinish_notes]
  exact unregLoop_removes a names sv

def staleIn (oldest : Int) (work : List (Addr × Int)) (x : List Nat) : Bool :=
  work.any (fun e => decide (e.2 < oldest) && (addrCode e.1 == x))

theorem queryLoop_removes (name : Val) (oldest : Int) : ∀ (work : List (Addr × Int)) (sv : Services),
    Removes sv (queryLoop name oldest work sv).1.notes (queryLoop name oldest work sv).1.sv
  | [], sv => .nil sv
  | (a, t) :: rest, sv => by
    simp only [queryLoop]
    split
    · cases (removeService sv name a).err with
      | some e => exact .one sv name a
      | none => exact .cons sv name a _ _ (queryLoop_removes name oldest rest _)
    · exact queryLoop_removes name oldest rest sv

theorem queryLoop_ok (name : Val) (oldest : Int) : ∀ (work : List (Addr × Int)) (sv : Services), Inv sv →
    (alKeys addrCode work).Nodup →
    (∀ e ∈ work, (view sv (keyCode name) (addrCode e.1)).isSome = true) →
    (queryLoop name oldest work sv).1.err = none
    ∧ (queryLoop name oldest work sv).2 = (work.filter (fun e => !decide (e.2 < oldest))).map Prod.fst
    ∧ ∀ n x, view (queryLoop name oldest work sv).1.sv n x
        = if n = keyCode name ∧ staleIn oldest work x = true then none else view sv n x := by
  intro work sv
  fun_induction queryLoop name oldest work sv <;> intro h hnd hp
  next sv => exact ⟨rfl, rfl, by simp [staleIn]⟩
  next a t rest sv ht e he =>
    -- the entry is in the view, so `_remove_service` finds the name
    rw [err_removeService, present_of_view sv _ _ (hp (a, t) (by simp))] at he; cases he
  next a t rest sv ht he ih =>
    simp only [alKeys_cons, List.nodup_cons] at hnd
    have hp' : ∀ e ∈ rest, (view (removeService sv name a).sv (keyCode name) (addrCode e.1)).isSome = true := by
      intro e hm
      have hne : addrCode e.1 ≠ addrCode a := fun hh => hnd.1 (hh ▸ List.mem_map.mpr ⟨e, hm, rfl⟩)
      rw [view_removeService sv name a h]
      simp only [hne, and_false, if_false]
      exact hp e (by simp [hm])
    obtain ⟨e2, f2, v2⟩ := ih (inv_removeService sv name a h) hnd.2 hp'
    refine ⟨e2, ?_, ?_⟩
    · simp only []; rw [f2]; simp [List.filter, ht]
    · intro n x
      simp only [prepend_sv]
      rw [v2, view_removeService sv name a h]
      have hst : staleIn oldest ((a, t) :: rest) x = ((addrCode a == x) || staleIn oldest rest x) := by
        simp [staleIn, ht]
      rw [hst]
      exact ite_ite_same (by rw [← and_or_left, Bool.or_eq_true, beq_iff_eq, @eq_comm _ (addrCode a) x, or_comm]) _ _
  next a t rest sv ht ih =>
    simp only [alKeys_cons, List.nodup_cons] at hnd
    obtain ⟨e2, f2, v2⟩ := ih h hnd.2 fun e hm => hp e (by simp [hm])
    refine ⟨e2, ?_, ?_⟩
    · simp only []; rw [f2]; simp [List.filter, ht]
    · intro n x
      simp only []
      rw [v2]
      have hst : staleIn oldest ((a, t) :: rest) x = staleIn oldest rest x := by simp [staleIn, ht]
      rw [hst]

@[simp] theorem queryFinish_sv (r : Res × List Addr) : (queryFinish r).sv = r.1.sv := by
  unfold queryFinish; split <;> rfl
@[simp] theorem queryFinish_notes (r : Res × List Addr) : (queryFinish r).notes = r.1.notes := by
  unfold queryFinish; split <;> rfl

/-- a name that is not stored is answered like one without servers: the loop over an empty snapshot -/
theorem queryUpper_eq (pruning : Int) (sv : Services) (NAME : Val) (now : Int) :
    queryUpper pruning sv NAME now = queryFinish (queryLoop NAME (now - pruning) (sortByTime (innerOf sv NAME)) sv) := by
  unfold queryUpper innerOf
  cases alFind keyCode sv (keyCode NAME) <;> rfl

theorem queryUpper_removes (pruning : Int) (sv : Services) (NAME : Val) (now : Int) :
    Removes sv (queryUpper pruning sv NAME now).notes (queryUpper pruning sv NAME now).sv := by
  rw [queryUpper_eq, queryFinish_sv, queryFinish_notes]
  exact queryLoop_removes NAME (now - pruning) _ sv

end Rpyc.Registry
