import RpycModel.Srv.RegistryWork
import RpycModel.Srv.RegistryBrine
/-
The loop never dies, over whole histories: every address the registry stores was decoded from a genuine
datagram (or is the transport's host text), so it can be dumped again; and a name gains at most one server per
datagram, so a reply is a tuple of fewer than 2^32 items for any history shorter than that.
-/
namespace Rpyc.Registry
open Rpyc Rpyc.Brine

/-- the one law assumed of the environment: iterating a frozenset yields members of it -/
def EnvOk (env : Env) : Prop := ∀ xs x, x ∈ env.fsetIter xs → x ∈ xs

theorem dumpableL_mem : ∀ (xs : List Val) (x : Val), dumpableL xs = true → x ∈ xs → dumpable x = true
  | [], _, _, hm => by simp at hm
  | y :: ys, x, hd, hm => by
    simp only [dumpableL, Bool.and_eq_true] at hd
    simp only [List.mem_cons] at hm
    rcases hm with rfl | hm
    · exact hd.1
    · exact dumpableL_mem ys x hd.2 hm

theorem iterate_fine (env : Env) (hE : EnvOk env) (B : Nat) (hB : 1 ≤ B) (v : Val) (xs : List Val)
    (hv : Fine B v) (h : iterate' env v = .ok xs) : ∀ x ∈ xs, Fine B x := by
  obtain ⟨hd, hf⟩ := hv
  revert h
  fun_cases iterate' env v <;> intro h <;> cases h
  next =>
    simp only [dumpable] at hd
    simp only [fits, Bool.and_eq_true] at hf
    exact fun x hx => ⟨dumpableL_mem _ x hd hx, fitsL_mem B _ x hf.2 hx⟩
  next ys =>
    simp only [dumpable] at hd
    simp only [fits, Bool.and_eq_true] at hf
    exact fun x hx => ⟨dumpableL_mem _ x hd (hE _ _ hx), fitsL_mem B _ x hf.2 (hE _ _ hx)⟩
  next b =>
    have hlt := bytes_lt B b hf
    intro x hx
    obtain ⟨y, hy, rfl⟩ := List.mem_map.mp hx
    exact ⟨rfl, byte_fits B hB y (hlt y hy)⟩
  next s =>
    intro x hx
    obtain ⟨y, _, rfl⟩ := List.mem_map.mp hx
    exact ⟨rfl, by simp only [fits, List.length_cons, List.length_nil, decide_eq_true_eq]; omega⟩

theorem fine_storable (B : Nat) (hB : 4 * B + 4 < 2 ^ 32) (v : Val) (h : Fine B v) : Storable v = true := by
  simp only [Storable, Bool.and_eq_true]
  exact ⟨h.1, fits_inDomain B hB v h.2⟩

/-- the half of `SvStorable` that speaks of the addresses; the other half, the number of servers under a name, is `Bounded` -/
def ElemStorable (sv : Services) : Prop := ∀ e ∈ sv, ∀ x ∈ e.2, Storable x.1.1 = true ∧ Storable x.1.2 = true

theorem elem_addService (sv : Services) (name : Val) (a : Addr) (now : Int) (h : ElemStorable sv)
    (ha : Storable a.1 = true ∧ Storable a.2 = true) : ElemStorable (addService sv name a now).1 := by
  unfold addService
  intro e he x hx
  rcases mem_alSet keyCode _ _ _ e he with he' | ⟨he', _⟩
  · exact h e he' x hx
  -- the new inner dict: its addresses are `a` or were in `innerOf sv name`, which is empty or an entry of `sv`
  have hin : ∀ y ∈ innerOf sv name, Storable y.1.1 = true ∧ Storable y.1.2 = true := by
    rcases innerOf_nil_or_mem sv name with h0 | ⟨k, hm⟩
    · rw [h0]; exact fun y hy => nomatch hy
    · exact h _ hm
  rw [he'] at hx
  rcases mem_alSet addrCode _ _ _ x hx with hx' | ⟨_, hk | ⟨w, hw⟩⟩
  · exact hin x hx'
  · rw [hk]; exact ha
  · exact hin (x.1, w) hw

theorem elem_regLoop (env : Env) (a : Addr) (now : Int) (ha : Storable a.1 = true ∧ Storable a.2 = true) :
    ∀ (ss : List (List Nat)) (sv : Services), ElemStorable sv → ElemStorable (regLoop env a now ss sv).1
  | [], _, h => h
  | s :: ss, sv, h => by
    simp only [regLoop]
    exact elem_regLoop env a now ha ss _ (elem_addService sv _ a now h ha)

theorem Removes.elem {sv sv' : Services} {ns : List Note} (r : Removes sv ns sv') (h : ElemStorable sv) :
    ElemStorable sv' := by
  intro e he x hx
  obtain ⟨e', he', hs⟩ := r.sublist e he
  exact h e' he' x (hs.subset hx)

theorem elem_callCmd (env : Env) (pruning : Int) (sv : Services) (host : Val) (now : Int) (c : CmdName) (xs : List Val)
    (h : ElemStorable sv) (hh : Storable host = true) (hx : ∀ x ∈ xs, Storable x = true) :
    ElemStorable (callCmd env pruning sv host now c xs).sv := by
  rcases callCmd_cases env pruning sv host now c xs with ⟨e, hc, _⟩ | ⟨NAME, hc, _⟩ | ⟨ss, port, hp, hc, _⟩ | ⟨port, hc, _⟩ <;>
    rw [hc]
  · exact h
  · exact (queryUpper_removes pruning sv NAME now).elem h
  · exact elem_regLoop env (host, port) now ⟨hh, hx port hp⟩ ss sv h
  · exact (unregFinish_removes (host, port) _ sv).elem h

/-- a genuine datagram: bytes, and short enough (real ones have at most MAX_DGRAM_SIZE bytes) -/
def Genuine (d : Bytes) : Prop := (∀ x ∈ d, x < 256) ∧ d.length < 2 ^ 29

theorem elem_workStep (env : Env) (hE : EnvOk env) (pruning : Int) (sv : Services) (host : Val) (dgram : Bytes) (now : Int)
    (h : ElemStorable sv) (hh : Storable host = true) (hg : Genuine dgram) :
    ElemStorable (workStep env pruning sv host dgram now).sv := by
  rcases workStep_cases env pruning sv host dgram now with ⟨hs, _⟩ | ⟨v, ys, args, c, xs, hl, hys, hargs, hxs, hs, _⟩ <;>
    rw [hs]
  · exact h
  -- the arguments were decoded from the datagram, so every length in them is bounded by its length
  obtain ⟨⟨hd, hf⟩, _⟩ := load_storable dgram v hg.1 hg.2 hl
  have hB : 4 * (dgram.length + 1) + 4 < 2 ^ 32 := by have := hg.2; omega
  have hv : Fine (dgram.length + 1) v := ⟨hd, fits_mono _ _ (by omega) v hf⟩
  have hargs' := iterate_fine env hE _ (by omega) v ys hv hys args hargs
  have hxs' := iterate_fine env hE _ (by omega) args xs hargs' hxs
  rw [finish_sv]
  exact elem_callCmd env pruning sv host now c xs h hh (fun x hx => fine_storable _ hB x (hxs' x hx))

def Bounded (k : Nat) (sv : Services) : Prop := ∀ e ∈ sv, e.2.length ≤ k

/-- the invariant of one register's loop: an inner dict that has grown to `k + 1` holds `a`, so adding `a` again under a
second name with the same `upper()` does not grow it -/
def BoundedOr (k : Nat) (a : Addr) (sv : Services) : Prop :=
  ∀ e ∈ sv, e.2.length ≤ k ∨ (e.2.length ≤ k + 1 ∧ (alFind addrCode e.2 (addrCode a)).isSome = true)

theorem boundedOr_addService (k : Nat) (sv : Services) (name : Val) (a : Addr) (now : Int) (h : BoundedOr k a sv) :
    BoundedOr k a (addService sv name a now).1 := by
  unfold addService
  intro e he
  rcases mem_alSet keyCode _ _ _ e he with he' | ⟨he', _⟩
  · exact h e he'
  · rw [he']
    right
    refine ⟨?_, by rw [alFind_alSet_same]; rfl⟩
    rw [alSet_length]
    rcases innerOf_nil_or_mem sv name with h0 | ⟨k', hm⟩
    · rw [h0]; simp [alFind]
    · rcases h _ hm with hle | ⟨hle, hp⟩
      · dsimp only at hle; split <;> omega
      · dsimp only at hle hp; rw [hp]; simp; exact hle

theorem boundedOr_regLoop (env : Env) (k : Nat) (a : Addr) (now : Int) :
    ∀ (ss : List (List Nat)) (sv : Services), BoundedOr k a sv → BoundedOr k a (regLoop env a now ss sv).1
  | [], _, h => h
  | s :: ss, sv, h => by
    simp only [regLoop]
    exact boundedOr_regLoop env k a now ss _ (boundedOr_addService k sv _ a now h)

theorem Removes.bounded {sv sv' : Services} {ns : List Note} (r : Removes sv ns sv') (k : Nat) (h : Bounded k sv) :
    Bounded k sv' := by
  intro e he
  obtain ⟨e', he', hs⟩ := r.sublist e he
  exact Nat.le_trans hs.length_le (h e' he')

theorem bounded_succ (k : Nat) (sv : Services) (h : Bounded k sv) : Bounded (k + 1) sv :=
  fun e he => Nat.le_succ_of_le (h e he)

theorem bounded_callCmd (env : Env) (pruning : Int) (sv : Services) (host : Val) (now : Int) (c : CmdName) (xs : List Val)
    (k : Nat) (h : Bounded k sv) : Bounded (k + 1) (callCmd env pruning sv host now c xs).sv := by
  rcases callCmd_cases env pruning sv host now c xs with ⟨e, hc, _⟩ | ⟨NAME, hc, _⟩ | ⟨ss, port, _, hc, _⟩ | ⟨port, hc, _⟩ <;>
    rw [hc]
  · exact bounded_succ k sv h
  · exact bounded_succ k _ ((queryUpper_removes pruning sv NAME now).bounded k h)
  · intro e he
    rcases boundedOr_regLoop env k (host, port) now ss sv (fun e he => Or.inl (h e he)) e he with hle | ⟨hle, _⟩ <;> omega
  · exact bounded_succ k _ ((unregFinish_removes (host, port) _ sv).bounded k h)

theorem bounded_workStep (env : Env) (pruning : Int) (sv : Services) (host : Val) (dgram : Bytes) (now : Int)
    (k : Nat) (h : Bounded k sv) : Bounded (k + 1) (workStep env pruning sv host dgram now).sv := by
  rcases workStep_cases env pruning sv host dgram now with ⟨hs, _⟩ | ⟨_, _, _, c, xs, _, _, _, _, hs, _⟩ <;> rw [hs]
  · exact bounded_succ k sv h
  · rw [finish_sv]; exact bounded_callCmd env pruning sv host now c xs k h

/-- the hosts the transport reports are text `brine.dump` accepts, the datagrams are genuine byte strings -/
def EventsOk (evs : List Event) : Prop := ∀ e ∈ evs, Storable e.host = true ∧ Genuine e.dgram

theorem allAlive_all (env : Env) (pruning : Int) : ∀ (evs : List Event) (st : St), allAlive env pruning st evs = true
  | [], _ => rfl
  | e :: es, st => by
    simp only [allAlive, stepEvent, workStep_alive, Bool.true_and]
    exact allAlive_all env pruning es _

theorem run_storable (env : Env) (hE : EnvOk env) (pruning : Int) : ∀ (evs : List Event) (st : St) (k : Nat),
    ElemStorable st.sv → Bounded k st.sv → EventsOk evs → k + evs.length < 2 ^ 32 →
    SvStorable (run env pruning st evs).sv
  | [], st, k, hs, hb, _, hk => fun x hx => ⟨Nat.lt_of_le_of_lt (hb x hx) (by simp at hk; omega), hs x hx⟩
  | e :: es, st, k, hs, hb, hev, hk => by
    obtain ⟨hh, hg⟩ := hev e (by simp)
    simp only [List.length_cons] at hk
    simp only [run]
    exact run_storable env hE pruning es _ (k + 1)
      (elem_workStep env hE pruning st.sv e.host e.dgram e.now hs hh hg)
      (bounded_workStep env pruning st.sv e.host e.dgram e.now k hb)
      (fun x hx => hev x (by simp [hx])) (by omega)

end Rpyc.Registry
