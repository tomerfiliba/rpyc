import RpycModel.Srv.RegistryLemmas
/-
Notifications against membership changes: `Exact`, how it composes along steps that only grow or only shrink the
table, and that `_add_service` and `_remove_service` are exact.
-/
namespace Rpyc.Registry
open Rpyc

def Note.isAdd : Note → Bool
  | .added _ _ => true
  | .removed _ _ => false

def Note.nameCode : Note → List Nat
  | .added n _ => keyCode n
  | .removed n _ => keyCode n

def Note.addrCode : Note → List Nat
  | .added _ a => Registry.addrCode a
  | .removed _ a => Registry.addrCode a

def countAdd (ns : List Note) (n a : List Nat) : Nat :=
  ns.countP (fun x => x.isAdd && (x.nameCode == n && x.addrCode == a))

def countRem (ns : List Note) (n a : List Nat) : Nat :=
  ns.countP (fun x => !x.isAdd && (x.nameCode == n && x.addrCode == a))

def mem (sv : Services) (n a : List Nat) : Bool := (view sv n a).isSome

/-- between the tables `sv` and `sv'` the notifications `ns` contain exactly one `added` per pair that became a member,
exactly one `removed` per pair that stopped being one, and nothing else -/
def Exact (sv : Services) (ns : List Note) (sv' : Services) : Prop :=
  ∀ n a, countAdd ns n a = (if !mem sv n a && mem sv' n a then 1 else 0)
       ∧ countRem ns n a = (if mem sv n a && !mem sv' n a then 1 else 0)

/-- along two steps that both grow membership (or both shrink it) no pair changes twice, which is what composing `Exact`
needs -/
def Grow (sv sv' : Services) : Prop := ∀ n a, mem sv n a = true → mem sv' n a = true
def Shrink (sv sv' : Services) : Prop := ∀ n a, mem sv' n a = true → mem sv n a = true

theorem countAdd_added (name : Val) (a : Addr) (n x : List Nat) :
    countAdd [.added name a] n x = if n = keyCode name ∧ x = addrCode a then 1 else 0 := by
  by_cases h : n = keyCode name ∧ x = addrCode a
  · obtain ⟨rfl, rfl⟩ := h
    simp [countAdd, Note.isAdd, Note.nameCode, Note.addrCode]
  · rw [if_neg h]
    simp only [countAdd, Note.isAdd, Note.nameCode, Note.addrCode, List.countP_singleton, Bool.true_and, Bool.and_eq_true, beq_iff_eq]
    exact if_neg (fun hh => h ⟨hh.1.symm, hh.2.symm⟩)

theorem countRem_removed (name : Val) (a : Addr) (n x : List Nat) :
    countRem [.removed name a] n x = if n = keyCode name ∧ x = addrCode a then 1 else 0 :=
  -- `!(removed ..).isAdd` and `(added ..).isAdd` both evaluate to `true`: the two counts unfold to the same term
  countAdd_added name a n x

theorem countRem_added (name : Val) (a : Addr) (n x : List Nat) : countRem [.added name a] n x = 0 := rfl
theorem countAdd_removed (name : Val) (a : Addr) (n x : List Nat) : countAdd [.removed name a] n x = 0 := rfl
@[simp] theorem countAdd_nil (n x : List Nat) : countAdd [] n x = 0 := rfl
@[simp] theorem countRem_nil (n x : List Nat) : countRem [] n x = 0 := rfl

theorem countAdd_append (ns ms : List Note) (n x : List Nat) : countAdd (ns ++ ms) n x = countAdd ns n x + countAdd ms n x :=
  List.countP_append
theorem countRem_append (ns ms : List Note) (n x : List Nat) : countRem (ns ++ ms) n x = countRem ns n x + countRem ms n x :=
  List.countP_append

theorem exact_refl (sv : Services) : Exact sv [] sv := by
  intro n a
  cases mem sv n a <;> exact ⟨rfl, rfl⟩

theorem grow_refl (sv : Services) : Grow sv sv := fun _ _ h => h
theorem shrink_refl (sv : Services) : Shrink sv sv := fun _ _ h => h
theorem grow_trans {a b c : Services} (h1 : Grow a b) (h2 : Grow b c) : Grow a c := fun n x h => h2 n x (h1 n x h)
theorem shrink_trans {a b c : Services} (h1 : Shrink a b) (h2 : Shrink b c) : Shrink a c := fun n x h => h1 n x (h2 n x h)

theorem exact_trans {sv sv1 sv2 : Services} {ns1 ns2 : List Note}
    (h1 : Exact sv ns1 sv1) (h2 : Exact sv1 ns2 sv2)
    (once : ∀ n a, mem sv n a = mem sv1 n a ∨ mem sv1 n a = mem sv2 n a) :
    Exact sv (ns1 ++ ns2) sv2 := by
  intro n a
  obtain ⟨a1, r1⟩ := h1 n a
  obtain ⟨a2, r2⟩ := h2 n a
  rw [countAdd_append, countRem_append, a1, a2, r1, r2]
  rcases once n a with h | h <;> rw [h] <;> cases mem sv1 n a <;> cases mem sv2 n a <;> exact ⟨rfl, rfl⟩

theorem exact_trans_grow {sv sv1 sv2 : Services} {ns1 ns2 : List Note}
    (h1 : Exact sv ns1 sv1) (h2 : Exact sv1 ns2 sv2) (g1 : Grow sv sv1) (g2 : Grow sv1 sv2) :
    Exact sv (ns1 ++ ns2) sv2 := by
  refine exact_trans h1 h2 (fun n a => ?_)
  cases h : mem sv1 n a
  · left
    cases h0 : mem sv n a
    · rfl
    · rw [g1 n a h0] at h; cases h
  · right; exact (g2 n a h).symm

theorem exact_trans_shrink {sv sv1 sv2 : Services} {ns1 ns2 : List Note}
    (h1 : Exact sv ns1 sv1) (h2 : Exact sv1 ns2 sv2) (g1 : Shrink sv sv1) (g2 : Shrink sv1 sv2) :
    Exact sv (ns1 ++ ns2) sv2 := by
  refine exact_trans h1 h2 (fun n a => ?_)
  cases h : mem sv1 n a
  · right
    cases h2 : mem sv2 n a
    · rfl
    · rw [g2 n a h2] at h; cases h
  · left; exact g1 n a h

theorem mem_addService (sv : Services) (name : Val) (a : Addr) (now : Int) (n x : List Nat) :
    mem (addService sv name a now).1 n x = (decide (n = keyCode name ∧ x = addrCode a) || mem sv n x) := by
  unfold mem
  rw [view_addService]
  by_cases h : n = keyCode name ∧ x = addrCode a <;> simp [h]

theorem grow_addService (sv : Services) (name : Val) (a : Addr) (now : Int) : Grow sv (addService sv name a now).1 := by
  intro n x h
  rw [mem_addService, h, Bool.or_true]

theorem exact_addService (sv : Services) (name : Val) (a : Addr) (now : Int) :
    Exact sv (addService sv name a now).2 (addService sv name a now).1 := by
  intro n x
  rw [mem_addService, notes_addService]
  by_cases hk : n = keyCode name ∧ x = addrCode a
  · obtain ⟨rfl, rfl⟩ := hk
    cases hv : view sv (keyCode name) (addrCode a) <;> simp [mem, hv, countAdd_added, countRem_added]
  · cases (view sv (keyCode name) (addrCode a)).isNone <;> simp [hk, countAdd_added, countRem_added]

theorem mem_removeService (sv : Services) (name : Val) (a : Addr) (h : Inv sv) (n x : List Nat) :
    mem (removeService sv name a).sv n x = (!decide (n = keyCode name ∧ x = addrCode a) && mem sv n x) := by
  unfold mem
  rw [view_removeService sv name a h]
  by_cases hk : n = keyCode name ∧ x = addrCode a <;> simp [hk]

theorem shrink_removeService (sv : Services) (name : Val) (a : Addr) (h : Inv sv) : Shrink sv (removeService sv name a).sv := by
  intro n x hm
  rw [mem_removeService sv name a h, Bool.and_eq_true] at hm
  exact hm.2

theorem exact_removeService (sv : Services) (name : Val) (a : Addr) (h : Inv sv) :
    Exact sv (removeService sv name a).notes (removeService sv name a).sv := by
  intro n x
  rw [mem_removeService sv name a h, notes_removeService]
  by_cases hk : n = keyCode name ∧ x = addrCode a
  · obtain ⟨rfl, rfl⟩ := hk
    cases hv : view sv (keyCode name) (addrCode a) <;> simp [mem, hv, countRem_removed, countAdd_removed]
  · cases (view sv (keyCode name) (addrCode a)).isSome <;> simp [hk, countRem_removed, countAdd_removed]

end Rpyc.Registry
