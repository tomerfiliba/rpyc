import RpycModel.Srv.RegistryCmds
/-
The stable sort `cmd_query` walks; the abstract specification of the registry (a map `(NAME, address) ↦ last refresh`
and its transition `absApply`) and what a datagram *means* (`intent`); and that the loop of each command moves the
abstract view of the concrete table as its meaning says (`Good`).
-/
namespace Rpyc.Registry
open Rpyc Rpyc.Brine

theorem insertByTime_perm (x : Addr × Int) : ∀ l, (insertByTime x l).Perm (x :: l)
  | [] => List.Perm.refl _
  | y :: ys => by
    simp only [insertByTime]
    split
    · exact List.Perm.refl _
    · exact ((insertByTime_perm x ys).cons y).trans (List.Perm.swap x y ys)

theorem sortByTime_perm : ∀ l, (sortByTime l).Perm l
  | [] => List.Perm.refl _
  | x :: xs => (insertByTime_perm x (sortByTime xs)).trans ((sortByTime_perm xs).cons x)

theorem insertByTime_sorted (x : Addr × Int) : ∀ l, l.Pairwise (fun a b => a.2 ≤ b.2) →
    (insertByTime x l).Pairwise (fun a b => a.2 ≤ b.2)
  | [], _ => by simp [insertByTime]
  | y :: ys, h => by
    simp only [insertByTime]
    rw [List.pairwise_cons] at h
    split
    · rename_i hxy
      refine List.pairwise_cons.mpr ⟨?_, List.pairwise_cons.mpr h⟩
      intro z hz
      simp only [List.mem_cons] at hz
      rcases hz with rfl | hz
      · exact hxy
      · exact Int.le_trans hxy (h.1 z hz)
    · rename_i hxy
      refine List.pairwise_cons.mpr ⟨?_, insertByTime_sorted x ys h.2⟩
      intro z hz
      have := (insertByTime_perm x ys).mem_iff.mp hz
      simp only [List.mem_cons] at this
      rcases this with rfl | hz'
      · omega
      · exact h.1 z hz'

theorem sortByTime_sorted : ∀ l, (sortByTime l).Pairwise (fun a b => a.2 ≤ b.2)
  | [] => List.Pairwise.nil
  | x :: xs => insertByTime_sorted x _ (sortByTime_sorted xs)

theorem insertByTime_filter_eq (x : Addr × Int) (k : Int) : ∀ l,
    (insertByTime x l).filter (fun e => e.2 == k) = (x :: l).filter (fun e => e.2 == k)
  | [] => rfl
  | y :: ys => by
    simp only [insertByTime]
    split
    · rfl
    · rename_i hxy
      have ih := insertByTime_filter_eq x k ys
      by_cases hx : x.2 = k
      · have hy : ¬ y.2 = k := by omega
        simp [hx, hy] at ih ⊢
        exact ih
      · by_cases hy : y.2 = k
        · simp [hx, hy] at ih ⊢
          exact ih
        · simp [hx, hy] at ih ⊢
          exact ih

/-- stability: entries with the same refresh time keep the order they have in the inner dict -/
theorem sortByTime_stable (k : Int) : ∀ l, (sortByTime l).filter (fun e => e.2 == k) = l.filter (fun e => e.2 == k)
  | [] => rfl
  | x :: xs => by
    simp only [sortByTime]
    rw [insertByTime_filter_eq, List.filter_cons, List.filter_cons, sortByTime_stable k xs]

/-- what a datagram asks for, in terms of the abstract map; `none` = not a well-formed command -/
inductive Intent where
  | none
  | query (name : List Nat)
  | register (names : List (List Nat)) (a : List Nat)
  | unregister (a : List Nat)

def staleOpt (oldest : Int) : Option Int → Bool
  | some t => decide (t < oldest)
  | none => false

def absApply (pruning now : Int) (m : AbsMap) : Intent → AbsMap
  | .none => m
  | .query name => fun n x => if n = name ∧ staleOpt (now - pruning) (m n x) = true then none else m n x
  | .register names a => fun n x => if n ∈ names ∧ x = a then some now else m n x
  | .unregister a => fun n x => if x = a then none else m n x

/-- which pairs a meaning is allowed to touch -/
def Intent.names (oldest : Int) (m : AbsMap) : Intent → List Nat → List Nat → Prop
  | .none, _, _ => False
  | .query name, n, x => n = name ∧ staleOpt oldest (m n x) = true
  | .register names a, n, x => n ∈ names ∧ x = a
  | .unregister a, _, x => x = a

theorem absApply_frame (pruning now : Int) (m : AbsMap) (i : Intent) (n x : List Nat)
    (h : absApply pruning now m i n x ≠ m n x) : i.names (now - pruning) m n x := by
  -- each transition is `if c then _ else m n x` with `c` the condition `names` asks for
  have of_ne : ∀ {c : Prop} [Decidable c] {v : Option Int}, (if c then v else m n x) ≠ m n x → c :=
    fun h => Decidable.byContradiction (fun hc => h (if_neg hc))
  cases i with
  | none => exact absurd rfl h
  | query name => have c := of_ne h; exact c
  | register names a => have c := of_ne h; exact c
  | unregister a => have c := of_ne h; exact c

def intentCall (env : Env) (host : Val) : CmdName → List Val → Intent
  | .query, [name] => match pyUpper env name with
    | .ok NAME => .query (keyCode NAME)
    | .error _ => .none
  | .register, [names, port] => match iterate' env names with
    | .error _ => .none
    | .ok xs => match allStr xs with
      | none => .none
      | some ss => if registerRefuses env (host, port) then .none else .register (upperCodes env ss) (addrCode (host, port))
  | .unregister, [port] => .unregister (addrCode (host, port))
  | _, _ => .none

def intentExec (env : Env) (host : Val) (c : CmdName × Nat) (args : Val) : Intent :=
  match iterate' env args with
  | .error _ => .none
  | .ok xs => if xs.length = c.2 then intentCall env host c.1 xs else .none

def intent3 (env : Env) (host : Val) (m : Val × Val × Val) : Intent :=
  if isMagic m.1 then
    match lookupCmd env m.2.1 with
    | none => .none
    | some c => intentExec env host c m.2.2
  else .none

def intentVal (env : Env) (host : Val) (v : Val) : Intent :=
  match unpack3' env v with
  | .error _ => .none
  | .ok m => intent3 env host m

def intent (env : Env) (host : Val) (dgram : Bytes) : Intent :=
  if env.loadOverflows dgram then .none
  else match load dgram with
    | .error _ => .none
    | .ok v => intentVal env host v

/-- a step at time `now` from table `sv` to `sv'` that fired `notes` did what the meaning `i` says (`refines`), and fired a
notification for each pair that came or went and no other (`exact`) -/
structure Good (pruning now : Int) (sv : Services) (sv' : Services) (notes : List Note) (i : Intent) : Prop where
  inv : Inv sv'
  exact : Exact sv notes sv'
  refines : ∀ n x, view sv' n x = absApply pruning now (view sv) i n x

theorem good_idle (pruning now : Int) (sv : Services) (h : Inv sv) : Good pruning now sv sv [] .none :=
  ⟨h, exact_refl sv, fun _ _ => rfl⟩

theorem staleIn_sortByTime (sv : Services) (NAME : Val) (oldest : Int) (h : Inv sv) (x : List Nat) :
    staleIn oldest (sortByTime (innerOf sv NAME)) x = staleOpt oldest (view sv (keyCode NAME) x) := by
  rw [← alFind_innerOf, Bool.eq_iff_iff]
  simp only [staleIn, List.any_eq_true, Bool.and_eq_true, decide_eq_true_eq, beq_iff_eq]
  constructor
  · -- keys are distinct: an entry of the snapshot with code `x` is the one `alFind` returns
    rintro ⟨e, hm, ht, hc⟩
    rw [← hc, alFind_of_mem addrCode _ e.1 e.2 (innerOf_nodup sv NAME h) ((sortByTime_perm _).mem_iff.mp hm)]
    exact decide_eq_true ht
  · intro hs
    cases hfx : alFind addrCode (innerOf sv NAME) x with
    | none => rw [hfx] at hs; cases hs
    | some t =>
      rw [hfx] at hs
      obtain ⟨k, hm, hc⟩ := mem_of_alFind addrCode _ x t hfx
      exact ⟨(k, t), (sortByTime_perm _).mem_iff.mpr hm, of_decide_eq_true hs, hc⟩

/-- the servers a query for `NAME` at `now` answers with: the stored entries in the order of
`sorted(..., key=time)`, without the stale ones -/
def answer (pruning : Int) (sv : Services) (NAME : Val) (now : Int) : List Addr :=
  ((sortByTime (innerOf sv NAME)).filter (fun e => !decide (e.2 < now - pruning))).map Prod.fst

theorem queryUpper_good (pruning : Int) (sv : Services) (NAME : Val) (now : Int) (h : Inv sv) :
    Good pruning now sv (queryUpper pruning sv NAME now).sv (queryUpper pruning sv NAME now).notes (.query (keyCode NAME))
    ∧ (queryUpper pruning sv NAME now).out = .ok (.tuple ((answer pruning sv NAME now).map addrVal)) := by
  rw [queryUpper_eq]
  have hnd := innerOf_nodup sv NAME h
  have hnd' : (alKeys addrCode (sortByTime (innerOf sv NAME))).Nodup := by
    unfold alKeys at hnd ⊢
    exact (((sortByTime_perm _).map (fun (e : Addr × Int) => addrCode e.1)).nodup_iff).mpr hnd
  have hp : ∀ e ∈ sortByTime (innerOf sv NAME), (view sv (keyCode NAME) (addrCode e.1)).isSome = true := by
    intro e hm
    rw [← alFind_innerOf, alFind_of_mem addrCode _ e.1 e.2 hnd ((sortByTime_perm _).mem_iff.mp hm)]
    rfl
  obtain ⟨i1, _, e1⟩ := (queryLoop_removes NAME (now - pruning) (sortByTime (innerOf sv NAME)) sv).spec h
  obtain ⟨er, fr, vr⟩ := queryLoop_ok NAME (now - pruning) (sortByTime (innerOf sv NAME)) sv h hnd' hp
  simp only [queryFinish, er]
  refine ⟨⟨i1, e1, ?_⟩, ?_⟩
  · intro n x
    rw [vr]
    simp only [absApply]
    by_cases hn : n = keyCode NAME
    · subst hn
      rw [staleIn_sortByTime sv NAME _ h]
    · simp [hn]
  · rw [fr]
    rfl

theorem regLoop_good (env : Env) (pruning now : Int) (a : Addr) (ss : List (List Nat)) (sv : Services) (h : Inv sv) :
    Good pruning now sv (regLoop env a now ss sv).1 (regLoop env a now ss sv).2
      (.register (upperCodes env ss) (addrCode a)) := by
  obtain ⟨i1, _, e1, v1⟩ := regLoop_spec env a now ss sv h
  exact ⟨i1, e1, v1⟩

/-- over all stored names the loop of `cmd_unregister` meets no `KeyError` and drops the address everywhere -/
theorem unregLoop_good (pruning now : Int) (a : Addr) (sv : Services) (h : Inv sv) :
    Good pruning now sv (unregFinish (unregLoop a (sv.map Prod.fst) sv)).sv
      (unregFinish (unregLoop a (sv.map Prod.fst) sv)).notes (.unregister (addrCode a))
    ∧ (unregFinish (unregLoop a (sv.map Prod.fst) sv)).out = .ok ack := by
  have hnd : ((sv.map Prod.fst).map keyCode).Nodup := by
    rw [map_fst_keys]; exact h.1
  have hp : ∀ m ∈ sv.map Prod.fst, (alFind keyCode sv (keyCode m)).isSome = true := by
    intro m hm
    apply alFind_isSome_of_mem
    rw [← map_fst_keys]
    exact List.mem_map.mpr ⟨m, hm, rfl⟩
  obtain ⟨i1, _, e1⟩ := (unregLoop_removes a (sv.map Prod.fst) sv).spec h
  obtain ⟨er, vr⟩ := unregLoop_ok a (sv.map Prod.fst) sv h hnd hp
  simp only [unregFinish, er]
  refine ⟨⟨i1, e1, ?_⟩, trivial⟩
  intro n x
  rw [vr]
  simp only [absApply]
  by_cases hx : x = addrCode a
  · by_cases hn : n ∈ (sv.map Prod.fst).map keyCode
    · rw [if_pos ⟨hn, hx⟩, if_pos hx]
    · have : alFind keyCode sv n = none :=
        alFind_none_of_not_mem keyCode sv n (by rw [← map_fst_keys]; exact hn)
      rw [if_neg (fun hh => hn hh.1), if_pos hx, view_none_of_absent sv n this]
  · rw [if_neg (fun hh => hx hh.2), if_neg hx]

end Rpyc.Registry
