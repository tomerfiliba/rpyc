import RpycModel.Srv.Registry
/-
Insertion-ordered association lists (`alFind`, `alSet`, `alErase`): the facts about Python dicts the registry's
tables are reasoned with.
-/
namespace Rpyc.Registry
open Rpyc

section AL
variable {κ β : Type} (code : κ → List Nat)

def alKeys (l : List (κ × β)) : List (List Nat) := l.map (fun e => code e.1)

@[simp] theorem alKeys_nil : alKeys code ([] : List (κ × β)) = [] := rfl
@[simp] theorem alKeys_cons (e : κ × β) (l : List (κ × β)) : alKeys code (e :: l) = code e.1 :: alKeys code l := rfl

theorem map_fst_keys (l : List (κ × β)) : (l.map Prod.fst).map code = alKeys code l := by
  simp [alKeys, List.map_map, Function.comp_def]

theorem alFind_cons (e : κ × β) (l : List (κ × β)) (c : List Nat) :
    alFind code (e :: l) c = if code e.1 = c then some e.2 else alFind code l c := rfl

theorem alSet_cons (e : κ × β) (l : List (κ × β)) (k : κ) (v : β) :
    alSet code (e :: l) k v = if code e.1 = code k then (e.1, v) :: l else e :: alSet code l k v := rfl

theorem alErase_cons (e : κ × β) (l : List (κ × β)) (c : List Nat) :
    alErase code (e :: l) c = if code e.1 = c then l else e :: alErase code l c := rfl

theorem mem_of_alFind (l : List (κ × β)) (c : List Nat) (v : β) (h : alFind code l c = some v) :
    ∃ k, (k, v) ∈ l ∧ code k = c := by
  induction l with
  | nil => cases h
  | cons e l ih =>
    rw [alFind_cons] at h
    split at h
    · cases h
      exact ⟨e.1, List.mem_cons_self .., ‹_›⟩
    · obtain ⟨k, hm, hc⟩ := ih h
      exact ⟨k, List.mem_cons_of_mem _ hm, hc⟩

theorem mem_keys_of_alFind (l : List (κ × β)) (c : List Nat) (v : β) (h : alFind code l c = some v) : c ∈ alKeys code l := by
  obtain ⟨k, hm, rfl⟩ := mem_of_alFind code l c v h
  exact List.mem_map.mpr ⟨_, hm, rfl⟩

theorem alFind_none_of_not_mem (l : List (κ × β)) (c : List Nat) (h : c ∉ alKeys code l) : alFind code l c = none := by
  cases hf : alFind code l c with
  | none => rfl
  | some v => exact absurd (mem_keys_of_alFind code l c v hf) h

theorem alFind_isSome_of_mem (l : List (κ × β)) (c : List Nat) (h : c ∈ alKeys code l) : (alFind code l c).isSome = true := by
  induction l with
  | nil => cases h
  | cons e l ih =>
    rw [alFind_cons]
    split
    · rfl
    · exact ih ((List.mem_cons.mp h).resolve_left (fun hh => ‹¬ _› hh.symm))

theorem alFind_of_mem (l : List (κ × β)) (k : κ) (v : β) (hnd : (alKeys code l).Nodup) (h : (k, v) ∈ l) :
    alFind code l (code k) = some v := by
  induction l with
  | nil => cases h
  | cons e l ih =>
    rw [alKeys_cons, List.nodup_cons] at hnd
    rw [alFind_cons]
    rcases List.mem_cons.mp h with rfl | h
    · exact if_pos rfl
    · have : code k ∈ alKeys code l := List.mem_map.mpr ⟨(k, v), h, rfl⟩
      rw [if_neg (fun (hh : code e.1 = code k) => hnd.1 (hh ▸ this))]
      exact ih hnd.2 h

theorem alFind_alSet_same (l : List (κ × β)) (k : κ) (v : β) : alFind code (alSet code l k v) (code k) = some v := by
  induction l with
  | nil => exact if_pos rfl
  | cons e l ih =>
    rw [alSet_cons]
    split
    · exact if_pos ‹_›
    · rw [alFind_cons, if_neg ‹_›]
      exact ih

theorem alFind_alSet_other (l : List (κ × β)) (k : κ) (v : β) (c : List Nat) (h : c ≠ code k) :
    alFind code (alSet code l k v) c = alFind code l c := by
  induction l with
  | nil => exact if_neg (Ne.symm h)
  | cons e l ih =>
    rw [alSet_cons]
    split
    · have : ¬ code e.1 = c := fun hh => h (hh.symm.trans ‹_›)
      rw [alFind_cons, alFind_cons, if_neg this, if_neg this]
    · rw [alFind_cons, alFind_cons, ih]

theorem alFind_alSet (l : List (κ × β)) (k : κ) (v : β) (c : List Nat) :
    alFind code (alSet code l k v) c = if c = code k then some v else alFind code l c := by
  split
  · rw [‹c = code k›]
    exact alFind_alSet_same code l k v
  · exact alFind_alSet_other code l k v c ‹_›

theorem alKeys_alSet (l : List (κ × β)) (k : κ) (v : β) :
    alKeys code (alSet code l k v) = if code k ∈ alKeys code l then alKeys code l else alKeys code l ++ [code k] := by
  induction l with
  | nil => rfl
  | cons e l ih =>
    rw [alSet_cons]
    by_cases hk : code e.1 = code k
    · simp [hk]
    · rw [if_neg hk, alKeys_cons, alKeys_cons, ih]
      simp only [List.mem_cons]
      by_cases hm : code k ∈ alKeys code l
      · simp [hm]
      · simp [hm, Ne.symm hk]

theorem nodup_alSet (l : List (κ × β)) (k : κ) (v : β) (hnd : (alKeys code l).Nodup) :
    (alKeys code (alSet code l k v)).Nodup := by
  rw [alKeys_alSet]
  split
  · exact hnd
  · exact List.nodup_append.mpr ⟨hnd, by simp, fun a ha b hb hab =>
      ‹¬ _› (List.mem_singleton.mp hb ▸ hab ▸ ha)⟩

/-- the last case: `d[k] = v` on a key that is present keeps the key object that was there -/
theorem mem_alSet (l : List (κ × β)) (k : κ) (v : β) (e : κ × β) (h : e ∈ alSet code l k v) :
    e ∈ l ∨ (e.2 = v ∧ (e.1 = k ∨ ∃ w, (e.1, w) ∈ l)) := by
  induction l with
  | nil => cases List.mem_singleton.mp h; exact .inr ⟨rfl, .inl rfl⟩
  | cons e' l ih =>
    rw [alSet_cons] at h
    split at h
    · rcases List.mem_cons.mp h with rfl | h
      · exact .inr ⟨rfl, .inr ⟨e'.2, List.mem_cons_self ..⟩⟩
      · exact .inl (List.mem_cons_of_mem _ h)
    · rcases List.mem_cons.mp h with rfl | h
      · exact .inl (List.mem_cons_self ..)
      · rcases ih h with h' | ⟨hv, hk | ⟨w, hw⟩⟩
        · exact .inl (List.mem_cons_of_mem _ h')
        · exact .inr ⟨hv, .inl hk⟩
        · exact .inr ⟨hv, .inr ⟨w, List.mem_cons_of_mem _ hw⟩⟩

theorem alSet_ne_nil (l : List (κ × β)) (k : κ) (v : β) : alSet code l k v ≠ [] := by
  cases l with
  | nil => exact List.cons_ne_nil _ _
  | cons e l => rw [alSet_cons]; split <;> exact List.cons_ne_nil _ _

theorem alSet_length (l : List (κ × β)) (k : κ) (v : β) :
    (alSet code l k v).length = if (alFind code l (code k)).isSome then l.length else l.length + 1 := by
  induction l with
  | nil => rfl
  | cons e l ih =>
    rw [alSet_cons, alFind_cons]
    split
    · rfl
    · rw [List.length_cons, ih]
      split <;> rfl

theorem alErase_sublist (l : List (κ × β)) (c : List Nat) : (alErase code l c).Sublist l := by
  induction l with
  | nil => exact .slnil
  | cons e l ih =>
    rw [alErase_cons]
    split
    · exact List.sublist_cons_self _ _
    · exact ih.cons_cons _

theorem nodup_alErase (l : List (κ × β)) (c : List Nat) (hnd : (alKeys code l).Nodup) :
    (alKeys code (alErase code l c)).Nodup := ((alErase_sublist code l c).map _).nodup hnd

theorem alFind_alErase_other (l : List (κ × β)) (c c' : List Nat) (h : c' ≠ c) :
    alFind code (alErase code l c) c' = alFind code l c' := by
  induction l with
  | nil => rfl
  | cons e l ih =>
    rw [alErase_cons]
    split
    · rw [alFind_cons, if_neg (fun (hh : code e.1 = c') => h (hh.symm.trans ‹_›))]
    · rw [alFind_cons, alFind_cons, ih]

theorem alFind_alErase_same (l : List (κ × β)) (c : List Nat) (hnd : (alKeys code l).Nodup) :
    alFind code (alErase code l c) c = none := by
  induction l with
  | nil => rfl
  | cons e l ih =>
    rw [alKeys_cons, List.nodup_cons] at hnd
    rw [alErase_cons]
    split
    · exact alFind_none_of_not_mem code l c (‹code e.1 = c› ▸ hnd.1)
    · rw [alFind_cons, if_neg ‹_›]
      exact ih hnd.2

theorem alFind_alErase (l : List (κ × β)) (c c' : List Nat) (hnd : (alKeys code l).Nodup) :
    alFind code (alErase code l c) c' = if c' = c then none else alFind code l c' := by
  split
  · rw [‹c' = c›]
    exact alFind_alErase_same code l c hnd
  · exact alFind_alErase_other code l c c' ‹_›

end AL
end Rpyc.Registry
