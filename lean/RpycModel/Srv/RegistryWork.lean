import RpycModel.Srv.RegistrySpec
import RpycModel.Props.C04
/-
One iteration of `_work` on an arbitrary datagram: what it comes to (`callCmd_cases`, `workStep_cases`) and, through
that, refinement, exact notifications, liveness and the no-ops; then histories of datagrams and the TCP front end.
-/
namespace Rpyc.Registry
open Rpyc Rpyc.Brine

theorem finishG_eq (g : Bool) (env : Env) (r : CmdRes) :
    ∃ reply alive, finishG g env r = ⟨r.sv, r.notes, reply, alive⟩ ∧ (g = true → alive = true) := by
  unfold finishG
  cases r.out with
  | error e => exact ⟨_, _, rfl, fun _ => rfl⟩
  | ok reply =>
    dsimp only
    split
    · exact ⟨_, _, rfl, id⟩
    · cases dump reply
      · exact ⟨_, _, rfl, id⟩
      · exact ⟨_, _, rfl, fun _ => rfl⟩

@[simp] theorem finishG_sv (g : Bool) (env : Env) (r : CmdRes) : (finishG g env r).sv = r.sv := by
  obtain ⟨_, _, h, _⟩ := finishG_eq g env r
  rw [h]

@[simp] theorem finishG_notes (g : Bool) (env : Env) (r : CmdRes) : (finishG g env r).notes = r.notes := by
  obtain ⟨_, _, h, _⟩ := finishG_eq g env r
  rw [h]

@[simp] theorem finish_sv (env : Env) (r : CmdRes) : (finish env r).sv = r.sv := finishG_sv _ env r
@[simp] theorem finish_notes (env : Env) (r : CmdRes) : (finish env r).notes = r.notes := finishG_notes _ env r

theorem finishG_alive (env : Env) (r : CmdRes) : (finishG true env r).alive = true := by
  obtain ⟨_, _, h, ha⟩ := finishG_eq true env r
  rw [h]
  exact ha rfl

theorem finish_alive (env : Env) (r : CmdRes) : (finish env r).alive = true := by
  unfold finish; rw [reply_dump_guarded]; exact finishG_alive env r

theorem finishG_unguarded_dies (env : Env) (r : CmdRes) (reply : Val) (ho : r.out = .ok reply)
    (hov : env.dumpOverflows reply = true) : (finishG false env r).alive = false := by
  unfold finishG; simp [ho, hov]

theorem finish_sends (env : Env) (r : CmdRes) (reply : Val) (ho : r.out = .ok reply)
    (hov : env.dumpOverflows reply = false) (he : ∃ e, dump reply = .ok e) : (finish env r).reply = some reply := by
  obtain ⟨e, he⟩ := he
  unfold finish finishG; simp [ho, hov, he]

theorem three_mem (xs : List Val) (m : Val × Val × Val) (h : three xs = .ok m) : m.1 ∈ xs ∧ m.2.1 ∈ xs ∧ m.2.2 ∈ xs := by
  unfold three at h
  split at h
  · cases h; simp
  · cases h

/-- `cmdfunc(host, *args)` refuses with the table untouched, or runs one of the three loops; and what the call means
(`intentCall`) is read off the same cases -/
theorem callCmd_cases (env : Env) (pruning : Int) (sv : Services) (host : Val) (now : Int) (c : CmdName) (xs : List Val) :
    (∃ e, callCmd env pruning sv host now c xs = ⟨sv, [], .error e⟩ ∧ intentCall env host c xs = .none)
    ∨ (∃ NAME, callCmd env pruning sv host now c xs = queryUpper pruning sv NAME now
        ∧ intentCall env host c xs = .query (keyCode NAME))
    ∨ (∃ ss port, port ∈ xs
        ∧ callCmd env pruning sv host now c xs
            = ⟨(regLoop env (host, port) now ss sv).1, (regLoop env (host, port) now ss sv).2, .ok ack⟩
        ∧ intentCall env host c xs = .register (upperCodes env ss) (addrCode (host, port)))
    ∨ (∃ port, callCmd env pruning sv host now c xs = unregFinish (unregLoop (host, port) (sv.map Prod.fst) sv)
        ∧ intentCall env host c xs = .unregister (addrCode (host, port))) := by
  fun_cases intentCall env host c xs
  next name NAME hu => exact .inr (.inl ⟨NAME, by simp only [callCmd, cmdQuery, hu], rfl⟩)
  next name e hu => exact .inl ⟨e, by simp only [callCmd, cmdQuery, hu], rfl⟩
  next names port e hn => exact .inl ⟨e, by simp only [callCmd, cmdRegister, hn], rfl⟩
  next names port ys hn hs => exact .inl ⟨.typeError, by simp only [callCmd, cmdRegister, hn, hs], rfl⟩
  next names port ys hn ss hs hr =>
    exact .inl ⟨.recursionError, by simp only [callCmd, cmdRegister, hn, hs, if_pos hr], rfl⟩
  next names port ys hn ss hs hr =>
    exact .inr (.inr (.inl ⟨ss, port, by simp,
      by simp only [callCmd, cmdRegister, hn, hs, if_neg hr, if_pos (hashable_true _)], rfl⟩))
  next port => exact .inr (.inr (.inr ⟨port, by simp only [callCmd, cmdUnregister, if_pos (hashable_true _)], rfl⟩))
  next => exact .inl ⟨.typeError, by simp only [callCmd], rfl⟩

/-- an iteration of `_work` is a plain `continue` (and the datagram means nothing), or it calls a command on the
items `xs` of an item of the decoded value -/
theorem workStep_cases (env : Env) (pruning : Int) (sv : Services) (host : Val) (dgram : Bytes) (now : Int) :
    (workStep env pruning sv host dgram now = idle sv ∧ intent env host dgram = .none)
    ∨ ∃ v ys args c xs, load dgram = .ok v ∧ iterate' env v = .ok ys ∧ args ∈ ys ∧ iterate' env args = .ok xs
        ∧ workStep env pruning sv host dgram now = finish env (callCmd env pruning sv host now c xs)
        ∧ intent env host dgram = intentCall env host c xs := by
  unfold workStep intent
  by_cases hov : env.loadOverflows dgram = true
  · rw [if_pos hov, if_pos hov]; exact .inl ⟨rfl, rfl⟩
  rw [if_neg hov, if_neg hov]
  cases load dgram with
  | error e => exact .inl ⟨rfl, rfl⟩
  | ok v =>
    dsimp only
    unfold dispatch intentVal unpack3'
    cases hys : iterate' env v with
    | error e => exact .inl ⟨rfl, rfl⟩
    | ok ys =>
      dsimp only
      cases hm : three ys with
      | error e => exact .inl ⟨rfl, rfl⟩
      | ok m =>
        dsimp only
        unfold dispatch3 intent3
        by_cases hmag : isMagic m.1 = true
        · rw [if_pos hmag, if_pos hmag]
          cases lookupCmd env m.2.1 with
          | none => exact .inl ⟨warnStep_eq_idle sv, rfl⟩
          | some c =>
            dsimp only
            unfold execute intentExec
            cases hxs : iterate' env m.2.2 with
            | error e => exact .inl ⟨rfl, rfl⟩
            | ok xs =>
              dsimp only
              by_cases hlen : xs.length = c.2
              · rw [if_pos hlen, if_pos hlen]
                exact .inr ⟨v, ys, m.2.2, c.1, xs, rfl, hys, (three_mem ys m hm).2.2, hxs, rfl, rfl⟩
              · rw [if_neg hlen, if_neg hlen]; exact .inl ⟨rfl, rfl⟩
        · rw [if_neg hmag, if_neg hmag]; exact .inl ⟨warnStep_eq_idle sv, rfl⟩

theorem callCmd_good (env : Env) (pruning : Int) (sv : Services) (host : Val) (now : Int) (h : Inv sv)
    (c : CmdName) (xs : List Val) :
    Good pruning now sv (callCmd env pruning sv host now c xs).sv (callCmd env pruning sv host now c xs).notes
      (intentCall env host c xs) := by
  rcases callCmd_cases env pruning sv host now c xs with ⟨e, hc, hi⟩ | ⟨NAME, hc, hi⟩ | ⟨ss, port, _, hc, hi⟩ | ⟨port, hc, hi⟩ <;>
    rw [hc, hi]
  · exact good_idle pruning now sv h
  · exact (queryUpper_good pruning sv NAME now h).1
  · exact regLoop_good env pruning now (host, port) ss sv h
  · exact (unregLoop_good pruning now (host, port) sv h).1

/-- for every datagram the step keeps the representation invariant, fires exactly the notifications of the
membership changes it makes, and changes the abstract map exactly as the datagram's meaning says -/
theorem workStep_good (env : Env) (pruning : Int) (sv : Services) (host : Val) (dgram : Bytes) (now : Int) (h : Inv sv) :
    Good pruning now sv (workStep env pruning sv host dgram now).sv (workStep env pruning sv host dgram now).notes
      (intent env host dgram) := by
  rcases workStep_cases env pruning sv host dgram now with ⟨hs, hi⟩ | ⟨_, _, _, c, xs, _, _, _, _, hs, hi⟩ <;> rw [hs, hi]
  · exact good_idle pruning now sv h
  · rw [finish_sv, finish_notes]; exact callCmd_good env pruning sv host now h c xs

def Step.Noop (sv : Services) (s : Step) : Prop := s.sv = sv ∧ s.notes = [] ∧ s.reply = none ∧ s.alive = true

theorem noop_idle (sv : Services) : (idle sv).Noop sv := ⟨rfl, rfl, rfl, rfl⟩

theorem callCmd_noop (env : Env) (pruning : Int) (sv : Services) (host : Val) (now : Int) (c : CmdName) (xs : List Val)
    (hi : intentCall env host c xs = .none) : (finish env (callCmd env pruning sv host now c xs)).Noop sv := by
  rcases callCmd_cases env pruning sv host now c xs with ⟨e, hc, _⟩ | ⟨_, _, hi'⟩ | ⟨_, _, _, _, hi'⟩ | ⟨_, _, hi'⟩
  · rw [hc]; exact noop_idle sv
  all_goals rw [hi] at hi'; cases hi'

theorem workStep_noop (env : Env) (pruning : Int) (sv : Services) (host : Val) (dgram : Bytes) (now : Int)
    (hi : intent env host dgram = .none) : (workStep env pruning sv host dgram now).Noop sv := by
  rcases workStep_cases env pruning sv host dgram now with ⟨hs, _⟩ | ⟨_, _, _, c, xs, _, _, _, _, hs, hi'⟩ <;> rw [hs]
  · exact noop_idle sv
  · exact callCmd_noop env pruning sv host now c xs (hi'.symm.trans hi)

theorem workStep_alive (env : Env) (pruning : Int) (sv : Services) (host : Val) (dgram : Bytes) (now : Int) :
    (workStep env pruning sv host dgram now).alive = true := by
  rcases workStep_cases env pruning sv host dgram now with ⟨hs, _⟩ | ⟨_, _, _, _, _, _, _, _, _, hs, _⟩ <;> rw [hs]
  · rfl
  · exact finish_alive env _

/-- `brine.dump` accepts the value -/
def Storable (v : Val) : Bool := dumpable v && InDomain v

/-- every stored address can be dumped, and the servers of one name fit the four-byte length of a brine tuple -/
def SvStorable (sv : Services) : Prop :=
  ∀ e ∈ sv, e.2.length < 2 ^ 32 ∧ ∀ x ∈ e.2, Storable x.1.1 = true ∧ Storable x.1.2 = true

theorem dump_ack : ∃ e, dump ack = .ok e :=
  enc_ok ack (by decide) (by decide)

theorem dumpable_addrVal (a : Addr) : dumpable (addrVal a) = (dumpable a.1 && dumpable a.2) := by
  simp [addrVal, dumpable, dumpableL]

theorem inDomain_addrVal (a : Addr) : InDomain (addrVal a) = (InDomain a.1 && InDomain a.2) := by
  simp [addrVal, InDomain, InDomainL]

theorem storable_addrs (l : List (Addr × Int)) (h : ∀ x ∈ l, Storable x.1.1 = true ∧ Storable x.1.2 = true) :
    dumpableL (l.map (fun x => addrVal x.1)) = true ∧ InDomainL (l.map (fun x => addrVal x.1)) = true := by
  induction l with
  | nil => exact ⟨rfl, rfl⟩
  | cons x xs ih =>
    obtain ⟨h1, h2⟩ := h x (by simp)
    obtain ⟨i1, i2⟩ := ih (fun y hy => h y (by simp [hy]))
    simp only [Storable, Bool.and_eq_true] at h1 h2
    simp only [List.map_cons, dumpableL, InDomainL, dumpable_addrVal, inDomain_addrVal]
    simp [h1.1, h1.2, h2.1, h2.2, i1, i2]

theorem answer_encodes (pruning : Int) (sv : Services) (NAME : Val) (now : Int) (hs : SvStorable sv) :
    ∃ e, dump (.tuple ((answer pruning sv NAME now).map addrVal)) = .ok e := by
  unfold answer
  obtain ⟨hlen, hst⟩ : (innerOf sv NAME).length < 2 ^ 32
      ∧ ∀ x ∈ innerOf sv NAME, Storable x.1.1 = true ∧ Storable x.1.2 = true := by
    rcases innerOf_nil_or_mem sv NAME with h0 | ⟨k, hm⟩
    · rw [h0]; exact ⟨by decide, fun _ hx => nomatch hx⟩
    · exact hs _ hm
  have hsub : ∀ x ∈ (sortByTime (innerOf sv NAME)).filter (fun e => !decide (e.2 < now - pruning)),
      Storable x.1.1 = true ∧ Storable x.1.2 = true :=
    fun x hx => hst x ((sortByTime_perm _).mem_iff.mp (List.mem_filter.mp hx).1)
  obtain ⟨d1, d2⟩ := storable_addrs _ hsub
  have hl : ((sortByTime (innerOf sv NAME)).filter (fun e => !decide (e.2 < now - pruning))).length < 2 ^ 32 :=
    Nat.lt_of_le_of_lt (List.length_filter_le _ _) (by rw [(sortByTime_perm _).length_eq]; exact hlen)
  rw [List.map_map]
  apply enc_ok
  · simp only [dumpable]; exact d1
  · simp only [InDomain, List.length_map, Bool.and_eq_true, decide_eq_true_eq]
    exact ⟨hl, d2⟩

theorem callCmd_out_encodes (env : Env) (pruning : Int) (sv : Services) (host : Val) (now : Int) (h : Inv sv)
    (hs : SvStorable sv) (c : CmdName) (xs : List Val) (reply : Val)
    (ho : (callCmd env pruning sv host now c xs).out = .ok reply) : ∃ e, dump reply = .ok e := by
  rcases callCmd_cases env pruning sv host now c xs with ⟨e, hc, _⟩ | ⟨NAME, hc, _⟩ | ⟨ss, port, _, hc, _⟩ | ⟨port, hc, _⟩ <;>
    rw [hc] at ho
  · cases ho
  · rw [(queryUpper_good pruning sv NAME now h).2] at ho
    cases ho
    exact answer_encodes pruning sv NAME now hs
  · cases ho; exact dump_ack
  · rw [(unregLoop_good pruning now (host, port) sv h).2] at ho
    cases ho; exact dump_ack

theorem callCmd_is_answered (env : Env) (pruning : Int) (sv : Services) (host : Val) (now : Int) (h : Inv sv)
    (hs : SvStorable sv) (c : CmdName) (xs : List Val) (reply : Val)
    (ho : (callCmd env pruning sv host now c xs).out = .ok reply) (hov : env.dumpOverflows reply = false) :
    (finish env (callCmd env pruning sv host now c xs)).reply = some reply :=
  finish_sends env _ reply ho hov (callCmd_out_encodes env pruning sv host now h hs c xs reply ho)

/-- `brine.dump((magic, command, args))` as a value -/
def request (cmd : List Nat) (args : List Val) : Val := .tuple [.str Gen.magic, .str cmd, .tuple args]

theorem workStep_request (env : Env) (pruning : Int) (sv : Services) (host : Val) (now : Int)
    (cmd : List Nat) (args : List Val) (e : Bytes) (c : CmdName × Nat)
    (hwf : (request cmd args).wf = true) (hd : dump (request cmd args) = .ok e)
    (hc : lookupCmd env (.str cmd) = some c) (hlen : args.length = c.2) (hov : env.loadOverflows e = false) :
    workStep env pruning sv host e now = finish env (callCmd env pruning sv host now c.1 args) := by
  unfold workStep
  rw [hov, Props.C04.load_dump _ _ hwf hd]
  simp only [request, dispatch, unpack3', iterate', three, dispatch3, isMagic, beq_self_eq_true, if_true, hc, execute, hlen]
  simp

theorem lookup_QUERY (env : Env) : lookupCmd env (.str [81, 85, 69, 82, 89]) = some (.query, 1) := rfl

theorem lookup_REGISTER (env : Env) : lookupCmd env (.str [82, 69, 71, 73, 83, 84, 69, 82]) = some (.register, 2) := rfl

theorem lookup_UNREGISTER (env : Env) : lookupCmd env (.str [85, 78, 82, 69, 71, 73, 83, 84, 69, 82]) = some (.unregister, 1) := rfl

/-- `Exact` summed over a history: the log of all notifications so far against the table as it is now -/
def Balanced (st : St) : Prop :=
  ∀ n a, countAdd st.log n a = countRem st.log n a + (if mem st.sv n a then 1 else 0)

theorem balanced_init : Balanced St.init := by
  intro n a; simp [St.init, countAdd, countRem, mem, view_nil]

theorem balanced_after (st : St) (s : Step) (hb : Balanced st) (he : Exact st.sv s.notes s.sv) : Balanced (st.after s) := by
  intro n a
  obtain ⟨ea, er⟩ := he n a
  have hb := hb n a
  show countAdd (st.log ++ s.notes) n a = countRem (st.log ++ s.notes) n a + (if mem s.sv n a then 1 else 0)
  rw [countAdd_append, countRem_append, ea, er, hb]
  cases mem st.sv n a <;> cases mem s.sv n a <;> simp <;> omega

def absRun (env : Env) (pruning : Int) : AbsMap → List Event → AbsMap
  | m, [] => m
  | m, e :: es => absRun env pruning (absApply pruning e.now m (intent env e.host e.dgram)) es

theorem run_good (env : Env) (pruning : Int) : ∀ (evs : List Event) (st : St), Inv st.sv → Balanced st →
    Inv (run env pruning st evs).sv ∧ Balanced (run env pruning st evs)
    ∧ ∀ n x, view (run env pruning st evs).sv n x = absRun env pruning (view st.sv) evs n x
  | [], st, hi, hb => ⟨hi, hb, fun _ _ => rfl⟩
  | e :: es, st, hi, hb => by
    have g := workStep_good env pruning st.sv e.host e.dgram e.now hi
    have hb' := balanced_after st (stepEvent env pruning st e) hb g.exact
    obtain ⟨i2, b2, v2⟩ := run_good env pruning es (st.after (stepEvent env pruning st e)) g.inv hb'
    refine ⟨i2, b2, ?_⟩
    intro n x
    simp only [run, absRun]
    rw [v2]
    have : view (st.after (stepEvent env pruning st e)).sv = absApply pruning e.now (view st.sv) (intent env e.host e.dgram) := by
      funext n x; exact g.refines n x
    rw [this]

theorem tcpStale_nil (h : Gen.tcpRecvClosesUnreplied = true) (conn : List Nat) : tcpStale conn = [] := by
  simp [tcpStale, h]

theorem tcpStep_conn (env : Env) (pruning : Int) (fdLimit : Nat) (ts : TcpSt) (ev : TcpEv)
    (h : Gen.tcpRecvClosesUnreplied = true) : (tcpStep env pruning fdLimit ts ev).1.conn = [] := by
  cases ev <;> simp only [tcpStep] <;> split <;> simp [tcpStale_nil h]

theorem tcpStep_accepted (env : Env) (pruning : Int) (fdLimit : Nat) (ts : TcpSt) (ev : TcpEv)
    (hc : ts.conn.length < fdLimit) : (tcpStep env pruning fdLimit ts ev).2.accepted = true := by
  cases ev <;> simp [tcpStep, hc]

def isSilent : TcpEv → Bool
  | .silent _ => true
  | .client _ _ _ => false

theorem tcpStep_elapsed (env : Env) (pruning : Int) (fdLimit : Nat) (ts : TcpSt) (ev : TcpEv) :
    (tcpStep env pruning fdLimit ts ev).2.elapsed = (if isSilent ev && (tcpStep env pruning fdLimit ts ev).2.accepted then Gen.tcpServerTimeoutMs else 0)
    ∧ (tcpStep env pruning fdLimit ts ev).1.clock = ts.clock + ((tcpStep env pruning fdLimit ts ev).2.elapsed : Nat) := by
  cases ev <;> simp only [tcpStep] <;> split <;> simp [isSilent]

theorem tcpStep_silent_sv (env : Env) (pruning : Int) (fdLimit : Nat) (ts : TcpSt) (p : Nat) :
    (tcpStep env pruning fdLimit ts (.silent p)).1.sv = ts.sv ∧ (tcpStep env pruning fdLimit ts (.silent p)).2.step.notes = [] := by
  simp only [tcpStep]; split <;> simp [idle]

theorem tcpRun_spec (env : Env) (pruning : Int) (fdLimit : Nat) (hfd : 0 < fdLimit)
    (h : Gen.tcpRecvClosesUnreplied = true) : ∀ (evs : List TcpEv) (ts : TcpSt), ts.conn = [] →
    (∀ o ∈ (tcpRun env pruning fdLimit ts evs).2, o.accepted = true)
    ∧ (tcpRun env pruning fdLimit ts evs).1.clock = ts.clock + Gen.tcpServerTimeoutMs * (evs.countP isSilent)
  | [], ts, _ => ⟨by simp [tcpRun], by simp [tcpRun]⟩
  | ev :: evs, ts, hc => by
    have hacc := tcpStep_accepted env pruning fdLimit ts ev (by rw [hc]; exact hfd)
    obtain ⟨he1, he2⟩ := tcpStep_elapsed env pruning fdLimit ts ev
    obtain ⟨ih1, ih2⟩ := tcpRun_spec env pruning fdLimit hfd h evs _ (tcpStep_conn env pruning fdLimit ts ev h)
    simp only [tcpRun]
    refine ⟨?_, ?_⟩
    · intro o ho
      simp only [List.mem_cons] at ho
      rcases ho with rfl | ho
      · exact hacc
      · exact ih1 o ho
    · rw [ih2, he2, he1, hacc, List.countP_cons]
      cases isSilent ev <;> simp [Int.mul_add] <;> omega

end Rpyc.Registry
