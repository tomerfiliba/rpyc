import RpycModel.Srv.RegistryAlive
/-
Statements worded without the model's own notion of "what a datagram means", and proved through it: whose registrations
a datagram can touch at all (`sender_frame`, from `Intent.Own`: a meaning names addresses of the sender's host only), which
decoded values are no command (the `noop_of_*`, by way of `noop_of_intentVal`); then case-insensitivity, and the arithmetic
of a waiting client's patience against silent TCP clients.
-/
namespace Rpyc.Registry
open Rpyc Rpyc.Brine

def Intent.Own (host : Val) : Intent → Prop
  | .none => True
  | .query _ => True
  | .register _ a => ∃ port, a = addrCode (host, port)
  | .unregister a => ∃ port, a = addrCode (host, port)

theorem intentCall_own (env : Env) (host : Val) (c : CmdName) (xs : List Val) : (intentCall env host c xs).Own host := by
  rcases callCmd_cases env 0 [] host 0 c xs with ⟨_, _, hi⟩ | ⟨_, _, hi⟩ | ⟨_, port, _, _, hi⟩ | ⟨port, _, hi⟩ <;> rw [hi]
  · trivial
  · trivial
  · exact ⟨port, rfl⟩
  · exact ⟨port, rfl⟩

theorem intent_own (env : Env) (host : Val) (dgram : Bytes) : (intent env host dgram).Own host := by
  rcases workStep_cases env 0 [] host dgram 0 with ⟨_, hi⟩ | ⟨_, _, _, c, xs, _, _, _, _, _, hi⟩ <;> rw [hi]
  · trivial
  · exact intentCall_own env host c xs

theorem sender_frame (env : Env) (pruning : Int) (sv : Services) (host : Val) (dgram : Bytes) (now : Int)
    (hinv : Inv sv) (n x : List Nat)
    (hch : view (workStep env pruning sv host dgram now).sv n x ≠ view sv n x) :
    (∃ port, x = addrCode (host, port))
    ∨ (∃ t, view sv n x = some t ∧ t < now - pruning ∧ view (workStep env pruning sv host dgram now).sv n x = none) := by
  have href := (workStep_good env pruning sv host dgram now hinv).refines n x
  have hown := intent_own env host dgram
  rw [href] at hch ⊢
  have hnm := absApply_frame pruning now (view sv) _ n x hch
  cases hi : intent env host dgram with
  | none => rw [hi] at hnm; exact absurd hnm id
  | query name =>
    rw [hi] at hnm
    simp only [Intent.names] at hnm
    right
    cases hv : view sv n x with
    | none => rw [hv] at hnm; simp [staleOpt] at hnm
    | some t =>
      rw [hv] at hnm
      simp only [staleOpt, decide_eq_true_eq] at hnm
      refine ⟨t, rfl, hnm.2, ?_⟩
      simp only [absApply, hv, staleOpt, decide_eq_true_eq]
      rw [if_pos ⟨hnm.1, hnm.2⟩]
  | register names a =>
    rw [hi] at hnm hown
    obtain ⟨port, hp⟩ := hown
    left; exact ⟨port, hnm.2.trans hp⟩
  | unregister a =>
    rw [hi] at hnm hown
    obtain ⟨port, hp⟩ := hown
    left; exact ⟨port, hnm.trans hp⟩

/-- Python values that cannot be unpacked into three at all -/
def notIterable : Val → Bool
  | .none | .notImpl | .ellipsis | .bool _ | .int _ | .float _ | .complex _ _ | .slice _ _ _ | .other _ => true
  | _ => false

theorem noop_of_intentVal (env : Env) (pruning : Int) (sv : Services) (host : Val) (d : Bytes) (now : Int) (v : Val)
    (h : load d = .ok v) (hi : intentVal env host v = .none) : (workStep env pruning sv host d now).Noop sv := by
  apply workStep_noop
  unfold intent
  split
  · rfl
  · rw [h]; exact hi

theorem noop_of_load_error (env : Env) (pruning : Int) (sv : Services) (host : Val) (d : Bytes) (now : Int) (e : Err)
    (h : load d = .error e) : (workStep env pruning sv host d now).Noop sv := by
  apply workStep_noop
  unfold intent
  split
  · rfl
  · rw [h]

theorem noop_of_not_iterable (env : Env) (pruning : Int) (sv : Services) (host : Val) (d : Bytes) (now : Int) (v : Val)
    (h : load d = .ok v) (hv : notIterable v = true) : (workStep env pruning sv host d now).Noop sv := by
  apply noop_of_intentVal env pruning sv host d now v h
  cases v <;> first | rfl | cases hv

theorem noop_of_wrong_length (env : Env) (pruning : Int) (sv : Services) (host : Val) (d : Bytes) (now : Int) (xs : List Val)
    (h : load d = .ok (.tuple xs)) (hl : xs.length ≠ 3) : (workStep env pruning sv host d now).Noop sv := by
  apply noop_of_intentVal env pruning sv host d now _ h
  match xs, hl with
  | [], _ | [_], _ | [_, _], _ | _ :: _ :: _ :: _ :: _, _ => rfl
  | [_, _, _], hl => exact absurd rfl hl

theorem intentVal_triple (env : Env) (host m c a : Val) :
    intentVal env host (.tuple [m, c, a])
      = if isMagic m then (match lookupCmd env c with
          | none => .none
          | some cn => intentExec env host cn a) else .none := rfl

theorem noop_of_wrong_magic (env : Env) (pruning : Int) (sv : Services) (host : Val) (d : Bytes) (now : Int) (m c a : Val)
    (h : load d = .ok (.tuple [m, c, a])) (hm : ∀ s, m = .str s → s ≠ Gen.magic) :
    (workStep env pruning sv host d now).Noop sv := by
  have him : isMagic m = false := by
    cases m <;> try rfl
    rename_i s
    simp only [isMagic, beq_eq_false_iff_ne, ne_eq]
    exact hm s rfl
  apply noop_of_intentVal env pruning sv host d now _ h
  rw [intentVal_triple, him]
  rfl

theorem noop_of_lookup_none (env : Env) (pruning : Int) (sv : Services) (host : Val) (d : Bytes) (now : Int) (m c a : Val)
    (h : load d = .ok (.tuple [m, c, a])) (hl : lookupCmd env c = none) : (workStep env pruning sv host d now).Noop sv := by
  apply noop_of_intentVal env pruning sv host d now _ h
  rw [intentVal_triple, hl]
  split <;> rfl

theorem noop_of_non_text_command (env : Env) (pruning : Int) (sv : Services) (host : Val) (d : Bytes) (now : Int) (m c a : Val)
    (h : load d = .ok (.tuple [m, c, a])) (hc : ∀ s, c ≠ .str s) : (workStep env pruning sv host d now).Noop sv := by
  apply noop_of_lookup_none env pruning sv host d now m c a h
  cases c <;> first | rfl | exact absurd rfl (hc _)

theorem findCmd_none_of_not_mem (lowered : List Nat) : ∀ (tbl : List (List Nat × Nat)), lowered ∉ tbl.map Prod.fst →
    findCmd lowered tbl = none
  | [], _ => rfl
  | e :: rest, h => by
    simp only [List.map_cons, List.mem_cons, not_or] at h
    simp only [findCmd]
    rw [if_neg (fun hh => h.1 hh.symm)]
    exact findCmd_none_of_not_mem lowered rest h.2

theorem noop_of_unknown_command (env : Env) (pruning : Int) (sv : Services) (host : Val) (d : Bytes) (now : Int) (m a : Val)
    (s : List Nat) (h : load d = .ok (.tuple [m, .str s, a]))
    (hs : strLower env s ∉ [nmQuery, nmRegister, nmUnregister]) : (workStep env pruning sv host d now).Noop sv := by
  apply noop_of_lookup_none env pruning sv host d now m _ a h
  have : Gen.cmdTable.map Prod.fst = [nmQuery, nmRegister, nmUnregister] := by decide
  exact findCmd_none_of_not_mem _ _ (this ▸ hs)

/-- a request of the right shape whose arguments the command refuses before touching anything, or that has the wrong
number of them -/
theorem noop_of_refused_arguments (env : Env) (pruning : Int) (sv : Services) (host : Val) (d : Bytes) (now : Int) (m : Val)
    (s : List Nat) (args : List Val) (c : CmdName × Nat) (h : load d = .ok (.tuple [m, .str s, .tuple args]))
    (hc : lookupCmd env (.str s) = some c) (hi : args.length = c.2 → intentCall env host c.1 args = .none) :
    (workStep env pruning sv host d now).Noop sv := by
  apply noop_of_intentVal env pruning sv host d now _ h
  rw [intentVal_triple, hc]
  simp only [intentExec, iterate']
  split
  · split
    · exact hi ‹_›
    · rfl
  · rfl

theorem noop_of_wrong_arg_count (env : Env) (pruning : Int) (sv : Services) (host : Val) (d : Bytes) (now : Int) (m : Val)
    (s : List Nat) (args : List Val) (c : CmdName × Nat) (h : load d = .ok (.tuple [m, .str s, .tuple args]))
    (hc : lookupCmd env (.str s) = some c) (hn : args.length ≠ c.2) : (workStep env pruning sv host d now).Noop sv :=
  noop_of_refused_arguments env pruning sv host d now m s args c h hc (fun hl => absurd hl hn)

/-- nothing but text and byte strings has `.upper()` -/
theorem noop_of_query_bad_name (env : Env) (pruning : Int) (sv : Services) (host : Val) (d : Bytes) (now : Int) (m name : Val)
    (s : List Nat) (n : Nat) (h : load d = .ok (.tuple [m, .str s, .tuple [name]]))
    (hc : lookupCmd env (.str s) = some (.query, n)) (h1 : ∀ t, name ≠ .str t) (h2 : ∀ b, name ≠ .bytes b) :
    (workStep env pruning sv host d now).Noop sv := by
  apply noop_of_refused_arguments env pruning sv host d now m s [name] (.query, n) h hc
  intro _
  simp only [intentCall]
  cases name <;> first | rfl | exact absurd rfl (h1 _) | exact absurd rfl (h2 _)

theorem noop_of_register_bad_names (env : Env) (pruning : Int) (sv : Services) (host : Val) (d : Bytes) (now : Int)
    (m port : Val) (s : List Nat) (n : Nat) (names : List Val)
    (h : load d = .ok (.tuple [m, .str s, .tuple [.tuple names, port]]))
    (hc : lookupCmd env (.str s) = some (.register, n)) (hbad : allStr names = none) :
    (workStep env pruning sv host d now).Noop sv := by
  apply noop_of_refused_arguments env pruning sv host d now m s [.tuple names, port] (.register, n) h hc
  intro _
  simp only [intentCall, iterate', hbad]

theorem noop_of_register_names_not_iterable (env : Env) (pruning : Int) (sv : Services) (host : Val) (d : Bytes) (now : Int)
    (m names port : Val) (s : List Nat) (n : Nat)
    (h : load d = .ok (.tuple [m, .str s, .tuple [names, port]]))
    (hc : lookupCmd env (.str s) = some (.register, n)) (hbad : notIterable names = true) :
    (workStep env pruning sv host d now).Noop sv := by
  apply noop_of_refused_arguments env pruning sv host d now m s [names, port] (.register, n) h hc
  intro _
  simp only [intentCall]
  cases names <;> first | rfl | cases hbad

theorem allStr_none_iff (xs : List Val) : allStr xs = none ↔ ∃ x ∈ xs, ∀ t, x ≠ .str t := by
  induction xs with
  | nil => simp [allStr]
  | cons x xs ih =>
    simp only [List.mem_cons, exists_eq_or_imp]
    cases x with
    | str s =>
      have : (allStr (.str s :: xs) = none) ↔ allStr xs = none := by
        rw [allStr]; cases allStr xs <;> simp
      rw [this, ih]
      exact ⟨Or.inr, fun h => h.resolve_left (fun h' => h' s rfl)⟩
    | _ => exact ⟨fun _ => Or.inl (fun _ h => nomatch h), fun _ => rfl⟩

theorem asciiUpper_asciiLower (c : Nat) : asciiUpper (asciiLower c) = asciiUpper c := by
  unfold asciiUpper asciiLower
  split <;> split <;> (try split) <;> omega

theorem isAscii_map_lower (s : List Nat) (h : isAscii s = true) : isAscii (s.map asciiLower) = true := by
  simp only [isAscii, List.all_eq_true, decide_eq_true_eq, List.mem_map] at h ⊢
  rintro x ⟨y, hy, rfl⟩
  have := h y hy
  unfold asciiLower; split <;> omega

theorem isAscii_map_upper (s : List Nat) (h : isAscii s = true) : isAscii (s.map asciiUpper) = true := by
  simp only [isAscii, List.all_eq_true, decide_eq_true_eq, List.mem_map] at h ⊢
  rintro x ⟨y, hy, rfl⟩
  have := h y hy
  unfold asciiUpper; split <;> omega

theorem strUpper_case_insensitive (env : Env) (s : List Nat) (h : isAscii s = true) :
    strUpper env (s.map asciiLower) = strUpper env s ∧ strUpper env (s.map asciiUpper) = strUpper env s := by
  have hu : ∀ c, asciiUpper (asciiUpper c) = asciiUpper c := by
    intro c; unfold asciiUpper; split <;> (try split) <;> omega
  simp only [strUpper, h, isAscii_map_lower s h, isAscii_map_upper s h, if_true, List.map_map]
  exact ⟨List.map_congr_left (fun c _ => asciiUpper_asciiLower c), List.map_congr_left (fun c _ => hu c)⟩

theorem cmdQuery_congr (env : Env) (pruning : Int) (sv : Services) (s1 s2 : List Nat) (now : Int)
    (h : strUpper env s1 = strUpper env s2) :
    cmdQuery env pruning sv (.str s1) now = cmdQuery env pruning sv (.str s2) now := by
  simp only [cmdQuery, pyUpper, h]

theorem registered_view (env : Env) (sv : Services) (host port : Val) (s : List Nat) (now : Int) (h : Inv sv)
    (hr : registerRefuses env (host, port) = false) :
    view (cmdRegister env sv host (.tuple [.str s]) port now).sv (keyCode (.str (strUpper env s))) (addrCode (host, port))
      = some now := by
  have g := callCmd_good env 0 sv host now h .register [.tuple [.str s], port]
  rw [show cmdRegister env sv host (.tuple [.str s]) port now = callCmd env 0 sv host now .register [.tuple [.str s], port] from rfl,
    g.refines]
  simp [intentCall, iterate', allStr, absApply, upperCodes, hr]

theorem mem_innerOf_of_view (sv : Services) (NAME : Val) (x : List Nat) (t : Int) (h : view sv (keyCode NAME) x = some t) :
    ∃ a, (a, t) ∈ innerOf sv NAME ∧ addrCode a = x := by
  rw [← alFind_innerOf] at h
  exact mem_of_alFind addrCode _ x t h

/-- how many silent TCP clients a client with the default reply timeout can queue behind and still be answered in time -/
def silentClientsTolerated : Nat := (Gen.tcpClientTimeoutMs - 1) / Gen.tcpServerTimeoutMs

theorem timeouts_positive : 0 < Gen.tcpServerTimeoutMs ∧ 0 < Gen.tcpClientTimeoutMs := by decide

theorem patience (k : Nat) : k * Gen.tcpServerTimeoutMs < Gen.tcpClientTimeoutMs ↔ k ≤ silentClientsTolerated := by
  obtain ⟨hT, hC⟩ := timeouts_positive
  unfold silentClientsTolerated
  rw [Nat.le_div_iff_mul_le hT]
  omega

end Rpyc.Registry
