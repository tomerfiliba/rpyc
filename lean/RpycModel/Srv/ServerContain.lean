import RpycModel.Srv.ServerEffects
/-
Invariants of a running server under arbitrary client behaviour - isolation, the accept loop, containment,
the ledger of a well-behaved client - derived from `Eff` and from the arrival of a newcomer (`arrive`).  The pool's
queue: a server that is not a pool never uses it (`step_queue`, from `EffO.idle`); on a pool a descriptor waits in it
only while every worker is blocked (`QInv`, which reads `blocked` and is followed function by function, `Eff` saying
nothing about it).  At the end what `Server.close`, a returning `on_disconnect` and a failed spawn do to one record.
-/
namespace Rpyc.Srv

/-- the server is up: listener open, accept loop running -/
def Up (s : St) : Prop :=
  s.closedFlag = false ∧ s.listening = true ∧ s.active = true ∧ s.acceptAlive = true ∧
  s.poolUp = (s.cfg.kind == .pool)

/-- no client stalls its authentication (connects and sends no credentials) -/
def NoSilent (s : St) : Prop := ∀ j, (s.cli j).cred ≠ .silent

def NoBacklog (s : St) : Prop := ∀ j, (s.cli j).phase ≠ .backlog

/-- service instances and lent objects are never shared between clients -/
def Iso (s : St) : Prop :=
  Bound s ∧ (∀ i j a, (s.cli i).inst = some a → (s.cli j).inst = some a → i = j) ∧
  (∀ i j o, o ∈ (s.cli i).table → o ∈ (s.cli j).table → i = j)

theorem Iso.init (cfg : Cfg) : Iso (init cfg) := by
  refine ⟨⟨?_, ?_⟩, ?_, ?_⟩ <;> simp [Srv.init]

theorem Iso.eff {s t : St} {T : Nat → Prop} (h : Iso s) (e : EffC s t T) : Iso t := by
  obtain ⟨b, hi, ho⟩ := h
  refine ⟨e.bound b, ?_, ?_⟩
  · intro i j a h1 h2
    rcases e.uniqI b i j a h1 h2 with h | ⟨h3, h4⟩
    · exact h
    · exact hi i j a h3 h4
  · intro i j o h1 h2
    rcases e.uniqO b i j o h1 h2 with h | ⟨h3, h4⟩
    · exact h
    · exact ho i j o h3 h4

theorem Iso.set {s : St} (h : Iso s) (k : Nat) (c : Cli) (hi : ∀ a, c.inst = some a → (s.cli k).inst = some a)
    (ht : ∀ o ∈ c.table, o ∈ (s.cli k).table) : Iso (s.set k c) := by
  have hi' := set_all (P := fun j d => ∀ a, d.inst = some a → (s.cli j).inst = some a) (fun _ _ h => h) k hi
  have ht' := set_all (P := fun j d => ∀ o ∈ d.table, o ∈ (s.cli j).table) (fun _ _ h => h) k ht
  exact ⟨⟨fun j a hj => h.1.1 j a (hi' j a hj), fun j o hj => h.1.2 j o (ht' j o hj)⟩,
    fun i j a h1 h2 => h.2.1 i j a (hi' i a h1) (hi' j a h2), fun i j o h1 h2 => h.2.2 i j o (ht' i o h1) (ht' j o h2)⟩

theorem Iso.joined {s : St} (h : Iso s) (k : Nat) (cred : Cred) : Iso (Srv.joined s k cred) :=
  h.set k _ nofun nofun

theorem Iso.rejectNew {s : St} (h : Iso s) (k : Nat) : Iso (Srv.rejectNew s k) :=
  h.set k turnedAway nofun nofun

theorem Iso.displace {s : St} (h : Iso s) (k j : Nat) : Iso (Srv.displace s k j) :=
  h.set j _ (fun _ h => h) (fun _ h => h)

theorem Iso.close {s t : St} {o : Obs} (h : Iso s) (hs : step s .serverClose = .ok (t, o)) : Iso t :=
  h.eff (step_close_effC hs)

theorem Iso.arrive {s : St} (h : Iso s) (k : Nat) (cred : Cred) : Iso (Srv.arrive s k cred) :=
  (h.joined k cred).eff (acceptAll_eff _ _).toC

/-- **isolation is an invariant of every action**, the server's own close included -/
theorem Iso.step {s t : St} {o : Obs} (h : Iso s) (op : Op) (hs : step s op = .ok (t, o)) : Iso t := by
  cases hop : op.c16 with
  | true =>
    rcases step_c16 hop hs with e | ⟨k, cred, _, rfl⟩ | ⟨k, j, _, _, rfl⟩
    · exact h.eff e.toC
    · exact h.arrive k cred
    · exact (h.displace k j).arrive k .good
  | false =>
    rcases step_env hop hs with rfl | hs' | ⟨k, rfl⟩
    · exact h
    · exact h.close hs'
    · exact h.rejectNew k

theorem Iso.run {s : St} (h : Iso s) (ops : List Op) : Iso (Srv.run s ops) :=
  run_inv (A := fun _ => True) (fun h _ hs => Iso.step h _ hs) h ops (fun _ _ => trivial)

/-! ### the accept loop survives -/

theorem Up.eff {s t : St} {T : Nat → Prop} (h : Up s) (hk : s.cfg.kind ≠ .oneshot) (e : Eff s t T) : Up t := by
  obtain ⟨h1, h2, h3, h4, h5⟩ := h
  obtain ⟨f1, f2, f3, f4, f5⟩ := e.flags hk h1
  exact ⟨f4.trans h1, f1.trans h2, f2.trans h3, f3.trans h4, by rw [f5, h5, e.cfg]⟩

theorem Up.arrive {s : St} (h : Up s) (hk : s.cfg.kind ≠ .oneshot) (k : Nat) (cred : Cred) : Up (arrive s k cred) :=
  Up.eff (s := joined s k cred) h hk (acceptAll_eff _ _).toEff

theorem Up.step {s t : St} {o : Obs} (h : Up s) (hk : s.cfg.kind ≠ .oneshot) (op : Op) (hop : op.c16 = true)
    (hs : Srv.step s op = .ok (t, o)) : Up t := by
  rcases step_c16 hop hs with e | ⟨k, cred, _, rfl⟩ | ⟨k, j, _, _, rfl⟩
  · exact h.eff hk e.toEff
  · exact h.arrive hk k cred
  · exact Up.arrive (s := displace s k j) h hk k .good

theorem NoSilent.eff {s t : St} {T : Nat → Prop} (h : NoSilent s) (e : Eff s t T) : NoSilent t :=
  fun j => by
    rcases (e.cli j).cred with h1 | h1
    · rw [h1]; exact h j
    · exact absurd h1 (h j)

theorem NoBacklog.eff {s t : St} {T : Nat → Prop} (h : NoBacklog s) (e : Eff s t T) : NoBacklog t :=
  fun j hj => h j (e.backlog_before hj)

/-- accepting makes the accepted connection leave the listen queue -/
theorem acceptOne_taken (s : St) (k : Nat) : ((acceptOne s k).cli k).phase ≠ .backlog := by
  have key : ∀ {u v : St} {T : Nat → Prop}, Eff u v T → (u.cli k).phase = .idle → (v.cli k).phase ≠ .backlog :=
    fun e hu hv => nomatch hu.symm.trans (e.backlog_before hv)
  fun_cases acceptOne s k
  · exact key (authServe_eff _ k).toEff (by simp)
  · exact key (authServe_eff _ k).toEff (by simp)
  · exact key (authServe_eff _ k).toEff (by simp)
  next hk => exact key (poolAccept_eff _ k hk) (by simp)

/-- ... so with nobody else waiting, nobody waits afterwards -/
theorem acceptOne_noBacklog {s : St} {k : Nat} (h : ∀ j, j ≠ k → (s.cli j).phase ≠ .backlog) :
    NoBacklog (acceptOne s k) := by
  intro j hb
  by_cases hj : j = k
  · subst hj; exact acceptOne_taken _ _ hb
  · exact h j hj ((acceptOne_eff s k).backlog_before hb)

/-- the accept loop is free and nobody waits: the invariant behind `accept_survives` -/
structure Accepting (s : St) : Prop where
  up : Up s
  free : s.acceptBusy = none
  nobacklog : NoBacklog s

theorem Accepting.canAccept {s : St} (h : Accepting s) : canAccept s = true := by
  obtain ⟨⟨_, h2, h3, h4, _⟩, h5, _⟩ := h
  simp [Srv.canAccept, h2, h3, h4, h5]

theorem Accepting.set {s : St} (h : Accepting s) (k : Nat) (c : Cli) (hc : c.phase ≠ .backlog) : Accepting (s.set k c) :=
  ⟨h.up, h.free, set_all (P := fun _ c => c.phase ≠ .backlog) h.nobacklog k hc⟩

theorem Accepting.rejectNew {s : St} (h : Accepting s) (k : Nat) : Accepting (Srv.rejectNew s k) :=
  ⟨h.up, h.free, (h.set k turnedAway nofun).nobacklog⟩

/-- `busy` clause of `Eff`, packaged: which servers cannot have their accept thread occupied by a client -/
def Unstallable (s : St) : Prop :=
  s.cfg.kind = .threaded ∨ s.cfg.kind = .forking ∨ (s.cfg.kind = .pool ∧ NoSilent s)

theorem Unstallable.kind {s : St} (h : Unstallable s) : s.cfg.kind ≠ .oneshot := by
  rcases h with h | h | ⟨h, _⟩ <;> simp [h]

theorem Unstallable.busy {s : St} (h : Unstallable s) :
    s.cfg.kind = .threaded ∨ s.cfg.kind = .forking ∨ ∀ j, (s.cli j).cred ≠ .silent :=
  h.imp id (Or.imp id And.right)

theorem Unstallable.noSilent {s : St} (h : Unstallable s) (hp : s.cfg.kind = .pool) : NoSilent s := by
  rcases h with h | h | ⟨_, h⟩
  · exact nomatch hp.symm.trans h
  · exact nomatch hp.symm.trans h
  · exact h

theorem Unstallable.eff {s t : St} {T : Nat → Prop} (h : Unstallable s) (e : Eff s t T) : Unstallable t := by
  rw [Unstallable, e.cfg]
  exact h.imp id (Or.imp id (And.imp id (·.eff e)))

theorem Unstallable.set {s : St} (h : Unstallable s) (k : Nat) (c : Cli) (hc : s.cfg.kind = .pool → c.cred ≠ .silent) :
    Unstallable (s.set k c) :=
  h.imp id (Or.imp id fun ⟨hp, hn⟩ => ⟨hp, set_all (P := fun _ c => c.cred ≠ .silent) hn k (hc hp)⟩)

theorem Accepting.eff {s t : St} {T : Nat → Prop} (h : Accepting s) (hu : Unstallable s) (e : Eff s t T) :
    Accepting t :=
  ⟨h.up.eff hu.kind e, e.busy hu.busy h.up.1 h.free hu.kind, h.nobacklog.eff e⟩

/-- with the accept loop free, a new connection is taken from the listener at once -/
theorem connect_accepted {s : St} (h : Accepting s) (k : Nat) (cred : Cred) :
    arrive s k cred = acceptOne (joined s k cred) k := by
  have hne : ∀ j, j ≠ k → ((joined s k cred).cli j).phase ≠ .backlog :=
    fun j hj => by rw [joined_cli_ne s cred hj]; exact h.nobacklog j
  exact acceptAll_single _ _ k (by simp) h.canAccept (joined_phase s k cred) hne (fun _ => acceptOne_noBacklog hne)

theorem Accepting.arrive {s : St} (h : Accepting s) (hu : Unstallable s) (k : Nat) (cred : Cred)
    (hsil : s.cfg.kind = .pool → cred ≠ .silent) :
    Accepting (Srv.arrive s k cred) ∧ Unstallable (Srv.arrive s k cred) := by
  have hu' : Unstallable (joined s k cred) := hu.set k _ hsil
  have e := (acceptAll_eff (s.ids ++ [k]) (joined s k cred)).toEff
  refine ⟨⟨Up.eff (s := joined s k cred) h.up hu'.kind e, e.busy hu'.busy h.up.1 h.free hu'.kind, ?_⟩, hu'.eff e⟩
  rw [connect_accepted h]
  exact acceptOne_noBacklog fun j hj => by rw [joined_cli_ne s cred hj]; exact h.nobacklog j

/-- **the accept loop survives every client action** -/
theorem Accepting.step {s t : St} {o : Obs} (h : Accepting s) (hu : Unstallable s) (op : Op) (hop : op.c16 = true)
    (hsil : ∀ k, op ≠ .connect k .silent ∨ s.cfg.kind ≠ .pool)
    (hs : Srv.step s op = .ok (t, o)) : Accepting t ∧ Unstallable t := by
  rcases step_c16 hop hs with e | ⟨k, cred, rfl, rfl⟩ | ⟨k, j, _, _, rfl⟩
  · exact ⟨h.eff hu e.toEff, hu.eff e.toEff⟩
  · refine h.arrive hu k cred fun hp hc => ?_
    subst hc; exact (hsil k).elim (fun h => h rfl) (fun h => h hp)
  · have h' : Accepting (displace s k j) := h.set j _ (h.nobacklog j)
    exact h'.arrive (hu.set j _ fun hp => hu.noSilent hp j) k .good (fun _ => nofun)

theorem accepting_init (cfg : Cfg) : Accepting (init cfg) := by
  refine ⟨⟨rfl, rfl, rfl, rfl, rfl⟩, rfl, ?_⟩
  intro j; simp [Srv.init]

theorem accepting_run {s : St} (h : Accepting s) (hu : Unstallable s) (ops : List Op) (hops : ∀ op ∈ ops, op.c16 = true)
    (hsil : ∀ op ∈ ops, ∀ k, op ≠ .connect k .silent ∨ s.cfg.kind ≠ .pool) : Accepting (Srv.run s ops) :=
  (run_inv (P := fun t => (Accepting t ∧ Unstallable t) ∧ t.cfg = s.cfg)
    (A := fun op => op.c16 = true ∧ ∀ k, op ≠ .connect k .silent ∨ s.cfg.kind ≠ .pool)
    (fun ⟨⟨h, hu⟩, hc⟩ ⟨hop, hsil⟩ hs => ⟨h.step hu _ hop (hc ▸ hsil) hs, (step_cfg _ hs).trans hc⟩)
    ⟨⟨h, hu⟩, rfl⟩ ops fun op ho => ⟨hops op ho, hsil op ho⟩).1.1

/-! ### a well-behaved client is not affected -/

/-- client `g` has the record in `t` that it had in `s`: exactly, or on a pool up to `clients.clear()` -/
def Kept (s t : St) (g : Nat) : Prop := Same (s.cli g) (t.cli g) ∧ (s.cfg.kind ≠ .pool → t.cli g = s.cli g)

theorem Eff.kept {s t : St} {T : Nat → Prop} (e : Eff s t T) {g : Nat} (hT : ¬ T g) (hq : g ∉ s.queue) : Kept s t g :=
  ⟨e.frame g hT hq, fun hk => e.exact hk g hT hq⟩

/-- the accept loop taking a newcomer touches nobody who is not waiting -/
theorem arrive_kept (s : St) (k : Nat) (cred : Cred) {g : Nat} (hgk : g ≠ k) (hb : (s.cli g).phase ≠ .backlog)
    (hone : s.cfg.kind ≠ .oneshot) (hq : g ∉ s.queue) : Kept s (arrive s k cred) g := by
  have hT : ¬ (((joined s k cred).cli g).phase = .backlog ∨ s.cfg.kind = .oneshot) := by
    rw [joined_cli_ne s cred hgk]; exact fun h => h.elim hb hone
  have := (acceptAll_eff (s.ids ++ [k]) (joined s k cred)).kept hT hq
  rwa [Kept, joined_cli_ne s cred hgk] at this

/-- **containment**: whatever a client does, the record of every *other* connected client stays as it was - exactly on a
threaded or forking server; on a pool whose end-of-stream path removes only the connection it was serving (`cfg.spare`,
the repaired code) up to membership of `Server.clients`, for a client that is not waiting in the queue -/
theorem step_kept {s t : St} {o : Obs} {op : Op} (hop : op.c16 = true) (hs : step s op = .ok (t, o)) {g : Nat}
    (hg : op.client ≠ some g) (hb : (s.cli g).phase ≠ .backlog) (hone : s.cfg.kind ≠ .oneshot)
    (hsp : s.cfg.kind = .pool → s.cfg.spare = true) (hq : g ∉ s.queue) (hj : ∀ k j, op = .connectReuse k j → g ≠ j) :
    Kept s t g := by
  rcases step_c16 hop hs with e | ⟨k, cred, rfl, rfl⟩ | ⟨k, j, rfl, _, rfl⟩
  · refine e.kept ?_ hq
    rintro ((h | h | ⟨_, h, hp⟩) | h)
    · exact hg h.symm
    · exact hb h
    · rw [hsp hp] at h; cases h
    · exact hone h
  · exact arrive_kept s k cred (fun h => hg (h ▸ rfl)) hb hone hq
  · have hgj := hj k j rfl
    have := arrive_kept (displace s k j) k .good (fun h => hg (h ▸ rfl)) (by rwa [displace_cli_ne s k hgj]) hone hq
    rwa [Kept, displace_cli_ne s k hgj] at this

/-- a newcomer whose socket is given the descriptor number of a closed connection (`Op.connectReuse k j`): nobody but
the newcomer and the previous holder of that number `j` (whose stale table entry is replaced) is touched -/
theorem newcomer_on_reused_number {s t : St} {o : Obs} (k j g : Nat) (hs : step s (.connectReuse k j) = .ok (t, o))
    (hgk : g ≠ k) (hgj : g ≠ j) (hb : (s.cli g).phase ≠ .backlog) (hone : s.cfg.kind ≠ .oneshot) (hq : g ∉ s.queue) :
    Same (s.cli g) (t.cli g) := by
  obtain ⟨-, rfl, -⟩ := step_ok hs
  have := (arrive_kept (displace s k j) k .good hgk (by rwa [displace_cli_ne s k hgj]) hone hq).1
  rwa [displace_cli_ne s k hgj] at this

/-! ### the pool's queue -/

/-- the pool's queue is used by the pool only -/
def QueueIdle (s : St) : Prop := s.cfg.kind ≠ .pool → s.queue = []

theorem QueueIdle.eff {s t : St} {T : Nat → Prop} (h : QueueIdle s) (e : Eff s t T) (hT : ∀ j, T j → j ∉ t.queue) :
    QueueIdle t := by
  intro hk
  have hs := h (by rw [← e.cfg]; exact hk)
  cases hq : t.queue with
  | nil => rfl
  | cons a l =>
    have ha : a ∈ t.queue := by simp [hq]
    rcases e.queue a ha with h1 | h1
    · simp [hs] at h1
    · exact absurd ha (hT a h1)

@[simp] theorem built_queue (s : St) (k : Nat) : (built s k).queue = s.queue := rfl

theorem arrive_queue (s : St) (k : Nat) (cred : Cred) (hk : s.cfg.kind ≠ .pool) : (arrive s k cred).queue = s.queue :=
  (acceptAll_eff _ (joined s k cred)).idle hk

theorem close_queue {s t : St} {o : Obs} (hk : s.cfg.kind ≠ .pool) (h : step s .serverClose = .ok (t, o)) :
    t.queue = s.queue := by
  rcases (step_ok h).1 with ⟨hp, _⟩ | ⟨_, rfl⟩
  · exact absurd hp hk
  · exact baseClose_queue s

/-- a threaded, forking or one-shot server never uses the queue -/
theorem step_queue {s t : St} {o : Obs} (op : Op) (hk : s.cfg.kind ≠ .pool) (h : step s op = .ok (t, o)) :
    t.queue = s.queue := by
  cases hop : op.c16 with
  | true =>
    rcases step_c16 hop h with e | ⟨k, cred, _, rfl⟩ | ⟨k, j, _, _, rfl⟩
    · exact e.idle hk
    · exact arrive_queue s k cred hk
    · exact arrive_queue (displace s k j) k .good hk
  | false =>
    rcases step_env hop h with rfl | h' | ⟨k, rfl⟩
    · rfl
    · exact close_queue hk h'
    · rfl

theorem init_queue (cfg : Cfg) : (init cfg).queue = [] := rfl

theorem run_queue (cfg : Cfg) (hk : cfg.kind ≠ .pool) (ops : List Op) : (run (init cfg) ops).queue = [] :=
  (run_inv (P := fun s => s.cfg.kind ≠ .pool ∧ s.queue = []) (A := fun _ => True)
    (fun ⟨hk, hq⟩ _ hs => ⟨step_cfg _ hs ▸ hk, (step_queue _ hk hs).trans hq⟩) ⟨hk, rfl⟩ ops fun _ _ => trivial).2

/-- pool: a descriptor waits in the queue only while every worker is blocked -/
def QInv (s : St) : Prop := s.queue ≠ [] → freeWorkers s = 0

theorem QInv.empty {s : St} (h : QInv s) (hf : s.blocked.length < s.cfg.nb) : s.queue = [] :=
  Classical.byContradiction fun hne => by have := h hne; simp only [freeWorkers] at this; omega

-- `QInv` reads `queue`, `blocked` and `cfg`, which these leave alone
theorem QInv.set {s : St} (h : QInv s) (k : Nat) (c : Cli) : QInv (s.set k c) := h
theorem QInv.untrackAll {s : St} (h : QInv s) : QInv (untrackAll s) := h
theorem QInv.built {s : St} (h : QInv s) (k : Nat) : QInv (built s k) := h
theorem QInv.busy {s : St} (h : QInv s) (b : Option Nat) : QInv { s with acceptBusy := b } := h
theorem QInv.joined {s : St} (h : QInv s) (k : Nat) (cred : Cred) : QInv (joined s k cred) := h

theorem drain_QInv (l : List Nat) (s : St) : QInv (drain l s) := by
  induction l generalizing s with
  | nil => intro h; simp [drain] at h
  | cons a l ih =>
    unfold drain
    split
    · rename_i hf; intro _; simpa [freeWorkers] using hf
    · exact ih _

theorem poolWake_QInv (s : St) (k : Nat) (h : QInv s) : QInv (poolWake s k) := by
  unfold poolWake; split
  · exact h
  · exact drain_QInv _ _

theorem poolUnblock_QInv (s : St) (k : Nat) (h : QInv s) : QInv (poolUnblock s k) := by
  unfold poolUnblock; split
  · exact h.set k _
  · exact drain_QInv _ _

theorem poolBuild_QInv (s : St) (k : Nat) (h : QInv s) : QInv (poolBuild s k) :=
  poolWake_QInv _ k (((h.built k).set k _).untrackAll)

theorem poolAccept_QInv (s : St) (k : Nat) (h : QInv s) : QInv (poolAccept s k) := by
  have hrel : QInv (Srv.untrackAll (s.set k (release (s.cli k)))) := (h.set k _).untrackAll
  fun_cases poolAccept s k
  · exact hrel
  · exact poolBuild_QInv s k h
  · exact hrel
  · exact hrel
  · exact (h.set k _).busy _
  · exact hrel
  · exact poolBuild_QInv s k h

theorem acceptOne_QInv (s : St) (k : Nat) (hk : s.cfg.kind = .pool) (h : QInv s) : QInv (acceptOne s k) := by
  simp only [acceptOne, hk]
  exact poolAccept_QInv _ k h

theorem acceptAll_QInv (l : List Nat) (s : St) (hk : s.cfg.kind = .pool) (h : QInv s) : QInv (acceptAll l s) := by
  induction l generalizing s with
  | nil => exact h
  | cons a l ih =>
    unfold acceptAll; split
    · exact ih _ ((acceptOne_eff s a).cfg ▸ hk) (acceptOne_QInv s a hk h)
    · exact ih s hk h

theorem poolAuthGone_QInv (s : St) (k : Nat) (hk : s.cfg.kind = .pool) (h : QInv s) : QInv (poolAuthGone s k) :=
  acceptAll_QInv _ _ hk ((h.set k _).untrackAll.busy none)

theorem poolAuthDone_QInv (s : St) (k : Nat) (hk : s.cfg.kind = .pool) (h : QInv s) : QInv (poolAuthDone s k) :=
  acceptAll_QInv _ _ ((congrArg Cfg.kind (poolBuild_eff s k hk).cfg).trans hk) ((poolBuild_QInv s k h).busy none)

theorem wake_QInv (s : St) (k : Nat) (hk : s.cfg.kind = .pool) (h : QInv s) : QInv (wake s k) := by
  unfold wake
  split
  · simp only [hk, if_true]; exact poolWake_QInv s k h
  · split
    · exact poolUnblock_QInv s k h
    · exact h
  · split
    · exact poolAuthGone_QInv s k hk h
    · exact h
  · exact h

theorem send_QInv (s : St) (k : Nat) (l : List Item) (hk : s.cfg.kind = .pool) (h : QInv s) : QInv (send s k l) := by
  unfold send; split
  · exact h
  · exact wake_QInv _ k hk (h.set k _)

theorem supply_QInv (s : St) (k : Nat) (c : Cred) (hk : s.cfg.kind = .pool) (h : QInv s) : QInv (supply s k c) := by
  unfold supply
  split
  · exact h.set k _
  · split
    · split
      · exact poolAuthDone_QInv _ k hk (h.set k _)
      · exact poolAuthGone_QInv _ k hk (h.set k _)
    · exact h.set k _

theorem QInv.arrive {s : St} (h : QInv s) (hk : s.cfg.kind = .pool) (k : Nat) (cred : Cred) : QInv (arrive s k cred) :=
  acceptAll_QInv _ _ hk (h.joined k cred)

theorem QInv.step {s t : St} {o : Obs} (h : QInv s) (hk : s.cfg.kind = .pool) (op : Op) (hop : op.c16 = true)
    (hs : Srv.step s op = .ok (t, o)) : QInv t := by
  cases op with
  | serverClose | acceptFault | connectNoSpawn k => cases hop
  | connect k cred =>
    obtain ⟨-, -, ⟨-, rfl, -⟩ | ⟨-, rfl, -⟩⟩ := step_ok hs
    · exact h
    · exact h.arrive hk k cred
  | connectReuse k j => obtain ⟨-, rfl, -⟩ := step_ok hs; exact (h.set j _).arrive hk k .good
  | call k r | raw k l | gracefulClose k | abruptClose k =>
    obtain ⟨-, rfl, -⟩ := step_ok hs; exact send_QInv _ k _ hk (h.set k _)
  | creds k c => obtain ⟨-, rfl, -⟩ := step_ok hs; exact supply_QInv s k c hk h
  | releaseHook k =>
    obtain ⟨-, ⟨-, rfl⟩ | ⟨hp, -⟩, -⟩ := step_ok hs
    · exact drain_QInv _ _
    · exact absurd hk hp

theorem QInv.init (cfg : Cfg) : QInv (init cfg) := by intro h; simp [Srv.init] at h

theorem run_pool_inv (cfg : Cfg) (hk : cfg.kind = .pool) (ops : List Op) (hops : ∀ op ∈ ops, op.c16 = true) :
    Up (run (init cfg) ops) ∧ QInv (run (init cfg) ops) :=
  (run_inv (P := fun s => s.cfg.kind = .pool ∧ Up s ∧ QInv s) (A := fun op => op.c16 = true)
    (fun ⟨hk, hu, hq⟩ hop hs => ⟨step_cfg _ hs ▸ hk, hu.step (by simp [hk]) _ hop hs, hq.step hk _ hop hs⟩)
    ⟨hk, ⟨rfl, rfl, rfl, rfl, rfl⟩, QInv.init cfg⟩ ops hops).2

/-! ### a ready client is answered -/

/-- connected, served, nothing pending, nobody has hung up -/
def Ready (c : Cli) : Prop :=
  c.phase = .idle ∧ c.inbox = [] ∧ c.shut = false ∧ c.clientOpen = true ∧ c.partSent = false ∧ c.cred ≠ .silent ∧
  c.connOpen = true

/-- what the reply to a request is, executed on the client's own connection.  `expected` and `tableAfter` are what the
model computes (`answer_fst`), the server's counter `nextObj` included; the ledger `answered` is stated with `replyOk` and
`tblAfter`, which know of no counter, and `expected_ok` takes the one pair to the other -/
def expected (c : Cli) (nextObj : Nat) : ReqKind → Reply
  | .ping => .pong
  | .lend => .ref nextObj
  | .probe oid => if c.table.contains oid then .resolved else .keyError
  | .drop _ => .done
  | .arm => .done

/-- the connection's object table after the request -/
def tableAfter (tbl : List Nat) (nextObj : Nat) : ReqKind → List Nat
  | .lend => nextObj :: tbl
  | .drop oid => tbl.filter (· != oid)
  | _ => tbl

theorem Ready.usable {s : St} {g : Nat} (h : Ready (s.cli g)) : usable s g = true := by
  obtain ⟨h1, _, _, h4, h5, h6, _⟩ := h
  simp [Srv.usable, h1, h4, h5, h6]

/-- `answer` files the reply and updates the object table; besides, a request may arm the disconnect hook -/
theorem answer_fst (c : Cli) (seq : Nat) (r : ReqKind) (n : Nat) :
    (answer c seq r n).1 = { c with replies := (seq, expected c n r) :: c.replies, table := tableAfter c.table n r,
                                     slowHook := (r == .arm) || c.slowHook } := by
  cases r <;> rfl

/-- the record of a ready client after its request `r` was served (`p`: is its descriptor registered with the poller) -/
def afterCall (c : Cli) (n : Nat) (r : ReqKind) (p : Bool) : Cli :=
  { c with nextSeq := c.nextSeq + 1, replies := (c.nextSeq, expected c n r) :: c.replies,
           table := tableAfter c.table n r, slowHook := (r == .arm) || c.slowHook, polled := p }

theorem Ready.afterCall {c : Cli} (h : Ready c) (n : Nat) (r : ReqKind) (p : Bool) :
    callObs (afterCall c n r p) c.nextSeq = .reply (expected c n r) ∧ Ready (afterCall c n r p) := by
  refine ⟨?_, h⟩
  simp [callObs, Srv.afterCall]

/-- a call of a ready client whose request is served before the action ends (`hcli`: the record it is left with) -/
theorem Ready.call {s : St} {g : Nat} (h : Ready (s.cli g)) (r : ReqKind) (p : Bool)
    (hcli : (send (s.set g { s.cli g with nextSeq := (s.cli g).nextSeq + 1 }) g [.req (s.cli g).nextSeq r]).cli g =
      Srv.afterCall (s.cli g) s.nextObj r p) :
    ∃ t, step s (.call g r) = .ok (t, .reply (expected (s.cli g) s.nextObj r)) ∧ Ready (t.cli g) ∧
      (t.cli g).inst = (s.cli g).inst ∧ (t.cli g).table = tableAfter (s.cli g).table s.nextObj r := by
  obtain ⟨a1, a2⟩ := h.afterCall s.nextObj r p
  refine ⟨_, ?_, hcli ▸ a2, by rw [hcli]; rfl, by rw [hcli]; rfl⟩
  simp only [step, h.usable, Bool.not_true, Bool.false_eq_true, if_false]
  rw [hcli, a1]

/-- threaded / forking / one-shot: the client's own thread answers at once -/
theorem call_answered {s : St} (g : Nat) (r : ReqKind) (hk : s.cfg.kind ≠ .pool) (h : Ready (s.cli g)) :
    ∃ t, step s (.call g r) = .ok (t, .reply (expected (s.cli g) s.nextObj r)) ∧ Ready (t.cli g) ∧
      (t.cli g).inst = (s.cli g).inst ∧ (t.cli g).table = tableAfter (s.cli g).table s.nextObj r := by
  refine h.call r (s.cli g).polled ?_
  obtain ⟨h1, h2, h3, _⟩ := h
  simp [send, wake, h1, h2, h3, hk, runDedicated, applyConsumed, consume, answer_fst, afterCall, expected]

/-- pool: a worker is free, so the poller's hand-over is picked up at once -/
theorem call_answered_pool {s : St} (g : Nat) (r : ReqKind) (hk : s.cfg.kind = .pool) (hup : s.poolUp = true)
    (hq : QInv s) (hfree : s.blocked.length < s.cfg.nb) (h : Ready (s.cli g)) :
    ∃ t, step s (.call g r) = .ok (t, .reply (expected (s.cli g) s.nextObj r)) ∧ Ready (t.cli g) ∧
      (t.cli g).inst = (s.cli g).inst ∧ (t.cli g).table = tableAfter (s.cli g).table s.nextObj r := by
  refine h.call r true ?_
  have hnb : ¬ (s.cfg.nb - s.blocked.length = 0) := by omega
  obtain ⟨h1, h2, h3, _⟩ := h
  simp [send, wake, h1, h2, h3, hk, poolWake, hup, hq.empty hfree, drain, freeWorkers, hnb, poolServeOne, poolPlace,
    poolConsume, answer_fst, afterCall, expected]

/-- an object lent to one client does not resolve on another client's connection -/
theorem foreign_id_fails {s : St} (hi : Iso s) (i g oid : Nat) (hne : i ≠ g) (ho : oid ∈ (s.cli i).table) :
    expected (s.cli g) s.nextObj (.probe oid) = .keyError := by
  have : oid ∉ (s.cli g).table := fun h => hne (hi.2.2 i g oid ho h)
  simp [expected, this]

theorem poolBuild_cli {s : St} {k : Nat} (h : (s.cli k).inbox = []) :
    (poolBuild s k).cli k = { s.cli k with inst := some s.nextInst, connOpen := true,
                                           connHooks := (s.cli k).connHooks + 1, phase := .idle, inFd := true,
                                           polled := true, tracked := false } := by
  simp [poolBuild, built, poolWake, h, Srv.untrackAll, St.mapCli]

/-- a well-behaved newcomer that has sent nothing yet is served as soon as it is taken from the listener, by a service
instance of its own -/
theorem acceptOne_served {s : St} {k : Nat} (hone : s.cfg.kind ≠ .oneshot) (hc : (s.cli k).cred = .good)
    (hi : (s.cli k).inbox = []) (hs : (s.cli k).shut = false) (ho : (s.cli k).clientOpen = true)
    (hp : (s.cli k).partSent = false) :
    Ready ((acceptOne s k).cli k) ∧ ((acceptOne s k).cli k).inst = some s.nextInst ∧
      ((acceptOne s k).cli k).connHooks = (s.cli k).connHooks + 1 := by
  cases hk : s.cfg.kind with
  | oneshot => exact absurd hk hone
  | pool =>
    simp only [acceptOne, hk]
    rw [poolAccept_good, poolBuild_cli] <;> simp [Ready, hc, hi, hs, ho, hp]
  | threaded | forking =>
    simp only [acceptOne, hk]
    rw [authServe_good, (serveClient_nil _).2] <;> simp [Ready, hc, hi, hs, ho, hp]

/-- a new well-behaved client of a server whose accept loop is free is served at once, by a service instance of
its own (threaded, forking and pool servers; with or without an authenticator) -/
theorem connect_served {s : St} (h : Accepting s) (hk : s.cfg.kind ≠ .oneshot) (g : Nat)
    (habs : (s.cli g).phase = .absent) :
    ∃ t, step s (.connect g .good) = .ok (t, .ok) ∧ Ready (t.cli g) ∧ (t.cli g).inst = some s.nextInst ∧
      (t.cli g).connHooks = 1 := by
  refine ⟨arrive s g .good, by simp [step, habs, h.up.2.1, arrive, joined], ?_⟩
  rw [connect_accepted h]
  have hJ := joined_cli_same s g .good
  obtain ⟨a1, a2, a3⟩ := acceptOne_served (s := joined s g .good) (k := g) hk (by rw [hJ]; rfl) (by rw [hJ]; rfl)
    (by rw [hJ]; rfl) (by rw [hJ]; rfl) (by rw [hJ]; rfl)
  exact ⟨a1, a2, by rw [a3, hJ]; rfl⟩

/-- the connection whose descriptor number a newcomer is given is closed: it is not that of a client being served -/
theorem reuse_not_ready {s t : St} {o : Obs} {g : Nat} {op : Op} (h : Ready (s.cli g)) (hs : step s op = .ok (t, o)) :
    ∀ k j, op = .connectReuse k j → g ≠ j := by
  intro k j hop hgj
  subst hop; subst hgj
  obtain ⟨⟨-, -, hp, -⟩, -⟩ := step_ok hs
  rw [h.1] at hp
  rcases hp with hp | hp <;> cases hp

/-! ### a well-behaved client among others: its ledger depends on its own history only -/

/-- the other clients do anything; client `g` itself only calls -/
def OthersAndPings (g : Nat) (ops : List Op) : Prop :=
  ∀ op ∈ ops, op.c16 = true ∧ (op.client = some g → op = .call g .ping)

/-- every call of `g` in `ops` is answered, correctly -/
def pongs (g : Nat) : List Op → List (Option Obs) → Prop
  | [], _ => True
  | op :: ops, o :: os => (op = .call g .ping → o = some (.reply .pong)) ∧ pongs g ops os
  | _ :: _, [] => False

/-- a worker is free in every state the run passes through -/
def FreeWorkerAlong (s : St) : List Op → Prop
  | [] => s.blocked.length < s.cfg.nb
  | op :: ops =>
    s.blocked.length < s.cfg.nb ∧
    match Srv.step s op with
    | .ok (t, _) => FreeWorkerAlong t ops
    | .error _ => FreeWorkerAlong s ops

/-- the same as a computation, for concrete runs -/
def freeAlongB (s : St) : List Op → Bool
  | [] => decide (s.blocked.length < s.cfg.nb)
  | op :: ops =>
    decide (s.blocked.length < s.cfg.nb) &&
    match Srv.step s op with
    | .ok (t, _) => freeAlongB t ops
    | .error _ => freeAlongB s ops

theorem FreeWorkerAlong.of_bool (ops : List Op) (s : St) (h : freeAlongB s ops = true) : FreeWorkerAlong s ops := by
  induction ops generalizing s with
  | nil => simpa [freeAlongB, FreeWorkerAlong] using h
  | cons op ops ih =>
    simp only [freeAlongB, Bool.and_eq_true, decide_eq_true_eq] at h
    refine ⟨h.1, ?_⟩
    cases hs : Srv.step s op with
    | ok r => obtain ⟨t, o⟩ := r; simp only [hs] at h; exact ih t h.2
    | error e => simp only [hs] at h; exact ih s h.2

/-- the request, if `op` is a call of client `g` -/
def callOf (g : Nat) : Op → Option ReqKind
  | .call k r => if k = g then some r else none
  | _ => none

/-- the other clients do anything (hostile bytes, stalled authentication, disconnects, blocking hooks ...); client `g`
itself only calls - any requests -/
def OthersAndCalls (g : Nat) (ops : List Op) : Prop :=
  ∀ op ∈ ops, op.c16 = true ∧ (op.client = some g → ∃ r, op = .call g r)

/-- is `rep` the right reply to request `r` on a connection whose table of lent objects is `tbl`: what the connection's own
history entitles it to, whatever anybody else did (an object id is fresh for the connection: not one it holds) -/
def replyOk (tbl : List Nat) : ReqKind → Reply → Prop
  | .ping, rep => rep = .pong
  | .lend, rep => ∃ o, rep = .ref o ∧ o ∉ tbl
  | .probe oid, rep => rep = (if tbl.contains oid then .resolved else .keyError)
  | .drop _, rep => rep = .done
  | .arm, rep => rep = .done

/-- the table after the request was answered with `rep` -/
def tblAfter (tbl : List Nat) : ReqKind → Reply → List Nat
  | .lend, .ref o => o :: tbl
  | .drop oid, _ => tbl.filter (· != oid)
  | _, _ => tbl

/-- the ledger of client `g` along a run: every one of its calls is answered, with the reply its own history entitles it
to; what the other clients do in between does not enter -/
def answered (g : Nat) : List Nat → List Op → List (Option Obs) → Prop
  | _, [], _ => True
  | tbl, op :: ops, o :: os =>
    match callOf g op with
    | some r => ∃ rep, o = some (.reply rep) ∧ replyOk tbl r rep ∧ answered g (tblAfter tbl r rep) ops os
    | none => answered g tbl ops os
  | _, _ :: _, [] => False

theorem expected_ok (c : Cli) (n : Nat) (r : ReqKind) (hb : ∀ o ∈ c.table, o < n) :
    replyOk c.table r (expected c n r) ∧ tblAfter c.table r (expected c n r) = tableAfter c.table n r := by
  cases r with
  | ping => exact ⟨rfl, rfl⟩
  | lend => exact ⟨⟨n, rfl, fun h => Nat.lt_irrefl _ (hb n h)⟩, rfl⟩
  | probe oid => exact ⟨rfl, by simp only [expected]; split <;> rfl⟩
  | drop oid => exact ⟨rfl, rfl⟩
  | arm => exact ⟨rfl, rfl⟩

theorem callOf_other {g : Nat} {op : Op} (h : op.client ≠ some g) : callOf g op = none := by
  cases op <;> simp [callOf, Op.client] at h ⊢
  exact h

theorem Ready.same {c d : Cli} (h : Ready c) (hs : Same c d) : Ready d := by
  rcases hs with rfl | rfl <;> exact h

/-- there are threads for the requests of the clients being served: one of its own for each (threaded, forking), or
those of a pool in working order whose end-of-stream path removes only the connection it was serving -/
def Staffed (s : St) : Prop :=
  (s.cfg.kind = .threaded ∨ s.cfg.kind = .forking) ∧ s.queue = [] ∨
  s.cfg.kind = .pool ∧ s.cfg.spare = true ∧ Up s ∧ QInv s

/-- ... and one of them is free right now -/
def FreeNow (s : St) : Prop := s.cfg.kind = .pool → s.blocked.length < s.cfg.nb

theorem Staffed.step {s t : St} {o : Obs} {op : Op} (h : Staffed s) (hop : op.c16 = true)
    (hs : step s op = .ok (t, o)) : Staffed t := by
  have hc := step_cfg _ hs
  rw [Staffed, hc]
  rcases h with ⟨hk, hq⟩ | ⟨hk, hsp, hu, hqi⟩
  · exact Or.inl ⟨hk, (step_queue _ (by rcases hk with h | h <;> simp [h]) hs).trans hq⟩
  · exact Or.inr ⟨hk, hsp, hu.step (by simp [hk]) _ hop hs, hqi.step hk _ hop hs⟩

theorem Staffed.queue {s : St} (h : Staffed s) (hf : FreeNow s) : s.queue = [] := by
  rcases h with ⟨_, hq⟩ | ⟨hk, _, _, hqi⟩
  · exact hq
  · exact hqi.empty (hf hk)

/-- a request of a client that is being served is answered at once -/
theorem Staffed.call {s : St} (h : Staffed s) (hf : FreeNow s) {g : Nat} (hr : Ready (s.cli g)) (r : ReqKind) :
    ∃ t, Srv.step s (.call g r) = .ok (t, .reply (expected (s.cli g) s.nextObj r)) ∧ Ready (t.cli g) ∧
      (t.cli g).table = tableAfter (s.cli g).table s.nextObj r := by
  rcases h with ⟨hk, _⟩ | ⟨hk, _, hu, hqi⟩
  · obtain ⟨t, h1, h2, _, h4⟩ := call_answered g r (by rcases hk with h | h <;> simp [h]) hr
    exact ⟨t, h1, h2, h4⟩
  · obtain ⟨t, h1, h2, _, h4⟩ := call_answered_pool g r hk (by rw [hu.2.2.2.2]; simp [hk]) hqi (hf hk) hr
    exact ⟨t, h1, h2, h4⟩

/-- ... and what the other clients do leaves it as it is -/
theorem Staffed.kept {s t : St} {o : Obs} {op : Op} (h : Staffed s) (hf : FreeNow s) {g : Nat} (hr : Ready (s.cli g))
    (hop : op.c16 = true) (hg : op.client ≠ some g) (hs : Srv.step s op = .ok (t, o)) : Same (s.cli g) (t.cli g) := by
  refine (step_kept hop hs hg (by rw [hr.1]; nofun) ?_ ?_ (by rw [h.queue hf]; nofun) (reuse_not_ready hr hs)).1
  · rcases h with ⟨hk | hk, _⟩ | ⟨hk, _⟩ <;> simp [hk]
  · rcases h with ⟨hk | hk, _⟩ | ⟨_, hsp, _⟩
    · exact fun hp => nomatch hk.symm.trans hp
    · exact fun hp => nomatch hk.symm.trans hp
    · exact fun _ => hsp

theorem FreeWorkerAlong.now {s : St} {ops : List Op} (h : s.cfg.kind = .pool → FreeWorkerAlong s ops) : FreeNow s :=
  fun hk => by cases ops <;> first | exact h hk | exact (h hk).1

theorem FreeWorkerAlong.after {s t : St} {o : Obs} {op : Op} {ops : List Op}
    (h : s.cfg.kind = .pool → FreeWorkerAlong s (op :: ops)) (hs : Srv.step s op = .ok (t, o)) :
    t.cfg.kind = .pool → FreeWorkerAlong t ops :=
  fun hk => by have := (h (step_cfg _ hs ▸ hk)).2; rwa [hs] at this

theorem FreeWorkerAlong.skipped {s : St} {e : Err} {op : Op} {ops : List Op}
    (h : s.cfg.kind = .pool → FreeWorkerAlong s (op :: ops)) (hs : Srv.step s op = .error e) :
    s.cfg.kind = .pool → FreeWorkerAlong s ops :=
  fun hk => by have := (h hk).2; rwa [hs] at this

/-- whatever the others do, every request of a served client - ping, a call that lends an object, use of an object id,
release - is answered as its own history says, as long as a thread is free for it at every point of the run -/
theorem answered_run {s : St} (g : Nat) (hst : Staffed s) (hi : Iso s) (h : Ready (s.cli g)) (ops : List Op)
    (hfree : s.cfg.kind = .pool → FreeWorkerAlong s ops) (hops : OthersAndCalls g ops) :
    answered g (s.cli g).table ops (runObs s ops) := by
  induction ops generalizing s with
  | nil => trivial
  | cons op ops ih =>
    have hop := hops op List.mem_cons_self
    have hrest : OthersAndCalls g ops := fun o ho => hops o (List.mem_cons_of_mem _ ho)
    have hnow := FreeWorkerAlong.now hfree
    unfold runObs
    by_cases hc : op.client = some g
    · obtain ⟨r, rfl⟩ := hop.2 hc
      obtain ⟨t, ht, hr, htab⟩ := hst.call hnow h r
      obtain ⟨e1, e2⟩ := expected_ok (s.cli g) s.nextObj r (fun o ho => hi.1.2 g o ho)
      rw [ht]
      simp only [answered, callOf, if_true]
      refine ⟨_, rfl, e1, ?_⟩
      rw [e2, ← htab]
      exact ih (hst.step hop.1 ht) (hi.step _ ht) hr (FreeWorkerAlong.after hfree ht) hrest
    · have hno := callOf_other hc
      cases hs : step s op with
      | error e =>
        simp only [answered, hno]
        exact ih hst hi h (FreeWorkerAlong.skipped hfree hs) hrest
      | ok r =>
        obtain ⟨t, o⟩ := r
        have hsame := hst.kept hnow h hop.1 hc hs
        simp only [answered, hno]
        have := ih (hst.step hop.1 hs) (hi.step op hs) (h.same hsame) (FreeWorkerAlong.after hfree hs) hrest
        rwa [hsame.table] at this

/-- the same for a client that only pings, from any state -/
theorem pongs_run {s : St} (g : Nat) (hst : Staffed s) (h : Ready (s.cli g)) (ops : List Op)
    (hfree : s.cfg.kind = .pool → FreeWorkerAlong s ops) (hops : OthersAndPings g ops) :
    pongs g ops (runObs s ops) := by
  induction ops generalizing s with
  | nil => trivial
  | cons op ops ih =>
    have hop := hops op List.mem_cons_self
    have hrest : OthersAndPings g ops := fun o ho => hops o (List.mem_cons_of_mem _ ho)
    have hnow := FreeWorkerAlong.now hfree
    unfold runObs
    by_cases hc : op.client = some g
    · have := hop.2 hc; subst this
      obtain ⟨t, ht, hr, _⟩ := hst.call hnow h .ping
      rw [ht]
      exact ⟨fun _ => rfl, ih (hst.step hop.1 ht) hr (FreeWorkerAlong.after hfree ht) hrest⟩
    · have hne : op ≠ .call g .ping := fun hcall => hc (hcall ▸ rfl)
      cases hs : step s op with
      | error e => exact ⟨fun hcall => absurd hcall hne, ih hst h (FreeWorkerAlong.skipped hfree hs) hrest⟩
      | ok r =>
        obtain ⟨t, o⟩ := r
        exact ⟨fun hcall => absurd hcall hne,
          ih (hst.step hop.1 hs) (h.same (hst.kept hnow h hop.1 hc hs)) (FreeWorkerAlong.after hfree hs) hrest⟩

theorem unaffected_run {s : St} (g : Nat) (hk : s.cfg.kind = .threaded ∨ s.cfg.kind = .forking) (hq : s.queue = [])
    (h : Ready (s.cli g)) (ops : List Op) (hops : OthersAndPings g ops) : pongs g ops (runObs s ops) :=
  pongs_run g (Or.inl ⟨hk, hq⟩) h ops (fun hp => by rcases hk with hk | hk <;> exact nomatch hk.symm.trans hp) hops

theorem unaffected_run_pool {s : St} (g : Nat) (hk : s.cfg.kind = .pool) (hspare : s.cfg.spare = true) (hup : Up s)
    (hq : QInv s)
    (h : Ready (s.cli g)) (ops : List Op) (hfree : FreeWorkerAlong s ops) (hops : OthersAndPings g ops) :
    pongs g ops (runObs s ops) :=
  pongs_run g (Or.inr ⟨hk, hspare, hup, hq⟩) h ops (fun _ => hfree) hops

/-! ### errors from `accept()` -/

/-- **an error from `accept()` changes nothing** for the code that logs it and goes on: the server, its accept loop and
every client are exactly as they were -/
theorem accept_fault_harmless (s : St) (ht : s.cfg.acceptTough = true) (hc : canAccept s = true) :
    step s .acceptFault = .ok (s, .none) := by
  simp [step, hc, ht]

def Op.isFault : Op → Bool
  | .acceptFault => true
  | _ => false

/-- ... so a run with such errors interleaved anywhere is the run without them: every run-level theorem extends to
alphabets with `acceptFault` -/
theorem run_ignores_accept_faults (s : St) (ht : s.cfg.acceptTough = true) (ops : List Op) :
    run s ops = run s (ops.filter (fun op => !op.isFault)) := by
  induction ops generalizing s with
  | nil => rfl
  | cons op ops ih =>
    rw [List.filter_cons, run_cons]
    by_cases hf : op = .acceptFault
    · subst hf
      cases hs : step s .acceptFault with
      | error e => exact ih s ht
      | ok r =>
        rcases (step_ok hs).2 with ⟨_, rfl, _⟩ | ⟨hf', _⟩
        · exact ih _ ht
        · rw [ht] at hf'; cases hf'
    · have hkeep : (!op.isFault) = true := by cases op <;> first | rfl | exact absurd rfl hf
      rw [if_pos hkeep, run_cons]
      cases hs : step s op with
      | error e => exact ih s ht
      | ok r => exact ih r.1 (by rw [step_cfg _ hs]; exact ht)

/-! ### `Server.close`, record by record -/

theorem closeConn_connOpen (c : Cli) : (closeConn c).connOpen = false := by
  unfold closeConn; split
  · rfl
  · rename_i h; simpa using h

/-- the end of a connection: end-of-stream for the client, the descriptor released -/
theorem endServeD_shut (c : Cli) : (endServeD c).shut = true ∧ (endServeD c).srvFd = false := by
  unfold endServeD; split <;> exact ⟨rfl, rfl⟩

/-- `close()` reaches every tracked client that is being served or authenticated -/
theorem closeEffect_shut {c : Cli} (ht : c.tracked = true)
    (hp : c.phase = .idle ∨ c.phase = .blocked ∨ c.phase = .authing) :
    (closeEffect c).shut = true ∧ (closeEffect c).srvFd = false := by
  simp only [closeEffect, ht, if_true, shutOne]
  rcases hp with h | h | h <;> rw [h]
  · exact endServeD_shut c
  · exact endServeD_shut c
  · exact ⟨rfl, rfl⟩

theorem closeEffect_tracked (c : Cli) : (closeEffect c).tracked = false := by
  unfold closeEffect
  split
  · rfl
  · rename_i h; split <;> simpa using h

/-- ... and passes by one whose thread is inside `on_disconnect` -/
theorem closeEffect_closing {c : Cli} (h : c.phase = .closing) :
    (closeEffect c).phase = .closing ∧ (closeEffect c).discHooks = c.discHooks ∧ (closeEffect c).child = c.child := by
  simp only [closeEffect, shutOne, h]
  split <;> simp [h]

theorem endServeD_inFd (c : Cli) : (endServeD c).inFd = c.inFd := by
  unfold endServeD endServe release closeConn; split <;> split <;> rfl

/-- `Server.close` does not know of `fd_to_conn` -/
theorem closeEffect_inFd (c : Cli) : (closeEffect c).inFd = c.inFd := by
  unfold closeEffect shutOne
  split
  · split <;> first | exact endServeD_inFd c | rfl
  · split <;> rfl

/-- `_drop_connection` of a connection in `fd_to_conn` -/
theorem dropEffect_inFd {c : Cli} (h : c.inFd = true) :
    (dropEffect c).shut = true ∧ (dropEffect c).inFd = false ∧ (dropEffect c).connOpen = false ∧
    (dropEffect c).phase = .done ∧ (dropEffect c).srvFd = false ∧ (dropEffect c).tracked = c.tracked := by
  rw [dropEffect, if_pos h]
  refine ⟨rfl, rfl, closeConn_connOpen c, rfl, rfl, ?_⟩
  simp only [endServe, release, closeConn]; split <;> rfl

/-- the thread of `k` comes back from `on_disconnect` (a one-shot server that is closed already has nothing left to close) -/
theorem dedRelease_cli {s : St} {k : Nat} (h : s.cfg.kind ≠ .oneshot ∨ s.closedFlag = true) :
    (dedRelease s k).cli k = { s.cli k with phase := .done, child := false, slowHook := false, tracked := false } := by
  unfold dedRelease afterEnd
  split
  · rename_i hk
    simp [baseClose, h.resolve_left (fun hn => hn hk)]
  · simp

/-! ### a client that is turned away -/

/-- nothing was ever created for it -/
theorem turnedAway_terminated : Terminated turnedAway :=
  ⟨rfl, rfl, rfl, rfl, rfl, rfl, fun h => absurd rfl h, fun _ => ⟨rfl, rfl⟩⟩

end Rpyc.Srv
