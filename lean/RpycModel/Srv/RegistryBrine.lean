import RpycModel.Brine.Closed
/-
What the registry needs of brine beyond C04 (facts about the codec alone, kept with their one user): whatever
`brine.load` returns for a genuine byte string can be dumped again (`InDomain`), because every length in it is bounded
by the length of the input and every integer was read from at most that many digit characters.  (`dumpable` of the
result is `dec_dumpable` of Brine/Closed.)
-/
namespace Rpyc.Registry
open Rpyc Rpyc.Brine

theorem natDigits_length_le (k n : Nat) (hk : 1 ≤ k) (hn : n < 10 ^ k) : (natDigits n).length ≤ k := by
  obtain ⟨k, rfl⟩ := Nat.exists_eq_add_one_of_ne_zero (Nat.ne_of_gt hk)
  exact natDigits_length_le_of_lt k n hn

def intFits (B : Nat) (i : Int) : Bool :=
  (Gen.immLo ≤ i && i < Gen.immHi) ||
  ((Gen.intMaxStrDigits == 0 || (natDigits i.natAbs).length ≤ Gen.intMaxStrDigits) && decide ((intRepr i).length ≤ B + 3))

theorem intFits_mono (B B' : Nat) (h : B ≤ B') (i : Int) (hf : intFits B i = true) : intFits B' i = true := by
  simp only [intFits, Bool.or_eq_true, Bool.and_eq_true, decide_eq_true_eq] at hf ⊢
  rcases hf with hf | ⟨h1, h2⟩
  · exact Or.inl hf
  · exact Or.inr ⟨h1, by omega⟩

theorem intFits_ok (B : Nat) (hB : B + 3 < 2 ^ 32) (i : Int) (hf : intFits B i = true) : intOk i = true := by
  simp only [intFits, Bool.or_eq_true, Bool.and_eq_true, decide_eq_true_eq] at hf
  simp only [intOk, Bool.or_eq_true, Bool.and_eq_true, decide_eq_true_eq]
  rcases hf with hf | ⟨h1, h2⟩
  · exact Or.inl hf
  · exact Or.inr ⟨h1, by omega⟩

theorem limit_allows_3 : (Gen.intMaxStrDigits == 0 || decide (3 ≤ Gen.intMaxStrDigits)) = true := by decide

theorem intFits_of_digits (B : Nat) (i : Int)
    (hlim : Gen.intMaxStrDigits = 0 ∨ (natDigits i.natAbs).length ≤ Gen.intMaxStrDigits)
    (hB : (natDigits i.natAbs).length ≤ B + 2) : intFits B i = true := by
  have : (intRepr i).length ≤ (natDigits i.natAbs).length + 1 := by
    unfold intRepr; split <;> simp
  simp only [intFits, Bool.or_eq_true, Bool.and_eq_true, decide_eq_true_eq, beq_iff_eq]
  exact .inr ⟨hlim, by omega⟩

theorem small_int_fits (B : Nat) (hB : 1 ≤ B) (i : Int) (h1 : -1000 < i) (h2 : i < 1000) : intFits B i = true := by
  have hd : (natDigits i.natAbs).length ≤ 3 := natDigits_length_le 3 _ (by omega) (by omega)
  have hl := limit_allows_3
  simp only [Bool.or_eq_true, beq_iff_eq, decide_eq_true_eq] at hl
  exact intFits_of_digits B i (hl.imp_right (fun h => by omega)) (by omega)

theorem parseDigitsGo_bound : ∀ (bs : Bytes) (acc nd : Nat) (pu : Bool) (v nd' : Nat),
    parseDigitsGo acc nd pu bs = some (v, nd') → acc < 10 ^ nd →
    v < 10 ^ nd' ∧ nd' ≤ nd + bs.length ∧ nd' ≠ 0 := by
  intro bs acc nd pu v nd'
  fun_induction parseDigitsGo acc nd pu bs <;> intro h hacc
  next => cases h
  next hc =>
    cases h
    simp only [Bool.or_eq_true, beq_iff_eq, not_or] at hc
    exact ⟨hacc, by simp, hc.2⟩
  next acc nd _ b _ hd ih =>
    have hb : b - 48 ≤ 9 := by simp [isDigit] at hd; omega
    have hacc' : acc * 10 + (b - 48) < 10 ^ (nd + 1) := by rw [Nat.pow_succ]; omega
    obtain ⟨a1, a2, a3⟩ := ih h hacc'
    exact ⟨a1, by simp only [List.length_cons]; omega, a3⟩
  next ih =>
    obtain ⟨a1, a2, a3⟩ := ih h hacc
    exact ⟨a1, by simp only [List.length_cons]; omega, a3⟩
  next hc =>
    cases h
    simp only [Bool.and_eq_true, bne_iff_ne, ne_eq] at hc
    exact ⟨hacc, by omega, hc.1.2⟩
  next => cases h

theorem splitSign_length (s : Bytes) : (splitSign s).2.length ≤ s.length := by
  unfold splitSign
  split <;> simp

theorem parseInt_fits (raw : Bytes) (i : Int) (h : parseInt Gen.intMaxStrDigits raw = some i) :
    intFits raw.length i = true := by
  unfold parseInt at h
  generalize hp : parseDigitsGo 0 0 false _ = p at h
  revert h
  fun_cases finishInt _ _ p <;> intro h
  next => cases h
  next => cases h
  next v nd hlim =>
    injection h with h
    obtain ⟨a1, a2, a3⟩ := parseDigitsGo_bound _ 0 0 false v nd hp (by simp)
    have hlen : nd ≤ raw.length := by
      have := splitSign_length (raw.dropWhile isSpace)
      have := (List.dropWhile_suffix (l := raw) isSpace).length_le
      omega
    have hd : (natDigits v).length ≤ nd := natDigits_length_le nd v (by omega) a1
    simp only [Bool.and_eq_true, bne_iff_ne, ne_eq, decide_eq_true_eq, not_and, Nat.not_lt] at hlim
    have habs : i.natAbs = v := by subst h; split <;> simp
    rw [← habs] at hd
    refine intFits_of_digits _ i ?_ (by omega)
    by_cases h0 : Gen.intMaxStrDigits = 0
    · exact .inl h0
    · exact .inr (by have := hlim h0; omega)

/-! ### values whose every length is at most `B` -/

mutual
def fits (B : Nat) : Val → Bool
  | .int i => intFits B i
  | .bytes b => decide (b.length ≤ B) && b.all (· < 256)
  | .str s => decide (s.length ≤ B)
  | .tuple xs => decide (xs.length ≤ B) && fitsL B xs
  | .fset xs => decide (xs.length ≤ B) && fitsL B xs
  | .slice a b c => fits B a && fits B b && fits B c
  | _ => true
def fitsL (B : Nat) : List Val → Bool
  | [] => true
  | x :: xs => fits B x && fitsL B xs
end

mutual
theorem fits_mono (B B' : Nat) (h : B ≤ B') : ∀ v, fits B v = true → fits B' v = true
  | .int i, hf => by simp only [fits] at hf ⊢; exact intFits_mono B B' h i hf
  | .bytes b, hf => by
    simp only [fits, Bool.and_eq_true, decide_eq_true_eq] at hf ⊢
    exact ⟨by omega, hf.2⟩
  | .str s, hf => by simp only [fits, decide_eq_true_eq] at hf ⊢; omega
  | .tuple xs, hf | .fset xs, hf => by
    simp only [fits, Bool.and_eq_true, decide_eq_true_eq] at hf ⊢
    exact ⟨by omega, fitsL_mono B B' h xs hf.2⟩
  | .slice a b c, hf => by
    simp only [fits, Bool.and_eq_true] at hf ⊢
    exact ⟨⟨fits_mono B B' h a hf.1.1, fits_mono B B' h b hf.1.2⟩, fits_mono B B' h c hf.2⟩
  | .none, _ | .notImpl, _ | .ellipsis, _ | .bool _, _ | .float _, _ | .complex _ _, _ | .other _, _ => rfl
theorem fitsL_mono (B B' : Nat) (h : B ≤ B') : ∀ xs, fitsL B xs = true → fitsL B' xs = true
  | [], _ => rfl
  | x :: xs, hf => by
    simp only [fitsL, Bool.and_eq_true] at hf ⊢
    exact ⟨fits_mono B B' h x hf.1, fitsL_mono B B' h xs hf.2⟩
end

theorem utf8EncCp_length_le (c : Nat) : (utf8EncCp c).length ≤ 4 := by
  unfold utf8EncCp; split <;> (try split) <;> (try split) <;> simp

theorem flatMap_utf8_length (s : List Nat) : (s.flatMap utf8EncCp).length ≤ 4 * s.length := by
  induction s with
  | nil => simp
  | cons c cs ih =>
    have := utf8EncCp_length_le c
    simp only [List.flatMap_cons, List.length_append, List.length_cons]
    omega

mutual
theorem fits_inDomain (B : Nat) (hB : 4 * B + 4 < 2 ^ 32) : ∀ v, fits B v = true → InDomain v = true
  | .int i, hf => by simp only [fits] at hf; simp only [InDomain]; exact intFits_ok B (by omega) i hf
  | .bytes b, hf => by
    simp only [fits, Bool.and_eq_true, decide_eq_true_eq] at hf
    simp only [InDomain, decide_eq_true_eq]; omega
  | .str s, hf => by
    simp only [fits, decide_eq_true_eq] at hf
    have := flatMap_utf8_length s
    simp only [InDomain, decide_eq_true_eq]; omega
  | .tuple xs, hf | .fset xs, hf => by
    simp only [fits, Bool.and_eq_true, decide_eq_true_eq] at hf
    simp only [InDomain, Bool.and_eq_true, decide_eq_true_eq]
    exact ⟨by omega, fitsL_inDomain B hB xs hf.2⟩
  | .slice a b c, hf => by
    simp only [fits, Bool.and_eq_true] at hf
    simp only [InDomain, Bool.and_eq_true]
    exact ⟨⟨fits_inDomain B hB a hf.1.1, fits_inDomain B hB b hf.1.2⟩, fits_inDomain B hB c hf.2⟩
  | .none, _ | .notImpl, _ | .ellipsis, _ | .bool _, _ | .float _, _ | .complex _ _, _ | .other _, _ => rfl
theorem fitsL_inDomain (B : Nat) (hB : 4 * B + 4 < 2 ^ 32) : ∀ xs, fitsL B xs = true → InDomainL xs = true
  | [], _ => rfl
  | x :: xs, hf => by
    simp only [fitsL, Bool.and_eq_true] at hf
    simp only [InDomainL, Bool.and_eq_true]
    exact ⟨fits_inDomain B hB x hf.1, fitsL_inDomain B hB xs hf.2⟩
end

theorem fitsL_mem (B : Nat) : ∀ (xs : List Val) (x : Val), fitsL B xs = true → x ∈ xs → fits B x = true
  | [], _, _, hm => by simp at hm
  | y :: ys, x, hf, hm => by
    simp only [fitsL, Bool.and_eq_true] at hf
    simp only [List.mem_cons] at hm
    rcases hm with rfl | hm
    · exact hf.1
    · exact fitsL_mem B ys x hf.2 hm

theorem fitsL_of_forall (B : Nat) : ∀ (xs : List Val), (∀ x ∈ xs, fits B x = true) → fitsL B xs = true
  | [], _ => rfl
  | y :: ys, h => by
    simp only [fitsL, Bool.and_eq_true]
    exact ⟨h y (by simp), fitsL_of_forall B ys (fun x hx => h x (by simp [hx]))⟩

theorem utf8DecFuel_length (sp : Bool) : ∀ (f : Nat) (bs : Bytes) (cs : List Nat), utf8DecFuel sp f bs = some cs → cs.length ≤ f := by
  intro f bs cs
  fun_induction utf8DecFuel sp f bs generalizing cs <;> intro h <;> cases h
  next => exact Nat.zero_le _
  next hr ih => exact Nat.succ_le_succ (ih _ hr)

theorem decodeText_fits (B : Nat) (v w : Val) (hv : fits B v = true) (h : decodeText v = .ok w) : fits B w = true := by
  revert h
  fun_cases decodeText v <;> intro h <;> cases h
  next b s hs =>
    simp only [fits, Bool.and_eq_true, decide_eq_true_eq] at hv
    have := utf8DecFuel_length _ _ _ _ hs
    simp only [fits, decide_eq_true_eq]; omega

theorem byte_fits (B : Nat) (hB : 1 ≤ B) (x : Nat) (hx : x < 256) : fits B (.int (x : Nat)) = true :=
  small_int_fits B hB _ (by omega) (by omega)

theorem fitsL_map_int (B : Nat) (hB : 1 ≤ B) (b : Bytes) (hb : ∀ x ∈ b, x < 256) :
    fitsL B (b.map (fun x => Val.int (x : Nat))) = true := by
  apply fitsL_of_forall
  intro v hv
  obtain ⟨x, hx, rfl⟩ := List.mem_map.mp hv
  exact byte_fits B hB x (hb x hx)

theorem fitsL_map_str (B : Nat) (hB : 1 ≤ B) (s : List Nat) : fitsL B (s.map (fun c => Val.str [c])) = true := by
  apply fitsL_of_forall
  intro v hv
  obtain ⟨x, _, rfl⟩ := List.mem_map.mp hv
  simp only [fits, List.length_cons, List.length_nil, decide_eq_true_eq]; omega

theorem bytes_lt (B : Nat) (b : Bytes) (h : fits B (.bytes b) = true) : ∀ x ∈ b, x < 256 := by
  simp only [fits, Bool.and_eq_true, decide_eq_true_eq, List.all_eq_true] at h
  exact h.2

theorem sliceOf_fits (B : Nat) (hB : 1 ≤ B) (v w : Val) (hv : fits B v = true) (h : sliceOf v = .ok w) : fits B w = true := by
  unfold sliceOf at h
  revert h
  fun_cases unpack3 v <;> intro h <;> cases h
  next =>
    simp only [fits, fitsL, Bool.and_eq_true, decide_eq_true_eq, Bool.and_true] at hv ⊢
    exact ⟨⟨hv.2.1, hv.2.2.1⟩, hv.2.2.2⟩
  next x y z =>
    have hlt := bytes_lt B _ hv
    simp only [fits, Bool.and_eq_true]
    exact ⟨⟨byte_fits B hB x (hlt x (by simp)), byte_fits B hB y (hlt y (by simp))⟩, byte_fits B hB z (hlt z (by simp))⟩
  next =>
    simp only [fits, List.length_cons, List.length_nil, decide_eq_true_eq, Bool.and_eq_true]
    omega

theorem fsetOf_fits (B : Nat) (hB : 1 ≤ B) (v w : Val) (hv : fits B v = true) (h : fsetOf v = .ok w) : fits B w = true := by
  unfold fsetOf at h
  revert h
  fun_cases iterate v <;> intro h <;> cases h
  next => simpa [fits] using hv
  next => exact hv
  next b =>
    have hlt := bytes_lt B _ hv
    simp only [fits, Bool.and_eq_true, decide_eq_true_eq] at hv
    simp only [fits, Bool.and_eq_true, decide_eq_true_eq, List.length_map]
    exact ⟨hv.1, fitsL_map_int B hB b hlt⟩
  next s =>
    simp only [fits, decide_eq_true_eq] at hv
    simp only [fits, Bool.and_eq_true, decide_eq_true_eq, List.length_map]
    exact ⟨hv, fitsL_map_str B hB s⟩

theorem bytes_fits (B : Nat) (b : Bytes) (h1 : b.length ≤ B) (h2 : ∀ x ∈ b, x < 256) : fits B (.bytes b) = true := by
  simp only [fits, Bool.and_eq_true, decide_eq_true_eq, List.all_eq_true]
  exact ⟨h1, fun x hx => by simpa using h2 x hx⟩

/-- what the induction carries for `_load` -/
def DecOk (fuel : Nat) : Prop :=
  ∀ bs v r, dec fuel bs = .ok (v, r) → (∀ x ∈ bs, x < 256) → fits bs.length v = true ∧ Rem bs r

/-- ... and for the items of a tuple -/
def DecNOk (fuel : Nat) : Prop :=
  ∀ n bs xs r, decN fuel n bs = .ok (xs, r) → (∀ x ∈ bs, x < 256) →
    fitsL bs.length xs = true ∧ xs.length + r.length ≤ bs.length ∧ r <:+ bs

theorem decN_fits_of (fuel : Nat) (ih : DecOk fuel) : DecNOk (fuel + 1) := by
  intro n
  induction n with
  | zero =>
    intro bs xs r h _
    simp [decN] at h; obtain ⟨rfl, rfl⟩ := h
    exact ⟨rfl, by simp, List.suffix_refl _⟩
  | succ n ihn =>
    intro bs xs r h hb
    obtain ⟨x, r1, xs', hx, hxs, rfl⟩ := decN_succ_eq_ok h
    obtain ⟨f1, rem1⟩ := ih bs x r1 hx hb
    obtain ⟨f2, l2, m2⟩ := ihn r1 xs' r hxs (fun y hy => hb y (rem1.2.subset hy))
    have := rem1.1
    refine ⟨?_, by simp only [List.length_cons]; omega, m2.trans rem1.2⟩
    simp only [fitsL, Bool.and_eq_true]
    exact ⟨f1, fitsL_mono _ _ (by omega) xs' f2⟩

theorem immBase_small : -176 < Gen.immBase ∧ Gen.immBase < 256 := by decide

theorem leaf_fits {bs : Bytes} {v : Val} (h : Leaf bs v) (hb : ∀ x ∈ bs, x < 256) : fits bs.length v = true := by
  cases h with
  | imm t ht =>
    have := immBase_small
    have := hb t ht
    exact small_int_fits _ (List.length_pos_of_mem ht) _ (by omega) (by omega)
  | bytes i k =>
    exact bytes_fits _ _ (by simp only [List.length_take, List.length_drop]; omega)
      (fun x hx => hb x (List.mem_of_mem_drop (List.mem_of_mem_take hx)))
  | int i k n hn =>
    exact fits_mono _ _ (by simp only [List.length_take, List.length_drop]; omega) _ (parseInt_fits _ n hn)
  | _ => rfl

theorem dec_fits_both : ∀ fuel, DecOk fuel ∧ DecNOk fuel := by
  intro fuel
  induction fuel with
  | zero =>
    refine ⟨fun bs v r h _ => by simp [dec] at h, fun n bs xs r h _ => ?_⟩
    cases n with
    | zero => simp [decN] at h; obtain ⟨rfl, rfl⟩ := h; exact ⟨rfl, by simp, List.suffix_refl _⟩
    | succ n => simp [decN] at h
  | succ fuel ih =>
    obtain ⟨ihD, ihN⟩ := ih
    refine ⟨?_, decN_fits_of fuel ihD⟩
    intro bs v r h hb
    have hs := dec_step fuel bs
    generalize dec (fuel+1) bs = x at hs h
    cases hs with
    | fail => cases h
    | leaf _ _ hv hr => cases h; exact ⟨leaf_fits hv hb, hr⟩
    | post r0 hr f hf =>
      obtain ⟨v0, hv0, hfv⟩ := thenMap_ok _ _ v r h
      obtain ⟨f0, rem0⟩ := ihD _ _ _ hv0 (fun y hy => hb y (hr.2.subset hy))
      have hv := fits_mono _ _ (Nat.le_of_lt hr.1) v0 f0
      have hB : 1 ≤ bs.length := by have := hr.1; omega
      refine ⟨?_, Nat.lt_trans rem0.1 hr.1, rem0.2.trans hr.2⟩
      rcases hf with rfl | rfl | rfl
      · exact decodeText_fits _ v0 v hv hfv
      · exact sliceOf_fits _ hB v0 v hv hfv
      · exact fsetOf_fits _ hB v0 v hv hfv
    | tup n r0 hr =>
      obtain ⟨xs, hxs, rfl⟩ := decTup_eq_ok h
      obtain ⟨f, l, m⟩ := ihN n r0 xs r hxs (fun y hy => hb y (hr.2.subset hy))
      have := hr.1
      refine ⟨?_, by omega, m.trans hr.2⟩
      simp only [fits, Bool.and_eq_true, decide_eq_true_eq]
      exact ⟨by omega, fitsL_mono _ _ (by omega) xs f⟩

def Fine (B : Nat) (v : Val) : Prop := dumpable v = true ∧ fits B v = true

/-- 2^29: a text of `B` code points can take `4 * B` bytes in UTF-8, and `brine.dump` needs that below 2^32 (`fits_inDomain`) -/
theorem load_storable (bs : Bytes) (v : Val) (hb : ∀ x ∈ bs, x < 256) (hlen : bs.length < 2 ^ 29) (h : load bs = .ok v) :
    Fine bs.length v ∧ InDomain v = true := by
  unfold load at h
  cases hd : dec (2 * bs.length + 2) bs with
  | error e => simp [hd] at h
  | ok p =>
    obtain ⟨v', r⟩ := p
    simp [hd] at h
    subst h
    have hf := ((dec_fits_both _).1 bs v' r hd hb).1
    exact ⟨⟨dec_dumpable _ _ _ _ hd, hf⟩, fits_inDomain bs.length (by omega) v' hf⟩

end Rpyc.Registry
