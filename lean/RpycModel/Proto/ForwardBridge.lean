import RpycModel.Proto.Forward
import RpycModel.Proto.CallsLemmas
import RpycModel.Policy.Model
/-
Bridge between the two transcriptions of `Connection._check_attr`: the forwarding layer's own
(`Rpyc.Forward.checkAttr`, C02) and the policy layer's (`Rpyc.Policy.checkAttr`, C06).
They decide every name alike, and the two generated default configurations agree on what the decision reads.
No property file imports this one: C02 does not rest on the policy layer.
-/
namespace Rpyc.Forward
open Rpyc Rpyc.Calls

def toPolicyOp : Perm → Policy.Op
  | .get => .get
  | .set => .set
  | .del => .del

/-- the same switches, prefix and safe list; the switches `_check_attr` does not read are taken from `base` -/
def toPolicyConfig (base : Policy.Config) (c : Config) : Policy.Config :=
  { base with allowSafe := c.allowSafe, allowExposed := c.allowExposed, allowPublic := c.allowPublic,
              allowAll := c.allowAll, allowGet := c.allowGet, allowSet := c.allowSet, allowDel := c.allowDel,
              exposedPrefix := c.exposedPrefix, safe := c.safeAttrs }

theorem checkAttr_eq_policy (base : Policy.Config) (c : Config) (has : Name → Bool) (perm : Perm) (name : Name) :
    (∀ n, checkAttr c has perm name = .ok n ↔ Policy.checkAttr (toPolicyConfig base c) has name (toPolicyOp perm) = .ok n)
    ∧ ((∃ e, checkAttr c has perm name = .error e) ↔
        Policy.checkAttr (toPolicyConfig base c) has name (toPolicyOp perm) = .error .attributeError) := by
  have hperm : (toPolicyConfig base c).perm (toPolicyOp perm) = c.perm perm := by cases perm <;> rfl
  have hplain : Policy.plainAllowed (toPolicyConfig base c) name = c.plain name := by
    simp [Policy.plainAllowed, Config.plain, toPolicyConfig, Policy.startsUnderscore, nameOf]
  have hexp : Policy.hasExposed (toPolicyConfig base c) has name = (c.prefixOn && has (c.exposedPrefix ++ name)) := by
    simp [Policy.hasExposed, Policy.prefixTruthy, Policy.twin, Config.prefixOn, toPolicyConfig]
  unfold checkAttr Policy.checkAttr
  rw [hperm, hplain, hexp]
  have htw : Policy.twin (toPolicyConfig base c) name = c.exposedPrefix ++ name := rfl
  rw [htw]
  -- after the rewrites both sides are one chain of tests on four Booleans; a refused kind of access ends it at the first
  cases c.perm perm
  · simp [attributeError]
  cases c.plain name <;> cases (c.prefixOn && has (c.exposedPrefix ++ name)) <;> cases has name <;> simp

section
-- the text table and the code-point table are compared as written (see `nameOk_errName` in CallsLemmas.lean)
attribute [local irreducible] String.ofList

theorem safeAttrs_eq_policy : Gen.Netref.safeAttrs.map nameOf = Gen.Policy.cfgSafeAttrsCp :=
  map_nameOf_ofCodePoints _ _ (by rfl) (by decide)

theorem exposedPrefix_eq_policy : nameOf Gen.Netref.defaultExposedPrefix = Gen.Policy.cfgExposedPrefixCp :=
  nameOf_ofCodePoints Gen.Policy.cfgExposedPrefixCp (by decide)
end

/-- the generated defaults agree (two generators read the same dict) -/
theorem defaultConfig_eq_policy : toPolicyConfig Policy.defaultConfig defaultConfig = Policy.defaultConfig := by
  show { Policy.defaultConfig with
    exposedPrefix := nameOf Gen.Netref.defaultExposedPrefix, safe := Gen.Netref.safeAttrs.map nameOf } = _
  rw [safeAttrs_eq_policy, exposedPrefix_eq_policy]
  rfl

end Rpyc.Forward
