import RpycModel.Proto.Calls
import RpycModel.Props.C04
/-
Lemmas of the call layer (C01): well-formedness of values and programs, the marshalling round trips
(box → brine dump → brine load → unbox is the identity on well-formed values whose foreign references the
receiver still holds), names given as string literals (a table of names is searched as the table of texts; a literal
is a name brine accepts), and what the expression evaluators of a well-formed program produce.
-/
namespace Rpyc.Calls
open Rpyc Rpyc.Brine

@[simp] theorem Side.other_other (s : Side) : s.other.other = s := by cases s <;> rfl
@[simp] theorem Side.other_ne (s : Side) : s.other ≠ s := by cases s <;> simp [Side.other]
@[simp] theorem Side.ne_other (s : Side) : s ≠ s.other := by cases s <;> simp [Side.other]
theorem Side.eq_other_of_ne {o s : Side} (h : o ≠ s) : o = s.other := by
  cases o <;> cases s <;> simp_all [Side.other]

@[simp] theorem labelOf_value : labelOf (.int lblValue) = some .value := by decide
@[simp] theorem labelOf_tuple : labelOf (.int lblTuple) = some .tuple := by decide
@[simp] theorem labelOf_localRef : labelOf (.int lblLocalRef) = some .localRef := by decide
@[simp] theorem labelOf_remoteRef : labelOf (.int lblRemoteRef) = some .remoteRef := by decide
@[simp] theorem msgTypeOf_request : msgTypeOf (.int msgRequest) = some .request := by decide
@[simp] theorem msgTypeOf_reply : msgTypeOf (.int msgReply) = some .reply := by decide
@[simp] theorem msgTypeOf_exception : msgTypeOf (.int msgException) = some .exception := by decide

/-- a brine value that `dump` accepts and `load` gives back: representation invariants, dumpable, inside the
serializer's domain (C04) -/
def valOk (v : Val) : Bool := v.wf && dumpable v && InDomain v

def nameOk (n : Name) : Bool := valOk (.str n)

mutual
/-- a canonical, serializable `PyVal`: values are `valOk`, a `tup` really holds a non-value and is short enough
to frame, object keys are integers `str()` can render -/
def PyVal.good : PyVal → Bool
  | .imm v => valOk v
  | .tup xs => decide (xs.length < 2 ^ 32) && (allImm? xs).isNone && goodL xs
  | .ref _ k => intOk (k : Int)
def goodL : List PyVal → Bool
  | [] => true
  | x :: xs => x.good && goodL xs
end

mutual
/-- held at side `s`: every object of the *other* side mentioned in it is in that side's table `tbl` -/
def PyVal.valid (s : Side) (tbl : List Nat) : PyVal → Bool
  | .imm _ => true
  | .tup xs => validL s tbl xs
  | .ref o k => o == s || tbl.contains k
def validL (s : Side) (tbl : List Nat) : List PyVal → Bool
  | [] => true
  | x :: xs => x.valid s tbl && validL s tbl xs
end

theorem goodL_iff (xs : List PyVal) : goodL xs = true ↔ ∀ x ∈ xs, x.good = true := by
  induction xs with
  | nil => simp [goodL]
  | cons x xs ih => simp [goodL, ih]

theorem validL_iff (s : Side) (tbl : List Nat) (xs : List PyVal) :
    validL s tbl xs = true ↔ ∀ x ∈ xs, x.valid s tbl = true := by
  induction xs with
  | nil => simp [validL]
  | cons x xs ih => simp [validL, ih]

def valsOk (xs : List Val) : Bool := Val.wfL xs && dumpableL xs && InDomainL xs

@[simp] theorem valsOk_nil : valsOk [] = true := rfl
theorem valsOk_cons (x : Val) (xs : List Val) : valsOk (x :: xs) = (valOk x && valsOk xs) := by
  simp only [valsOk, valOk, Val.wfL, dumpableL, InDomainL]
  ac_rfl

theorem valOk_tuple (xs : List Val) : valOk (.tuple xs) = (decide (xs.length < 2 ^ 32) && valsOk xs) := by
  simp only [valOk, Val.wf, dumpable, InDomain, valsOk]
  ac_rfl

theorem valsOk_iff (xs : List Val) : valsOk xs = true ↔ ∀ x ∈ xs, valOk x = true := by
  induction xs with
  | nil => simp
  | cons x xs ih => simp [valsOk_cons, ih]

theorem valOk_int_small (i : Int) (h : Gen.immLo ≤ i ∧ i < Gen.immHi) : valOk (.int i) = true := by
  simp [valOk, Val.wf, dumpable, InDomain, intOk, h.1, h.2]

@[simp] theorem valOk_lblValue : valOk (.int lblValue) = true := valOk_int_small _ (by decide)
@[simp] theorem valOk_lblTuple : valOk (.int lblTuple) = true := valOk_int_small _ (by decide)
@[simp] theorem valOk_lblLocalRef : valOk (.int lblLocalRef) = true := valOk_int_small _ (by decide)
@[simp] theorem valOk_lblRemoteRef : valOk (.int lblRemoteRef) = true := valOk_int_small _ (by decide)
@[simp] theorem valOk_msgRequest : valOk (.int msgRequest) = true := valOk_int_small _ (by decide)
@[simp] theorem valOk_msgReply : valOk (.int msgReply) = true := valOk_int_small _ (by decide)
@[simp] theorem valOk_msgException : valOk (.int msgException) = true := valOk_int_small _ (by decide)
@[simp] theorem valOk_hCall : valOk (.int hCall) = true := valOk_int_small _ (by decide)
@[simp] theorem valOk_excStopIteration : valOk (.int excStopIteration) = true := valOk_int_small _ (by decide)
@[simp] theorem valOk_zero : valOk (.int 0) = true := valOk_int_small _ (by decide)
@[simp] theorem valOk_emptyStr : valOk (.str []) = true := by decide
@[simp] theorem valOk_none : valOk .none = true := by decide

theorem valOk_int_of_intOk (i : Int) (h : intOk i = true) : valOk (.int i) = true := by
  simp [valOk, Val.wf, dumpable, InDomain, h]

theorem valOk_pair (a b : Val) : valOk (.tuple [a, b]) = (valOk a && valOk b) := by
  simp [valOk_tuple, valsOk_cons]

theorem valOk_idPack (k : Nat) (h : intOk (k : Int) = true) : valOk (idPack k) = true := by
  simp [idPack, valOk_tuple, valsOk_cons, valOk_int_of_intOk _ h]

theorem allImm_some {xs : List PyVal} {vs : List Val} (h : allImm? xs = some vs) : xs = vs.map .imm := by
  revert vs
  fun_induction allImm? xs <;> intro vs h <;> cases h
  next => rfl
  next hxs ih => rw [ih hxs]; rfl

theorem allImm_map (vs : List Val) : allImm? (vs.map .imm) = some vs := by
  induction vs with
  | nil => rfl
  | cons v vs ih => simp [allImm?, ih]

theorem goodL_map_imm (vs : List Val) : goodL (vs.map .imm) = valsOk vs := by
  induction vs with
  | nil => simp [goodL]
  | cons v vs ih => simp [goodL, PyVal.good, valsOk_cons, ih]

theorem mkTup_good (xs : List PyVal) (h : goodL xs = true) (hl : xs.length < 2 ^ 32) : (mkTup xs).good = true := by
  unfold mkTup
  cases hx : allImm? xs with
  | none => simp [PyVal.good, hx, h, hl]
  | some vs =>
    obtain rfl := allImm_some hx
    rw [goodL_map_imm] at h
    rw [List.length_map] at hl
    simp [PyVal.good, valOk_tuple, h, hl]

theorem validL_map_imm (s : Side) (tbl : List Nat) (vs : List Val) : validL s tbl (vs.map .imm) = true := by
  induction vs with
  | nil => rfl
  | cons v vs ih => simpa [validL, PyVal.valid] using ih

theorem valid_mkTup (s : Side) (tbl : List Nat) (xs : List PyVal) : (mkTup xs).valid s tbl = validL s tbl xs := by
  unfold mkTup
  cases hx : allImm? xs with
  | none => rfl
  | some vs => rw [allImm_some hx, validL_map_imm]; rfl

theorem lentL_map_imm (s : Side) (vs : List Val) : lentL s (vs.map .imm) = [] := by
  induction vs with
  | nil => rfl
  | cons v vs ih => simp [lentL, lent, ih]

theorem lent_mkTup (s : Side) (xs : List PyVal) : lent s (mkTup xs) = lentL s xs := by
  unfold mkTup
  cases hx : allImm? xs with
  | none => simp [lent]
  | some vs => rw [allImm_some hx]; simp [lent, lentL_map_imm]

theorem itemsOf_mkTup (xs : List PyVal) : itemsOf (mkTup xs) = .ok xs := by
  unfold mkTup
  cases hx : allImm? xs with
  | none => simp [itemsOf]
  | some vs => simp [itemsOf, allImm_some hx]

theorem boxL_length (s : Side) (xs : List PyVal) : (boxL s xs).length = xs.length := by
  induction xs with
  | nil => rfl
  | cons x xs ih => simp [boxL, ih]

-- In the three blocks about `box` and the two passes of `unbox` the hypothesis `x.good = true` is taken by `fun` after the
-- match on `x`: as a second discriminant of the match it is unfolded by the match compiler, beyond the default recursion depth.
mutual
theorem box_ok (s : Side) : ∀ x : PyVal, x.good = true → valOk (box s x) = true
  | .imm v => fun h => by
    simp only [PyVal.good] at h
    simp [box, valOk_pair, h]
  | .tup xs => fun h => by
    simp only [PyVal.good, Bool.and_eq_true, decide_eq_true_eq, Option.isNone_iff_eq_none] at h
    obtain ⟨⟨hl, hn⟩, hg⟩ := h
    simp [box, hn, valOk_pair]
    simp [valOk_tuple, boxL_ok s xs hg, boxL_length, hl]
  | .ref o k => fun h => by
    simp only [PyVal.good] at h
    unfold box
    split <;> simp [valOk_pair, valOk_idPack k h]
theorem boxL_ok (s : Side) : ∀ xs : List PyVal, goodL xs = true → valsOk (boxL s xs) = true
  | [], _ => by simp [boxL]
  | x :: xs, h => by
    simp only [goodL, Bool.and_eq_true] at h
    simp [boxL, valsOk_cons, box_ok s x h.1, boxL_ok s xs h.2]
end

@[simp] theorem unIdPack_idPack (k : Nat) : unIdPack (idPack k) = some k := by
  simp [idPack, unIdPack]

mutual
/-- what the first pass makes of a boxed well-formed value -/
def pkgOf (s : Side) : PyVal → Pkg
  | .imm v => .raw (.tuple [.int lblValue, v])
  | .tup xs => match allImm? xs with
    | some vs => .raw (.tuple [.int lblValue, .tuple vs])
    | none => .tup (pkgOfL s xs)
  | .ref o k => if o = s then .raw (.tuple [.int lblRemoteRef, idPack k]) else .resolved (.ref o k)
def pkgOfL (s : Side) : List PyVal → List Pkg
  | [] => []
  | x :: xs => pkgOf s x :: pkgOfL s xs
end

mutual
theorem resolve_box (s : Side) (tbl : List Nat) : ∀ x : PyVal, x.good = true → x.valid s tbl = true →
    resolveLocalRefs s.other tbl (box s x) = .ok (pkgOf s x)
  | .imm v => fun _ _ => by simp [box, resolveLocalRefs, pkgOf]
  | .tup xs => fun hg hv => by
    simp only [PyVal.good, Bool.and_eq_true, decide_eq_true_eq, Option.isNone_iff_eq_none] at hg
    obtain ⟨⟨_, hn⟩, hgl⟩ := hg
    simp only [PyVal.valid] at hv
    simp [box, hn, resolveLocalRefs, resolveL_boxL s tbl xs hgl hv, pkgOf]
  | .ref o k => fun _ hv => by
    simp only [PyVal.valid, Bool.or_eq_true, beq_iff_eq] at hv
    unfold box pkgOf
    by_cases hos : o = s
    · subst hos; simp [resolveLocalRefs]
    · have hc : k ∈ tbl := by
        rcases hv with h | h
        · exact absurd h hos
        · simpa using h
      simp [resolveLocalRefs, hc, Side.eq_other_of_ne hos]
theorem resolveL_boxL (s : Side) (tbl : List Nat) : ∀ xs : List PyVal, goodL xs = true → validL s tbl xs = true →
    resolveLocalRefsL s.other tbl (boxL s xs) = .ok (pkgOfL s xs)
  | [], _, _ => by simp [boxL, resolveLocalRefsL, pkgOfL]
  | x :: xs, hg, hv => by
    simp only [goodL, Bool.and_eq_true] at hg
    simp only [validL, Bool.and_eq_true] at hv
    simp [boxL, resolveLocalRefsL, pkgOfL, resolve_box s tbl x hg.1 hv.1, resolveL_boxL s tbl xs hg.2 hv.2]
end

mutual
theorem unboxPkg_pkgOf (s : Side) : ∀ x : PyVal, x.good = true → unboxPkg s.other (pkgOf s x) = .ok x
  | .imm v => fun _ => by simp [pkgOf, unboxPkg, unboxRaw]
  | .tup xs => fun hg => by
    simp only [PyVal.good, Bool.and_eq_true, decide_eq_true_eq, Option.isNone_iff_eq_none] at hg
    obtain ⟨⟨_, hn⟩, hgl⟩ := hg
    simp [pkgOf, hn, unboxPkg, unboxPkgL_pkgOfL s xs hgl, mkTup]
  | .ref o k => fun _ => by
    unfold pkgOf
    by_cases hos : o = s
    · subst hos; simp [unboxPkg, unboxRaw]
    · simp [hos, unboxPkg]
theorem unboxPkgL_pkgOfL (s : Side) : ∀ xs : List PyVal, goodL xs = true → unboxPkgL s.other (pkgOfL s xs) = .ok xs
  | [], _ => by simp [pkgOfL, unboxPkgL]
  | x :: xs, hg => by
    simp only [goodL, Bool.and_eq_true] at hg
    simp [pkgOfL, unboxPkgL, unboxPkg_pkgOf s x hg.1, unboxPkgL_pkgOfL s xs hg.2]
end

/-- **unbox ∘ box = id.**  A well-formed value boxed at side `s` and unboxed at the other side (first pass: its
references to the receiver's objects are resolved against the receiver's table, which holds every one of them; second
pass: values, tuples, proxies) is the value: equal brine value, the same object for a reference, member by member for a
mixed tuple. -/
theorem unbox_box (s : Side) (tbl : List Nat) (x : PyVal) (hg : x.good = true) (hv : x.valid s tbl = true) :
    unbox s.other tbl (box s x) = .ok x := by
  simp [unbox, resolve_box s tbl x hg hv, unboxPkg_pkgOf s x hg]

/-- **brine carries it.**  `load (dump m) = m` for every well-formed message (C04's `load_dump` / `dump_total`). -/
theorem wire (m : Val) (h : valOk m = true) : ∃ bs, dump m = .ok bs ∧ load bs = .ok m := by
  simp only [valOk, Bool.and_eq_true] at h
  obtain ⟨e, he⟩ := Rpyc.Props.C04.dump_total m h.1.2 h.2
  exact ⟨e, he, Rpyc.Props.C04.load_dump m e h.1.1 he⟩

/-- the tables of `b` hold what those of `a` hold: a run only lends (`le_lend`), so what a side may hold it may still hold
later (`OkVal.mono`) -/
def St.le (a b : St) : Prop := ∀ s k, k ∈ a.tbl s → k ∈ b.tbl s

theorem St.le_refl (a : St) : a.le a := fun _ _ h => h
theorem St.le_trans {a b c : St} (h₁ : a.le b) (h₂ : b.le c) : a.le c := fun s k h => h₂ s k (h₁ s k h)

@[simp] theorem tbl_lend_self (st : St) (s : Side) (ks : List Nat) : (st.lend s ks).tbl s = st.tbl s ++ ks := by
  cases s <;> rfl
@[simp] theorem tbl_lend_other (st : St) (s : Side) (ks : List Nat) : (st.lend s ks).tbl s.other = st.tbl s.other := by
  cases s <;> rfl
theorem tbl_lend_other' (st : St) (o s : Side) (ks : List Nat) (h : s = o.other) : (st.lend o ks).tbl s = st.tbl s := by
  subst h; simp
@[simp] theorem tbl_bump (st : St) (fid : Nat) (s : Side) : (st.bump fid).tbl s = st.tbl s := by
  cases s <;> rfl
@[simp] theorem count_lend (st : St) (s : Side) (ks : List Nat) : (st.lend s ks).count = st.count := by
  cases s <;> rfl

theorem le_lend (st : St) (s : Side) (ks : List Nat) : st.le (st.lend s ks) := by
  intro o k h
  by_cases hos : o = s
  · subst hos; simp [h]
  · rw [Side.eq_other_of_ne hos] at h ⊢; simpa using h

theorem le_bump (st : St) (fid : Nat) : st.le (st.bump fid) := fun s k h => by simpa using h

mutual
theorem valid_mono (s : Side) (t t' : List Nat) (h : ∀ k ∈ t, k ∈ t') : ∀ x : PyVal, x.valid s t = true → x.valid s t' = true
  | .imm _, _ => rfl
  | .tup xs, hv => by
    simp only [PyVal.valid] at hv ⊢
    exact validL_mono s t t' h xs hv
  | .ref o k, hv => by
    simp only [PyVal.valid, Bool.or_eq_true, beq_iff_eq, List.contains_iff_mem] at hv ⊢
    exact hv.imp id (h k)
theorem validL_mono (s : Side) (t t' : List Nat) (h : ∀ k ∈ t, k ∈ t') : ∀ xs : List PyVal, validL s t xs = true → validL s t' xs = true
  | [], _ => rfl
  | x :: xs, hv => by
    simp only [validL, Bool.and_eq_true] at hv ⊢
    exact ⟨valid_mono s t t' h x hv.1, validL_mono s t t' h xs hv.2⟩
end

mutual
theorem valid_of_lent (s : Side) (t : List Nat) : ∀ x : PyVal, (∀ k ∈ lent s x, k ∈ t) → x.valid s.other t = true
  | .imm _, _ => rfl
  | .tup xs, h => by
    simp only [PyVal.valid]
    exact validL_of_lent s t xs (by simpa [lent] using h)
  | .ref o k, h => by
    simp only [PyVal.valid, Bool.or_eq_true, beq_iff_eq, List.contains_iff_mem]
    by_cases hos : o = s
    · subst hos; right; exact h k (by simp [lent])
    · left; exact Side.eq_other_of_ne hos
theorem validL_of_lent (s : Side) (t : List Nat) : ∀ xs : List PyVal, (∀ k ∈ lentL s xs, k ∈ t) → validL s.other t xs = true
  | [], _ => rfl
  | x :: xs, h => by
    simp only [validL, Bool.and_eq_true]
    exact ⟨valid_of_lent s t x (fun k hk => h k (by simp [lentL, hk])),
           validL_of_lent s t xs (fun k hk => h k (by simp [lentL, hk]))⟩
end

/-! ### keyword arguments travel as `tuple(kwargs.items())` and come back through `dict(...)` -/

theorem kwItem_mk (k : Name) (v : PyVal) : kwItem (mkTup [.imm (.str k), v]) = .ok (k, v) := by
  cases v <;> simp [mkTup, allImm?, kwItem]

theorem kwItems_map (kws : List (Name × PyVal)) :
    kwItems (kws.map (fun kv => mkTup [.imm (.str kv.1), kv.2])) = .ok kws := by
  induction kws with
  | nil => rfl
  | cons kv kws ih => simp [kwItems, kwItem_mk, ih]

theorem dictInsert_fresh (k : Name) (v : PyVal) (acc : List (Name × PyVal)) (h : k ∉ acc.map (·.1)) :
    dictInsert k v acc = acc ++ [(k, v)] := by
  induction acc with
  | nil => rfl
  | cons jw acc ih =>
    obtain ⟨j, w⟩ := jw
    simp only [List.map_cons, List.mem_cons, not_or] at h
    simp [dictInsert, h.1, ih h.2]

theorem dictOfItems_nodup (acc kvs : List (Name × PyVal)) (h : ((acc ++ kvs).map (·.1)).Nodup) :
    dictOfItems acc kvs = acc ++ kvs := by
  induction kvs generalizing acc with
  | nil => simp [dictOfItems]
  | cons kv kvs ih =>
    obtain ⟨k, v⟩ := kv
    have h' : ((acc ++ [(k, v)] ++ kvs).map (·.1)).Nodup := by rwa [List.append_assoc]
    have hk : k ∉ acc.map (·.1) := by
      rw [List.map_append, List.nodup_append] at h
      exact fun hm => h.2.2 k hm k (List.mem_cons_self ..) rfl
    rw [dictOfItems, dictInsert_fresh k v acc hk, ih _ h', List.append_assoc]
    rfl

/-- `dict(tuple(kwargs.items())) == kwargs`, order included (the keys of `**kwargs` are distinct) -/
theorem dictOf_kwTuple (kws : List (Name × PyVal)) (h : (kws.map (·.1)).Nodup) : dictOf (kwTuple kws) = .ok kws := by
  simp [dictOf, kwTuple, itemsOf_mkTup, kwItems_map, dictOfItems_nodup [] kws (by simpa using h)]

theorem kwTuple_good (kws : List (Name × PyVal)) (hall : ∀ kv ∈ kws, nameOk kv.1 = true ∧ kv.2.good = true)
    (hlen : kws.length < 2 ^ 32) : (kwTuple kws).good = true := by
  unfold kwTuple
  refine mkTup_good _ ((goodL_iff _).2 (List.forall_mem_map.2 fun kv hkv => ?_)) (by simpa using hlen)
  exact mkTup_good _ (by simpa [goodL, PyVal.good, nameOk] using hall kv hkv) (by simp)

theorem kwTuple_valid_iff (s : Side) (t : List Nat) (kws : List (Name × PyVal)) :
    (kwTuple kws).valid s t = true ↔ ∀ kv ∈ kws, kv.2.valid s t = true := by
  unfold kwTuple
  rw [valid_mkTup, validL_iff, List.forall_mem_map]
  simp only [valid_mkTup, validL, PyVal.valid, Bool.true_and, Bool.and_true]

theorem requestArgs_valid_iff (s : Side) (t : List Nat) (callee : PyVal) (args : List PyVal) (kws : List (Name × PyVal)) :
    (requestArgs callee args kws).valid s t = true ↔
      callee.valid s t = true ∧ validL s t args = true ∧ ∀ kv ∈ kws, kv.2.valid s t = true := by
  simp only [requestArgs, valid_mkTup, validL, Bool.and_true, Bool.and_eq_true, kwTuple_valid_iff]

/-- a value held by code at side `s` in state `st` -/
def OkVal (st : St) (s : Side) (v : PyVal) : Prop := v.good = true ∧ v.valid s (st.tbl s.other) = true

/-- what a call statement hands to `callFn` -/
structure CallOk (st : St) (s : Side) (callee : PyVal) (args : List PyVal) (kws : List (Name × PyVal)) : Prop where
  hcallee : OkVal st s callee
  hargs : ∀ a ∈ args, OkVal st s a
  hnargs : args.length < 2 ^ 32
  hkws : ∀ kv ∈ kws, nameOk kv.1 = true ∧ OkVal st s kv.2
  hnkws : kws.length < 2 ^ 32
  hnodup : (kws.map (·.1)).Nodup

section
variable {st : St} {s : Side} {callee : PyVal} {args : List PyVal} {kws : List (Name × PyVal)}

theorem CallOk.good (h : CallOk st s callee args kws) : (requestArgs callee args kws).good = true := by
  have ha := mkTup_good args ((goodL_iff _).2 fun a ha => (h.hargs a ha).1) h.hnargs
  have hk := kwTuple_good kws (fun kv hkv => ⟨(h.hkws kv hkv).1, (h.hkws kv hkv).2.1⟩) h.hnkws
  exact mkTup_good _ (by simp [goodL, h.hcallee.1, ha, hk]) (by simp)

theorem CallOk.valid (h : CallOk st s callee args kws) :
    (requestArgs callee args kws).valid s (st.tbl s.other) = true :=
  (requestArgs_valid_iff ..).2
    ⟨h.hcallee.2, (validL_iff ..).2 fun a ha => (h.hargs a ha).2, fun kv hkv => (h.hkws kv hkv).2.2⟩
end

theorem nameOf_ofList (cs : List Char) : nameOf (String.ofList cs) = cs.map Char.toNat := by
  rw [nameOf, String.toList_ofList]

theorem nameOf_injective {s t : String} (h : nameOf s = nameOf t) : s = t :=
  String.toList_injective (List.map_inj_right (fun _ _ => Char.toNat_inj.1) |>.1 h)

theorem contains_map_nameOf (l : List String) (s : String) : (l.map nameOf).contains (nameOf s) = l.contains s := by
  induction l with
  | nil => rfl
  | cons t l ih =>
    have : (nameOf s == nameOf t) = (s == t) := by
      rw [Bool.eq_iff_iff, beq_iff_eq, beq_iff_eq]
      exact ⟨nameOf_injective, congrArg nameOf⟩
    simp only [List.map_cons, List.contains_cons, ih, this]

/-- the text with the given code points (taken below the surrogates): `nameOf` gives them back -/
theorem nameOf_ofCodePoints (cps : List Nat) (h : ∀ n ∈ cps, n < 0xd800) :
    nameOf (String.ofList (cps.map Char.ofNat)) = cps := by
  have hc : ∀ n ∈ cps, (Char.toNat ∘ Char.ofNat) n = id n := fun n hn => by
    have hv : n.isValidChar := Or.inl (h n hn)
    simp [Char.ofNat, hv, Char.ofNatAux, Char.toNat]
  rw [nameOf_ofList, List.map_map, List.map_congr_left hc, List.map_id]

theorem map_nameOf_ofCodePoints (strs : List String) (cps : List (List Nat))
    (h : strs = cps.map fun l => String.ofList (l.map Char.ofNat)) (hv : ∀ l ∈ cps, ∀ n ∈ l, n < 0xd800) :
    strs.map nameOf = cps := by
  have hc : ∀ l ∈ cps, (nameOf ∘ fun l => String.ofList (l.map Char.ofNat)) l = id l :=
    fun l hl => nameOf_ofCodePoints l (hv l hl)
  rw [h, List.map_map, List.map_congr_left hc, List.map_id]

theorem flatMap_utf8EncCp_length (s : List Nat) : (s.flatMap utf8EncCp).length ≤ 4 * s.length := by
  induction s with
  | nil => simp
  | cons c cs ih =>
    have : (utf8EncCp c).length ≤ 4 := by
      unfold utf8EncCp
      split; · simp
      split; · simp
      split <;> simp
    simp only [List.flatMap_cons, List.length_append, List.length_cons]
    omega

/-- text of fewer than `2^30` characters is a name brine accepts: a character is a code point below `0x110000`, and a
code point takes at most four bytes -/
theorem nameOk_ofList (cs : List Char) (h : cs.length < 2 ^ 30) : nameOk (nameOf (String.ofList cs)) = true := by
  have hwf : ∀ n ∈ cs.map Char.toNat, n < 0x110000 := by
    intro n hn
    obtain ⟨c, _, rfl⟩ := List.mem_map.1 hn
    rcases c.valid with hc | hc
    · exact Nat.lt_trans hc (by decide)
    · exact hc.2
  have hlen := flatMap_utf8EncCp_length (cs.map Char.toNat)
  rw [List.length_map] at hlen
  simp only [nameOk, valOk, nameOf_ofList, Val.wf, dumpable, InDomain, Bool.and_true, Bool.and_eq_true, List.all_eq_true,
    decide_eq_true_eq]
  exact ⟨hwf, by omega⟩

section
-- A literal is `String.ofList` of its characters by definition.  With `String.ofList` kept from unfolding,
-- `nameOk_ofList _` finds the characters by unification and only their number is computed; otherwise the
-- literal is encoded to UTF-8 and decoded again.
attribute [local irreducible] String.ofList

theorem nameOk_errName (e : Err) : nameOk (nameOf e.name) = true := by
  cases e <;> exact nameOk_ofList _ (by decide)

theorem nameOk_builtins : nameOk builtinsName = true := nameOk_ofList _ (by decide)
theorem nameOk_nameError : nameOk nameErrorName = true := nameOk_ofList _ (by decide)
end

/-- assumed of the parameters: `repr()` of any value is a name brine accepts.  It is what crosses in the place of an exception
argument that cannot be dumped (`normArg`) -/
structure ReprOk (R : Params) : Prop where
  ok : ∀ x, nameOk (R.reprOf x) = true

/-- an exception that can travel -/
def GoodExc (e : Exc) : Prop := nameOk e.cls = true ∧ goodL e.args = true ∧ e.args.length < 2 ^ 32

theorem normArg_ok (R : Params) (hR : ReprOk R) (a : PyVal) (ha : a.good = true) : valOk (normArg R a) = true := by
  cases a with
  | imm v =>
    simp only [PyVal.good] at ha
    have hd : dumpable v = true := by simp [valOk] at ha; exact ha.1.2
    simp [normArg, hd, ha]
  | tup xs => exact hR.ok _
  | ref o k => exact hR.ok _

theorem normArg_idem (R : Params) (a : PyVal) : normArg R (.imm (normArg R a)) = normArg R a := by
  cases a with
  | imm v =>
    by_cases hd : dumpable v = true
    · simp [normArg, hd]
    · simp [normArg, hd, dumpable]
  | tup xs => simp [normArg, dumpable]
  | ref o k => simp [normArg, dumpable]

theorem Exc.normalize_idem (R : Params) (e : Exc) : (e.normalize R).normalize R = e.normalize R := by
  simp [Exc.normalize, normArg_idem]

theorem Outcome.normalize_idem (R : Params) (o : Outcome) : (o.normalize R).normalize R = o.normalize R := by
  cases o <;> simp [Outcome.normalize, Exc.normalize_idem]

theorem goodExc_normalize (R : Params) (hR : ReprOk R) (e : Exc) (he : GoodExc e) : GoodExc (e.normalize R) := by
  obtain ⟨hc, ha, hl⟩ := he
  exact ⟨hc, (goodL_iff _).2 (List.forall_mem_map.2 fun a ham => normArg_ok R hR a ((goodL_iff _).1 ha a ham)),
    by simpa [Exc.normalize] using hl⟩

theorem dumpExc_ok (R : Params) (hR : ReprOk R) (e : Exc) (he : GoodExc e) : valOk (dumpExc R e) = true := by
  obtain ⟨hc, ha, hl⟩ := he
  unfold dumpExc
  split
  · simp
  · have hargs : valsOk (e.args.map (normArg R)) = true :=
      (valsOk_iff _).2 (List.forall_mem_map.2 fun a ham => normArg_ok R hR a ((goodL_iff _).1 ha a ham))
    have hb : valOk (.str builtinsName) = true := nameOk_builtins
    have hcl : valOk (.str e.cls) = true := hc
    simp [valOk_tuple, valsOk_cons, hargs, hl, hb, hcl]

/-- **the exception codec.**  What arrives is the class and the normalised arguments of what was raised. -/
theorem loadExc_dumpExc (R : Params) (e : Exc) : loadExc (dumpExc R e) = .ok (e.normalize R) := by
  unfold dumpExc
  split
  · rename_i h
    have : e.args = [] := by simpa using h.2
    simp [loadExc, Exc.normalize, this, h.1]
  · simp [loadExc, Exc.normalize, List.map_map, Function.comp_def]

@[simp] theorem splitMsg_request (b : Val) : splitMsg (mkRequest b) = some (.request, .tuple [.int hCall, b]) := by
  simp [splitMsg, mkRequest]
@[simp] theorem splitMsg_reply (b : Val) : splitMsg (mkReply b) = some (.reply, b) := by
  simp [splitMsg, mkReply]
@[simp] theorem splitMsg_exc (b : Val) : splitMsg (mkExcMsg b) = some (.exception, b) := by
  simp [splitMsg, mkExcMsg]

theorem mkRequest_ok (b : Val) (h : valOk b = true) : valOk (mkRequest b) = true := by
  simp [mkRequest, valOk_tuple, valsOk_cons, h]
theorem mkReply_ok (b : Val) (h : valOk b = true) : valOk (mkReply b) = true := by
  simp [mkReply, valOk_tuple, valsOk_cons, h]
theorem mkExcMsg_ok (b : Val) (h : valOk b = true) : valOk (mkExcMsg b) = true := by
  simp [mkExcMsg, valOk_tuple, valsOk_cons, h]

theorem deliverExc_ok (R : Params) (hR : ReprOk R) (e : Exc) (he : GoodExc e) (st : St) :
    deliverExc R e st = (.exc (e.normalize R), st) := by
  obtain ⟨bs, hd, hl⟩ := wire _ (mkExcMsg_ok _ (dumpExc_ok R hR e he))
  simp [deliverExc, receiveExc, hd, hl, loadExc_dumpExc]

/-- **a value reply arrives** as the value that was returned, and what it lends enters the callee's table -/
theorem deliverReply_ret (R : Params) (o s : Side) (hs : s = o.other) (v : PyVal) (st : St)
    (hg : v.good = true) (hv : v.valid o (st.tbl s) = true) :
    deliverReply R o s (.ret v, st) = (.ret v, st.lend o (lent o v)) := by
  subst hs
  obtain ⟨bs, hd, hl⟩ := wire _ (mkReply_ok _ (box_ok o v hg))
  simp [deliverReply, hd, hl, unbox_box o (st.tbl o.other) v hg hv]

/-- `_dispatch_request` finds the callee and hands it exactly the arguments that were supplied -/
theorem parseCall_request (P : Prog) (s : Side) (st : St) (callee : PyVal) (args : List PyVal)
    (kws : List (Name × PyVal)) (fid : Nat) (fn : Fn) (hok : CallOk st s callee args kws)
    (ht : target P callee = some (fid, fn)) (ho : fn.owner = s.other) :
    parseCall P s.other (st.tbl s.other) (.tuple [.int hCall, box s (requestArgs callee args kws)])
      = .ok (fid, fn, args, kws) := by
  simp only [parseCall, unbox_box s _ _ hok.good hok.valid, if_true]
  simp [requestArgs, itemsOf_mkTup, applyCall, dictOf_kwTuple kws hok.hnodup, ht, ho]

/-- **a request arrives**: the callee is entered with positional and keyword arguments as supplied -/
theorem sendRequest_ok (P : Prog) (s : Side) (st : St) (callee : PyVal) (args : List PyVal)
    (kws : List (Name × PyVal)) (fid : Nat) (fn : Fn) (hok : CallOk st s callee args kws)
    (ht : target P callee = some (fid, fn)) (ho : fn.owner = s.other) :
    sendRequest P s st callee args kws
      = .dispatch fid fn args kws (st.lend s (lent s (requestArgs callee args kws))) := by
  obtain ⟨bs, hd, hl⟩ := wire _ (mkRequest_ok _ (box_ok s _ hok.good))
  simp [sendRequest, hd, hl, parseCall_request P s st callee args kws fid fn hok ht ho]

mutual
/-- constants are well-formed values that the owning side may hold at the start (objects of its own, or objects of
the peer that were handed over before: `t` is the peer's initial table); tuples are short enough to frame -/
def Expr.wf (s : Side) (t : List Nat) : Expr → Bool
  | .const v => v.good && v.valid s t
  | .tuple es => decide (es.length < 2 ^ 32) && wfEs s t es
  | _ => true
def wfEs (s : Side) (t : List Nat) : List Expr → Bool
  | [] => true
  | e :: es => e.wf s t && wfEs s t es
end

def wfKws (s : Side) (t : List Nat) : List (Name × Expr) → Bool
  | [] => true
  | (k, e) :: rest => nameOk k && e.wf s t && wfKws s t rest

mutual
def Stmt.wf (s : Side) (t : List Nat) : Stmt → Bool
  | .call _ f args kws =>
    f.wf s t && wfEs s t args && decide (args.length < 2 ^ 32) && wfKws s t kws && decide (kws.length < 2 ^ 32)
      && decide ((kws.map (·.1)).Nodup)
  | .try_ body _ handler => wfBlock s t body && wfBlock s t handler
  | .ret e => e.wf s t
  | .raise cls args => nameOk cls && wfEs s t args && decide (args.length < 2 ^ 32)
def wfBlock (s : Side) (t : List Nat) : List Stmt → Bool
  | [] => true
  | c :: cs => c.wf s t && wfBlock s t cs
end

/-- `st0`: the state the run starts in; the constants of a body may name those objects of the peer that the peer's table holds then -/
def Prog.wf (P : Prog) (st0 : St) : Bool := P.all (fun fn => wfBlock fn.owner (st0.tbl fn.owner.other) fn.body)

def Env.vals (env : Env) : List PyVal := env.args ++ env.kwargs.map (·.2) ++ env.vars.map (·.2)

def EnvOk (st : St) (s : Side) (env : Env) : Prop := ∀ v ∈ env.vals, OkVal st s v

theorem OkVal.mono {st st' : St} {s : Side} {v : PyVal} (h : OkVal st s v) (hle : st.le st') : OkVal st' s v :=
  ⟨h.1, valid_mono s _ _ (hle s.other) v h.2⟩

/-- what `o` hands over the other side may hold, once `o`'s table has what the value lends -/
theorem OkVal.lend {st : St} {o : Side} {v : PyVal} (h : OkVal st o v) : OkVal (st.lend o (lent o v)) o.other v :=
  ⟨h.1, valid_of_lent o _ v fun k hk => by simp [hk]⟩

theorem EnvOk.mono {st st' : St} {s : Side} {env : Env} (h : EnvOk st s env) (hle : st.le st') : EnvOk st' s env :=
  fun v hv => (h v hv).mono hle

theorem envOk_iff {st : St} {s : Side} {env : Env} :
    EnvOk st s env ↔ (∀ v ∈ env.args, OkVal st s v) ∧ (∀ v ∈ env.kwargs.map (·.2), OkVal st s v)
      ∧ ∀ v ∈ env.vars.map (·.2), OkVal st s v := by
  simp only [EnvOk, Env.vals, List.forall_mem_append, and_assoc]

theorem EnvOk.entry {st : St} {s : Side} {args : List PyVal} {kws : List (Name × PyVal)}
    (ha : ∀ a ∈ args, OkVal st s a) (hk : ∀ kv ∈ kws, OkVal st s kv.2) : EnvOk st s ⟨args, kws, []⟩ :=
  envOk_iff.2 ⟨ha, List.forall_mem_map.2 hk, nofun⟩

/-- the callee's frame: in the state the request leaves, the other side may hold the arguments it is entered with -/
theorem CallOk.entry {st : St} {s : Side} {callee : PyVal} {args : List PyVal} {kws : List (Name × PyVal)}
    (h : CallOk st s callee args kws) :
    EnvOk (st.lend s (lent s (requestArgs callee args kws))) s.other ⟨args, kws, []⟩ := by
  obtain ⟨-, hva, hvk⟩ := (requestArgs_valid_iff ..).1 (OkVal.lend ⟨h.good, h.valid⟩).2
  exact EnvOk.entry (fun a ha => ⟨(h.hargs a ha).1, (validL_iff ..).1 hva a ha⟩)
    fun kv hkv => ⟨(h.hkws kv hkv).2.1, hvk kv hkv⟩

theorem EnvOk.setVars {st : St} {s : Side} {env : Env} {vars : List (Nat × PyVal)} (h : EnvOk st s env)
    (hv : ∀ v ∈ vars.map (·.2), OkVal st s v) : EnvOk st s { env with vars := vars } :=
  envOk_iff.2 ⟨(envOk_iff.1 h).1, (envOk_iff.1 h).2.1, hv⟩

theorem lookupVar_mem {x : Nat} {vars : List (Nat × PyVal)} {v : PyVal} (h : lookupVar x vars = some v) :
    v ∈ vars.map (·.2) := by
  revert h
  fun_induction lookupVar x vars <;> intro h
  next => cases h
  next => cases h; exact List.mem_cons_self
  next ih => exact List.mem_cons_of_mem _ (ih h)

theorem lookupKw_mem {k : Name} {kws : List (Name × PyVal)} {v : PyVal} (h : lookupKw k kws = some v) :
    v ∈ kws.map (·.2) := by
  revert h
  fun_induction lookupKw k kws <;> intro h
  next => cases h
  next => cases h; exact List.mem_cons_self
  next ih => exact List.mem_cons_of_mem _ (ih h)

theorem goodExc_internal (n : Name) (h : nameOk n = true) : GoodExc ⟨n, []⟩ := ⟨h, rfl, by simp⟩

theorem goodExc_ofErr (e : Err) : GoodExc (ofErr e) := goodExc_internal _ (nameOk_errName e)

def ResOk {α : Type} (p : α → Prop) : Except Exc α → Prop
  | .ok a => p a
  | .error x => GoodExc x

mutual
theorem evalExpr_ok (st0 st : St) (s : Side) (env : Env) (hm : st0.le st) (he : EnvOk st s env) :
    ∀ e : Expr, e.wf s (st0.tbl s.other) = true → ResOk (OkVal st s) (evalExpr env e)
  | .const c, hw => by
    simp only [Expr.wf, Bool.and_eq_true] at hw
    exact ⟨hw.1, valid_mono s _ _ (hm s.other) c hw.2⟩
  | .var x, _ => by
    simp only [evalExpr]
    cases hl : lookupVar x env.vars with
    | some w => exact (envOk_iff.1 he).2.2 w (lookupVar_mem hl)
    | none => exact goodExc_internal _ nameOk_nameError
  | .arg i, _ => by
    simp only [evalExpr]
    cases hl : env.args[i]? with
    | some w => exact (envOk_iff.1 he).1 w (List.mem_of_getElem? hl)
    | none => exact goodExc_ofErr .indexError
  | .kw k, _ => by
    simp only [evalExpr]
    cases hl : lookupKw k env.kwargs with
    | some w => exact (envOk_iff.1 he).2.1 w (lookupKw_mem hl)
    | none => exact goodExc_ofErr .keyError
  | .tuple es, hw => by
    simp only [Expr.wf, Bool.and_eq_true, decide_eq_true_eq] at hw
    simp only [evalExpr]
    match evalExprs env es, evalExprs_ok st0 st s env hm he es hw.2 with
    | .error _, h => exact h
    | .ok vs, h =>
      exact ⟨mkTup_good vs ((goodL_iff _).2 fun v hv => (h.1 v hv).1) (h.2 ▸ hw.1),
             (valid_mkTup ..).trans ((validL_iff ..).2 fun v hv => (h.1 v hv).2)⟩
theorem evalExprs_ok (st0 st : St) (s : Side) (env : Env) (hm : st0.le st) (he : EnvOk st s env) :
    ∀ es : List Expr, wfEs s (st0.tbl s.other) es = true →
      ResOk (fun vs => (∀ v ∈ vs, OkVal st s v) ∧ vs.length = es.length) (evalExprs env es)
  | [], _ => ⟨by simp, rfl⟩
  | e :: es, hw => by
    simp only [wfEs, Bool.and_eq_true] at hw
    simp only [evalExprs]
    match evalExpr env e, evalExpr_ok st0 st s env hm he e hw.1 with
    | .error _, h => exact h
    | .ok v, h1 =>
      match evalExprs env es, evalExprs_ok st0 st s env hm he es hw.2 with
      | .error _, h => exact h
      | .ok vs, h2 => exact ⟨List.forall_mem_cons.2 ⟨h1, h2.1⟩, congrArg (· + 1) h2.2⟩
end

theorem evalKwExprs_ok (st0 st : St) (s : Side) (env : Env) (hm : st0.le st) (he : EnvOk st s env) :
    ∀ kes : List (Name × Expr), wfKws s (st0.tbl s.other) kes = true →
      ResOk (fun kvs => (∀ kv ∈ kvs, nameOk kv.1 = true ∧ OkVal st s kv.2) ∧ kvs.map (·.1) = kes.map (·.1))
        (evalKwExprs env kes)
  | [], _ => ⟨by simp, rfl⟩
  | (k, e) :: rest, hw => by
    simp only [wfKws, Bool.and_eq_true] at hw
    simp only [evalKwExprs]
    match evalExpr env e, evalExpr_ok st0 st s env hm he e hw.1.2 with
    | .error _, h => exact h
    | .ok v, h1 =>
      match evalKwExprs env rest, evalKwExprs_ok st0 st s env hm he rest hw.2 with
      | .error _, h => exact h
      | .ok kvs, h2 => exact ⟨List.forall_mem_cons.2 ⟨⟨hw.1.1, h1⟩, h2.1⟩, congrArg (k :: ·) h2.2⟩

theorem evalCallArgs_ok (st0 st : St) (s : Side) (env : Env) (hm : st0.le st) (he : EnvOk st s env)
    (x : Nat) (f : Expr) (aes : List Expr) (kes : List (Name × Expr))
    (hw : (Stmt.call x f aes kes).wf s (st0.tbl s.other) = true) :
    ResOk (fun r => CallOk st s r.1 r.2.1 r.2.2) (evalCallArgs env f aes kes) := by
  simp only [Stmt.wf, Bool.and_eq_true, decide_eq_true_eq] at hw
  obtain ⟨⟨⟨⟨⟨hf, has⟩, hna⟩, hks⟩, hnk⟩, hnd⟩ := hw
  simp only [evalCallArgs]
  match evalExpr env f, evalExpr_ok st0 st s env hm he f hf with
  | .error _, h => exact h
  | .ok c, h1 =>
    match evalExprs env aes, evalExprs_ok st0 st s env hm he aes has with
    | .error _, h => exact h
    | .ok as, h2 =>
      match evalKwExprs env kes, evalKwExprs_ok st0 st s env hm he kes hks with
      | .error _, h => exact h
      | .ok kws, h3 =>
        have hlen : kws.length = kes.length := by simpa using congrArg List.length h3.2
        exact ⟨h1, h2.1, h2.2 ▸ hna, h3.1, hlen ▸ hnk, h3.2 ▸ hnd⟩

end Rpyc.Calls
