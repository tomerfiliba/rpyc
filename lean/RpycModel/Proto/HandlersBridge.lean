import RpycModel.Proto.Handlers
import RpycModel.Policy.Model
import RpycModel.Vinegar.Model
/-
Ties between L6 `Proto/Handlers`, which carries its own transcription of `_check_attr` / `_access_attr` and of the
loader's gates, and the layers that own those functions: L4 `Policy` (property C06) and L5 `Vinegar` (property C09).
If one side is changed and the other is not, this file stops building.
-/
namespace Rpyc.Handlers.Bridge
open Rpyc Rpyc.Handlers

def toOp : Op → Policy.Op
  | .get => .get
  | .set => .set
  | .del => .del

def toPolicy (c : Config) (oldstyle : Bool) : Policy.Config :=
  { allowSafe := c.allowSafe, allowExposed := c.allowExposed, allowPublic := c.allowPublic, allowAll := c.allowAll,
    allowGet := c.allowGet, allowSet := c.allowSet, allowDel := c.allowDel, exposedPrefix := c.exposedPrefix,
    safe := c.safe, allowPickle := c.allowPickle, importCustomExc := c.importCustomExc,
    instantiateCustomExc := c.instantiateCustomExc, instantiateOldstyleExc := oldstyle }

theorem perm_eq (c : Config) (o : Bool) (op : Op) : c.perm op = (toPolicy c o).perm (toOp op) := by
  cases op <;> rfl

theorem prefixTruthy_eq (c : Config) (o : Bool) : prefixTruthy c = Policy.prefixTruthy (toPolicy c o) := rfl
theorem twin_eq (c : Config) (o : Bool) (n : PyStr) : twin c n = Policy.twin (toPolicy c o) n := rfl
theorem plainAllowed_eq (c : Config) (o : Bool) (n : PyStr) : plainAllowed c n = Policy.plainAllowed (toPolicy c o) n := rfl
theorem hasExposed_eq (c : Config) (o : Bool) (has : PyStr → Bool) (n : PyStr) :
    hasExposed c has n = Policy.hasExposed (toPolicy c o) has n := rfl

theorem checkAttr_eq (c : Config) (o : Bool) (has : PyStr → Bool) (n : PyStr) (op : Op) :
    checkAttr c has n op = Policy.checkAttr (toPolicy c o) has n (toOp op) := by
  unfold checkAttr Policy.checkAttr
  rw [perm_eq c o op]
  rfl

theorem defaultConfig_eq :
    toPolicy defaultConfig Gen.Policy.cfgInstantiateOldstyleExceptions = Policy.defaultConfig := rfl

/-- name typing of `_access_attr`: text as is, bytes through strict UTF-8, anything else `TypeError` -/
theorem decodeName_text (s : PyStr) : decodeName (.imm (.str s)) = Policy.decodeName (.text s) := rfl
theorem decodeName_bytes (b : Bytes) : decodeName (.imm (.bytes b)) = Policy.decodeName (.bytes b) := rfl
theorem decodeName_other : decodeName (.obj 0) = Policy.decodeName .other ∧ decodeName (.imm (.int 1)) = Policy.decodeName .other
    ∧ decodeName (.imm .none) = Policy.decodeName .other := ⟨rfl, rfl, rfl⟩

def toRecv (c : Config) (oldstyle : Bool) : Vinegar.RecvCfg :=
  { importCustom := c.importCustomExc, instCustom := c.instantiateCustomExc, instOldstyle := oldstyle }

/-- an import is attempted here (`importGate`: the switch is on and `modname not in sys.modules`) exactly when the
loader model says so -/
theorem importGate_eq (c : Config) (o : Bool) (env : Vinegar.Env) (m : Val) :
    (c.importCustomExc && !env.loaded m) = Vinegar.importAttempted (toRecv c o) env m := rfl

/-- `modname == "builtins"` as this layer evaluates it (`pyEq`) is the loader model's test -/
theorem builtinsName_eq (m : Val) : pyEq m (.str (cp "builtins")) = Vinegar.isBuiltinsName m := by
  -- on text both sides compare with the same code points; on every other kind of value both are `false`
  cases m <;> rfl

end Rpyc.Handlers.Bridge
