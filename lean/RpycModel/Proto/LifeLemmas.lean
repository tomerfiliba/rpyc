import RpycModel.Proto.Life
/-
Invariants of the lifecycle automaton, after the obligations on the measured constants (`Gen.Proto`) that its steps are read with.

A state has two halves that the events treat separately: the flags (`closed`, `inClose`, `chanClosed`, `hookRuns`,
`cleaned`, `tablesCleared`), moved by `cleanup` / `finishClose` / `closeCall`, and the requests (`issued`, `pending`,
`blocked`, `outcomes`, `fromPeer`), moved by `resolveBlocked` / `resolveOne`.  Each of these pieces is described once;
`Step` is `step` as a relation whose constructors are written with the pieces, and every invariant is a case analysis of it.
-/
namespace Rpyc.Proto.Life

/-- obligation on the code (measured on the live `Connection._cleanup`): when the stream's own close() raises,
the disconnect hook still runs and everything is still released -/
theorem cleanup_survives_channel_close_error : Gen.Proto.cleanupSurvivesChannelCloseError = true := by decide

/-- obligation on the code (measured on the live `Connection._dispatch`): a request made from inside the delivery of
a response that meets the end of the transport closes the connection -/
theorem dispatch_closes_on_eof : Gen.Proto.dispatchClosesOnEof = true := by decide

/-- obligation on the code (measured, `gen_proto.measure_cleanup_fails_pending`): `_cleanup` completes every request still
waiting for its answer with EOFError (result ready, an error, callbacks run; a failing callback stops nothing).  False = the
callbacks are dropped unfired and `ready` stays False for ever (`while not ar.ready:` never ends). -/
theorem cleanup_fails_pending : Gen.Proto.cleanupFailsPending = true := by decide

/-- obligation on the code (measured, `gen_proto.measure_box_refuses_on_closed_channel`): boxing by reference on a closed
channel raises EOFError and registers nothing.  False = the object would be held for a peer that can never release it. -/
theorem box_refuses_on_closed_channel : boxRefusesOnClosedChannel = true := by decide

/-- obligation on the code (measured): a second `_cleanup` on the same connection returns quietly -/
theorem cleanup_idempotent : Gen.Proto.cleanupIdempotent = true := by decide

structure Flags (l : Life) : Prop where
  /-- the hook has run once iff `_cleanup` has completed, and never twice -/
  hook : l.hookRuns = if l.cleaned then 1 else 0
  cl : l.cleaned = true → l.closed = true ∧ l.chanClosed = true ∧ l.tablesCleared = true
  /-- outside a `close()` call, closed means cleaned up -/
  done : l.closed = true → l.inClose = false → l.cleaned = true
  inc : l.inClose = true → l.closed = true
  tab : l.tablesCleared = true → l.cleaned = true

theorem flags_initWith (hr cr : Bool) : Flags (Life.initWith hr cr) := by
  constructor <;> simp [Life.initWith]

theorem flags_init : Flags Life.init := flags_initWith false false

def Life.flags (l : Life) : Bool × Bool × Bool × Nat × Bool × Bool :=
  (l.closed, l.inClose, l.chanClosed, l.hookRuns, l.cleaned, l.tablesCleared)

/-- `Flags` reads nothing else: it survives any change of the requests -/
theorem Flags.congr {l l' : Life} (h : Flags l) (e : l'.flags = l.flags) : Flags l' := by
  simp only [Life.flags, Prod.mk.injEq] at e
  obtain ⟨h1, h2, h3, h4, h5, h6⟩ := e
  constructor
  · rw [h4, h5]; exact h.hook
  · rw [h5, h1, h3, h6]; exact h.cl
  · rw [h1, h2, h5]; exact h.done
  · rw [h2, h1]; exact h.inc
  · rw [h6, h5]; exact h.tab

theorem Flags.chanClosed {l : Life} (h : Flags l) : Flags { l with chanClosed := true } :=
  ⟨h.hook, fun hc => ⟨(h.cl hc).1, rfl, (h.cl hc).2.2⟩, h.done, h.inc, h.tab⟩

theorem boxRegisters_closed (byRef : Bool) : boxRegisters true byRef = false := by
  simp [boxRegisters, box_refuses_on_closed_channel]

/-- boxing may put an object into the tables, but not once the channel is closed (`cc`: what `_box` sees of the channel) -/
theorem Flags.boxed {l : Life} (h : Flags l) (cc byRef : Bool) (hcc : l.chanClosed = true → cc = true) :
    Flags { l with tablesCleared := l.tablesCleared && !boxRegisters cc byRef } := by
  refine ⟨h.hook, fun hc => ⟨(h.cl hc).1, (h.cl hc).2.1, ?_⟩, h.done, h.inc, fun ht => h.tab ?_⟩
  · show (l.tablesCleared && !boxRegisters cc byRef) = true
    rw [(h.cl hc).2.2, hcc (h.cl hc).2.1, boxRegisters_closed]; rfl
  · exact (Bool.and_eq_true_iff.mp ht).1

theorem Flags.open {l : Life} (h : Flags l) (hc : l.closed = false) :
    l.cleaned = false ∧ l.inClose = false ∧ l.tablesCleared = false := by
  have hcl : l.cleaned = false := Bool.eq_false_iff.mpr fun hcl => by rw [(h.cl hcl).1] at hc; cases hc
  refine ⟨hcl, Bool.eq_false_iff.mpr fun hi => ?_, Bool.eq_false_iff.mpr fun ht => ?_⟩
  · rw [h.inc hi] at hc; cases hc
  · rw [h.tab ht] at hcl; cases hcl

/-- `self._closed = True` at the head of `close()` -/
theorem Flags.closeBegin {l : Life} (h : Flags l) (hc : l.closed = false) :
    Flags { l with closed := true, inClose := true } := by
  obtain ⟨hcl, -, ht⟩ := h.open hc
  refine ⟨h.hook, fun hc' => ?_, fun _ hi => Bool.noConfusion hi, fun _ => rfl, fun ht' => ?_⟩
  · rw [show l.cleaned = true from hc'] at hcl; cases hcl
  · rw [show l.tablesCleared = true from ht'] at ht; cases ht

/-- `cleanup` with the measured `cleanup_survives_channel_close_error` put in -/
theorem cleanup_fst (l : Life) : (cleanup l).1 =
    { l with closed := true, chanClosed := true, cleaned := true,
             hookRuns := if l.cleaned then l.hookRuns else l.hookRuns + 1,
             tablesCleared := if l.cleaned then l.tablesCleared else true } := by
  cases hc : l.cleaned <;>
    simp only [cleanup, hc, cleanup_survives_channel_close_error, if_true, Bool.not_true, Bool.and_false,
      Bool.false_eq_true, if_false]

/-- `_cleanup` never raises AttributeError: a second run returns quietly (`cleanup_idempotent`), and a first run raises
at most the stream's or the hook's own error -/
theorem cleanup_no_attribute_error (l : Life) : (cleanup l).2 ≠ some .attributeError := by
  rw [cleanup]
  by_cases hc : l.cleaned = true
  · rw [if_pos hc, cleanup_idempotent]; exact nofun
  · rw [if_neg hc, cleanup_survives_channel_close_error, Bool.not_true, Bool.and_false, if_neg Bool.false_ne_true]
    cases l.hookRaises <;> cases l.chanCloseRaises <;> exact nofun

theorem cleanup_flags {l : Life} (h : Flags l) :
    (cleanup l).1.cleaned = true ∧ (cleanup l).1.closed = true ∧ (cleanup l).1.chanClosed = true
    ∧ (cleanup l).1.tablesCleared = true ∧ (cleanup l).1.hookRuns = 1 ∧ (cleanup l).1.inClose = l.inClose := by
  rw [cleanup_fst]
  refine ⟨rfl, rfl, rfl, ?_, ?_, rfl⟩
  · show (if l.cleaned then l.tablesCleared else true) = true
    cases hc : l.cleaned
    · rfl
    · exact (h.cl hc).2.2
  · show (if l.cleaned then l.hookRuns else l.hookRuns + 1) = 1
    have hhook := h.hook
    cases hc : l.cleaned <;> rw [hc] at hhook <;> simpa using hhook

theorem flags_of_cleaned (l : Life) (hc : l.cleaned = true) (hcl : l.closed = true) (hch : l.chanClosed = true)
    (ht : l.tablesCleared = true) (hh : l.hookRuns = 1) : Flags l :=
  ⟨by rw [hh, hc]; rfl, fun _ => ⟨hcl, hch, ht⟩, fun _ _ => hc, fun _ => hcl, fun _ => hc⟩

/-- `Flags` after `_cleanup`, whether the `close()` call around it (if any) is over or not -/
theorem Flags.cleanup_inClose {l : Life} (h : Flags l) (b : Bool) : Flags { (cleanup l).1 with inClose := b } := by
  obtain ⟨h1, h2, h3, h4, h5, -⟩ := cleanup_flags h
  exact flags_of_cleaned _ h1 h2 h3 h4 h5

theorem Flags.cleanup {l : Life} (h : Flags l) : Flags (cleanup l).1 := h.cleanup_inClose _

theorem finishClose_fst (r : TryRes) (l : Life) : (finishClose r l).1 = { (cleanup l).1 with inClose := false } := by
  unfold finishClose
  rcases cleanup l with ⟨l', _ | e⟩
  · rcases r with _ | _ | _ | _ <;> rfl
  · rfl

theorem finishClose_flags (r : TryRes) (l : Life) (h : Flags l) :
    Flags (finishClose r l).1 ∧ (finishClose r l).1.closed = true ∧ (finishClose r l).1.inClose = false := by
  rw [finishClose_fst]
  exact ⟨h.cleanup_inClose false, (cleanup_flags h).2.1, rfl⟩

/-- `close()` never raises AttributeError -/
theorem finishClose_no_attribute_error (r : TryRes) (l : Life) : (finishClose r l).2 ≠ some .attributeError := by
  have h := cleanup_no_attribute_error l
  unfold finishClose
  rcases hcu : cleanup l with ⟨l', e⟩
  rw [hcu] at h
  cases e with
  | some e => exact h
  | none =>
    cases r with
    | hookRaised c => cases c <;> exact nofun
    | _ => exact nofun

theorem closeCall_fst (r : TryRes) (l : Life) :
    (closeCall r l).1 = if l.closed then l else { (cleanup l).1 with inClose := false } := by
  unfold closeCall
  split
  · rfl
  · rw [finishClose_fst, cleanup_fst, cleanup_fst]

theorem closeCall_flags (r : TryRes) (l : Life) (h : Flags l) :
    Flags (closeCall r l).1 ∧ (closeCall r l).1.closed = true ∧ (closeCall r l).1.inClose = l.inClose := by
  rw [closeCall_fst]
  cases hc : l.closed
  · exact ⟨h.cleanup_inClose false, (cleanup_flags h).2.1, (h.open hc).2.1.symm⟩
  · exact ⟨h, hc, rfl⟩

theorem closeCall_cleaned (r : TryRes) (l : Life) (h : Flags l) (hi : l.inClose = false) :
    (closeCall r l).1.cleaned = true := by
  have := closeCall_flags r l h
  exact this.1.done this.2.1 (by rw [this.2.2, hi])

theorem closeCall_chanClosed (r : TryRes) (l : Life) (hc : l.chanClosed = true) : (closeCall r l).1.chanClosed = true := by
  rw [closeCall_fst, cleanup_fst]
  split
  · exact hc
  · rfl

structure SameReqs (l l' : Life) : Prop where
  outcomes : l'.outcomes = l.outcomes
  fromPeer : l'.fromPeer = l.fromPeer
  pending : l'.pending = l.pending
  blocked : l'.blocked = l.blocked
  issued : l'.issued = l.issued

theorem cleanup_reqs (l : Life) : SameReqs l (cleanup l).1 := by
  rw [cleanup_fst]; exact ⟨rfl, rfl, rfl, rfl, rfl⟩

theorem finishClose_reqs (r : TryRes) (l : Life) : SameReqs l (finishClose r l).1 := by
  rw [finishClose_fst, cleanup_fst]; exact ⟨rfl, rfl, rfl, rfl, rfl⟩

theorem finishClose_closeRaised (r : TryRes) (l : Life) : (finishClose r l).1.closeRaised = l.closeRaised := by
  rw [finishClose_fst, cleanup_fst]

theorem closeCall_reqs (r : TryRes) (l : Life) : SameReqs l (closeCall r l).1 := by
  rw [closeCall_fst, cleanup_fst]; split <;> exact ⟨rfl, rfl, rfl, rfl, rfl⟩

/-! ### an end met while serving

`serve()` and `_dispatch`: `except EOFError: self.close(); raise` — the side closes itself and the exception (EOFError, or
what `close()` raised in its place) travels up through every wait loop.  `eofInServe`, `failSendNested` and
`failSendReply` are this, after noting what failed. -/

def endServe (r : TryRes) (l : Life) : Life := resolveBlocked (excRes (closeCall r l).2) (closeCall r l).1

theorem endServe_flags (r : TryRes) (l : Life) (h : Flags l) :
    Flags (endServe r l) ∧ (endServe r l).closed = true ∧ (endServe r l).inClose = l.inClose :=
  have c := closeCall_flags r l h
  ⟨c.1.congr rfl, c.2.1, c.2.2⟩

theorem endServe_chanClosed (r : TryRes) (l : Life) (hc : l.chanClosed = true) : (endServe r l).chanClosed = true :=
  closeCall_chanClosed r l hc

theorem endServe_outcomes (r : TryRes) (l : Life) :
    (endServe r l).outcomes = l.outcomes ++ releaseAll (excRes (closeCall r l).2) l.blocked := by
  show (closeCall r l).1.outcomes ++ releaseAll _ (closeCall r l).1.blocked = _
  rw [(closeCall_reqs r l).outcomes, (closeCall_reqs r l).blocked]

/-- `step l e = some l'`, one constructor per branch, with the measured constant `dispatchClosesOnEof` put in -/
inductive Step (l : Life) : Ev → Life → Prop
  | closeAgain (hc : l.closed = true) : Step l .closeBegin l
  | closeBegin (hc : l.closed = false) : Step l .closeBegin { l with closed := true, inClose := true }
  | closeEnd (r : TryRes) (hi : l.inClose = true) : Step l (.closeEnd r)
      { (finishClose r l).1 with closeRaised := (finishClose r l).1.closeRaised ++ (finishClose r l).2.toList }
  | recvClose (hch : l.chanClosed = false) (hcl : l.cleaned = false) :
      Step l .recvClose (resolveBlocked .eof (cleanup l).1)
  | eofInServe (r : TryRes) : Step l (.eofInServe r) (endServe r { l with chanClosed := true })
  | failSendRequest {s : Nat} (hs : s ∉ l.issued) : Step l (.failSendRequest s)
      { l with issued := l.issued ++ [s], chanClosed := true, outcomes := l.outcomes ++ [(s, .eof)] }
  | failSendNested {s : Nat} (r : TryRes) (hs : s ∉ l.issued) : Step l (.failSendNested s r)
      (endServe r { l with issued := l.issued ++ [s], chanClosed := true, outcomes := l.outcomes ++ [(s, .eof)] })
  | failSendReply (ref : Bool) (r : TryRes) : Step l (.failSendReply ref r)
      (endServe r { l with chanClosed := true, tablesCleared := l.tablesCleared && !boxRegisters l.chanClosed ref })
  | serveAllExit (r : TryRes) : Step l (.serveAllExit r) (closeCall r l).1
  | issueClosed {s : Nat} (refArg : Bool) (hs : s ∉ l.issued) (hc : l.chanClosed = true) :
      Step l (.issue s refArg)
        { l with issued := l.issued ++ [s], outcomes := l.outcomes ++ [(s, .eof)],
                 tablesCleared := l.tablesCleared && !boxRegisters true refArg }
  | issue {s : Nat} (refArg : Bool) (hs : s ∉ l.issued) (hc : l.chanClosed = false) :
      Step l (.issue s refArg) { l with issued := l.issued ++ [s], pending := l.pending ++ [s], tablesCleared := false }
  | waitResolved {s : Nat} (expired : Bool) (r : TryRes) (hp : s ∉ l.pending) :
      Step l (.wait s expired r) l
  | waitExpired {s : Nat} (r : TryRes) (hp : s ∈ l.pending) (hb : s ∉ l.blocked) :
      Step l (.wait s true r) (resolveOne s .timeout l)
  | waitClosed {s : Nat} (r : TryRes) (hp : s ∈ l.pending) (hb : s ∉ l.blocked)
      (hc : l.chanClosed = true) :
      Step l (.wait s false r) (resolveOne s (excRes (closeCall r l).2) (closeCall r l).1)
  | wait {s : Nat} (r : TryRes) (hp : s ∈ l.pending) (hb : s ∉ l.blocked)
      (hc : l.chanClosed = false) : Step l (.wait s false r) { l with blocked := s :: l.blocked }
  | reply {s : Nat} (v : Nat) (hc : l.chanClosed = false) (hp : s ∈ l.pending) :
      Step l (.reply s v) (resolveOne s (.value v) { l with fromPeer := l.fromPeer ++ [(s, v)] })
  | timeout {s : Nat} {rest : List Nat} (hb : l.blocked = s :: rest) : Step l .timeout (resolveOne s .timeout l)

theorem step_iff {l l' : Life} {e : Ev} : step l e = some l' ↔ Step l e l' := by
  constructor
  · intro h
    have ff {b : Bool} (hb : ¬b = true) : b = false := Bool.eq_false_iff.mpr hb
    cases e
    all_goals
      simp only [step, dispatch_closes_on_eof, if_true, Option.ite_none_left_eq_some, Option.ite_none_right_eq_some,
        Option.some.injEq, Bool.or_eq_true, not_or, Bool.not_eq_true, Bool.not_eq_true', List.contains_eq_mem,
        decide_eq_true_eq, decide_eq_false_iff_not, Decidable.not_not] at h
    case closeBegin =>
      split at h <;> cases h
      · exact .closeAgain ‹_›
      · exact .closeBegin (ff ‹_›)
    case closeEnd r => obtain ⟨hi, rfl⟩ := h; exact .closeEnd r hi
    case recvClose => obtain ⟨⟨hch, hcl⟩, rfl⟩ := h; exact .recvClose hch hcl
    case eofInServe r => cases h; exact .eofInServe r
    case failSendRequest s => obtain ⟨hs, rfl⟩ := h; exact .failSendRequest hs
    case failSendNested s r => obtain ⟨hs, rfl⟩ := h; exact .failSendNested r hs
    case failSendReply ref r => cases h; exact .failSendReply ref r
    case serveAllExit r => cases h; exact .serveAllExit r
    case issue s refArg =>
      obtain ⟨hs, h⟩ := h
      split at h <;> cases h
      · exact .issueClosed refArg hs ‹_›
      · exact .issue refArg hs (ff ‹_›)
    case wait s expired r =>
      split at h
      · cases h; exact .waitResolved expired r ‹_›
      rename_i hp
      obtain ⟨hb, h⟩ := Option.ite_none_left_eq_some.mp h
      cases expired <;> simp only [Bool.false_eq_true, if_false, if_true] at h
      · split at h <;> cases h
        · exact .waitClosed r (Decidable.not_not.mp hp) hb ‹_›
        · exact .wait r (Decidable.not_not.mp hp) hb (ff ‹_›)
      · cases h; exact .waitExpired r (Decidable.not_not.mp hp) hb
    case reply s v => obtain ⟨⟨hc, hp⟩, rfl⟩ := h; exact .reply v hc hp
    case timeout =>
      split at h <;> cases h
      exact .timeout ‹_›
  · intro h
    cases h <;> simp [step, dispatch_closes_on_eof, endServe, *]

def Vals (l : Life) : Prop := ∀ s v, (s, Res.value v) ∈ l.outcomes → (s, v) ∈ l.fromPeer

/-- from `l` to `l'` nothing more was heard from the peer and no outcome that is a value was added (`nnv` in lemma names).
Every step but `reply` is such (`Step.nnv`); `Step.vals` and `Step.fromPeer` rest on that -/
def NoNewValues (l l' : Life) : Prop :=
  l'.fromPeer = l.fromPeer ∧ ∀ s v, (s, Res.value v) ∈ l'.outcomes → (s, Res.value v) ∈ l.outcomes

theorem excRes_isValue (b : Bool) : (excRes b).isValue = false := by
  cases b <;> rfl

theorem releaseAll_isValue {res : Res} (hres : res.isValue = false) {bl : List Nat} {s : Nat} {res' : Res}
    (hm : (s, res') ∈ releaseAll res bl) : res'.isValue = false := by
  cases bl with
  | nil => cases hm
  | cons t rest =>
    rcases List.mem_cons.mp hm with h | h
    · cases h; exact hres
    · obtain ⟨u, -, h⟩ := List.mem_map.mp h
      cases h; rfl

theorem nnv_of_append {l l' : Life} {extra : List (Nat × Res)} (hf : l'.fromPeer = l.fromPeer)
    (ho : l'.outcomes = l.outcomes ++ extra) (hx : ∀ s res, (s, res) ∈ extra → res.isValue = false) :
    NoNewValues l l' := by
  refine ⟨hf, fun s v hm => ?_⟩
  rw [ho] at hm
  rcases List.mem_append.mp hm with hm | hm
  · exact hm
  · cases hx s _ hm

theorem nnv_of_lists {l l' : Life} (h1 : l'.outcomes = l.outcomes) (h2 : l'.fromPeer = l.fromPeer) :
    NoNewValues l l' :=
  nnv_of_append (extra := []) h2 (by rw [h1, List.append_nil]) nofun

theorem nnv_of_singleton {l l' : Life} {s : Nat} {res : Res} (hf : l'.fromPeer = l.fromPeer)
    (ho : l'.outcomes = l.outcomes ++ [(s, res)]) (hres : res.isValue = false) : NoNewValues l l' :=
  nnv_of_append hf ho fun _ _ hm => by cases List.mem_singleton.mp hm; exact hres

theorem NoNewValues.trans {a b c : Life} (h1 : NoNewValues a b) (h2 : NoNewValues b c) : NoNewValues a c :=
  ⟨h2.1.trans h1.1, fun s v hm => h1.2 s v (h2.2 s v hm)⟩

theorem closeCall_nnv (r : TryRes) (l : Life) : NoNewValues l (closeCall r l).1 :=
  nnv_of_lists (closeCall_reqs r l).outcomes (closeCall_reqs r l).fromPeer

theorem endServe_nnv (r : TryRes) (l : Life) : NoNewValues l (endServe r l) :=
  nnv_of_append (closeCall_reqs r l).fromPeer (endServe_outcomes r l) fun _ _ => releaseAll_isValue (excRes_isValue _)

theorem Step.nnv {l l' : Life} {e : Ev} (hs : Step l e l') : (∃ s v, e = .reply s v) ∨ NoNewValues l l' := by
  cases hs
  case reply s v hc hp => exact .inl ⟨s, v, rfl⟩
  all_goals right
  case closeEnd r hi => exact nnv_of_lists (finishClose_reqs r l).outcomes (finishClose_reqs r l).fromPeer
  case recvClose =>
    exact nnv_of_append (cleanup_reqs l).fromPeer
      (by show (cleanup l).1.outcomes ++ releaseAll _ (cleanup l).1.blocked = _; rw [(cleanup_reqs l).outcomes])
      fun _ _ => releaseAll_isValue rfl
  case eofInServe r => exact endServe_nnv r _
  case failSendNested r hs =>
    refine NoNewValues.trans ?_ (endServe_nnv r _)
    exact nnv_of_singleton rfl rfl rfl
  case failSendReply ref r => exact endServe_nnv r _
  case serveAllExit r => exact closeCall_nnv r l
  case waitClosed r hp hb hc => exact (closeCall_nnv r l).trans (nnv_of_singleton rfl rfl (excRes_isValue _))
  case failSendRequest | issueClosed | waitExpired | timeout => exact nnv_of_singleton rfl rfl rfl
  all_goals exact nnv_of_lists rfl rfl

theorem Step.fromPeer {l l' : Life} {e : Ev} (hs : Step l e l') :
    (∃ s v, e = .reply s v ∧ l'.fromPeer = l.fromPeer ++ [(s, v)]) ∨ l'.fromPeer = l.fromPeer := by
  rcases hs.nnv with ⟨s, v, rfl⟩ | hn
  · cases hs
    exact Or.inl ⟨s, v, rfl, rfl⟩
  · exact Or.inr hn.1

theorem Step.vals {l l' : Life} {e : Ev} (hs : Step l e l') (h : Vals l) : Vals l' := by
  intro t w hm
  rcases hs.nnv with ⟨s, v, rfl⟩ | hn
  · cases hs
    rcases List.mem_append.mp hm with hm | hm
    · exact List.mem_append_left _ (h t w hm)
    · cases List.mem_singleton.mp hm
      exact List.mem_append_right _ List.mem_cons_self
  · rw [hn.1]
    exact h t w (hn.2 t w hm)

theorem Step.flags {l l' : Life} {e : Ev} (hs : Step l e l') (h : Flags l) : Flags l' := by
  cases hs
  case closeAgain | waitResolved => exact h
  case closeBegin hc => exact h.closeBegin hc
  case closeEnd r hi =>
    exact (finishClose_flags r l h).1.congr rfl
  case recvClose => exact h.cleanup.congr rfl
  case eofInServe r => exact (endServe_flags r _ h.chanClosed).1
  case failSendRequest => exact h.chanClosed.congr rfl
  case failSendNested r hs =>
    refine (endServe_flags r _ ?_).1
    exact h.chanClosed.congr rfl
  case failSendReply ref r =>
    exact (endServe_flags r _ (h.boxed _ ref id).chanClosed).1
  case serveAllExit r => exact (closeCall_flags r l h).1
  case issueClosed refArg hs hc =>
    exact (h.boxed true refArg fun _ => rfl).congr rfl
  case issue refArg hs hc =>
    -- a request is registered: the channel is open, so `_cleanup` has not run
    exact ⟨h.hook, fun hcl => (by rw [(h.cl hcl).2.1] at hc; cases hc), h.done, h.inc, nofun⟩
  case waitClosed r hp hb hc => exact (closeCall_flags r l h).1.congr rfl
  all_goals exact h.congr rfl

theorem Step.chanClosed {l l' : Life} {e : Ev} (hs : Step l e l') (hc : l.chanClosed = true) : l'.chanClosed = true := by
  cases hs
  case closeEnd r hi => show (finishClose r l).1.chanClosed = true; rw [finishClose_fst, cleanup_fst]
  case recvClose hch hcl => rw [hc] at hch; cases hch
  case reply hch hp => rw [hc] at hch; cases hch
  case eofInServe r | failSendNested r hs | failSendReply ref r => exact endServe_chanClosed r _ rfl
  case serveAllExit r | waitClosed r hp hb hc' => exact closeCall_chanClosed r l hc
  case failSendRequest => rfl
  all_goals exact hc

theorem Step.no_new_block {l l' : Life} {e : Ev} (hs : Step l e l') (hc : l.chanClosed = true) :
    l'.blocked.length ≤ l.blocked.length := by
  cases hs
  case closeEnd r hi => exact Nat.le_of_eq (congrArg _ (finishClose_reqs r l).blocked)
  case recvClose hch hcl => rw [hc] at hch; cases hch
  case reply hch hp => rw [hc] at hch; cases hch
  case wait r hp hb hc' => rw [hc] at hc'; cases hc'
  case eofInServe | failSendNested | failSendReply => exact Nat.zero_le _
  case serveAllExit r => exact Nat.le_of_eq (congrArg _ (closeCall_reqs r l).blocked)
  case waitExpired | timeout => exact List.length_filter_le _ _
  case waitClosed r hp hb hc' =>
    show ((closeCall r l).1.blocked.filter _).length ≤ _
    rw [(closeCall_reqs r l).blocked]; exact List.length_filter_le _ _
  all_goals exact Nat.le_refl _

structure Inv (l : Life) : Prop where
  flags : Flags l
  vals : Vals l

theorem inv_initWith (hr cr : Bool) : Inv (Life.initWith hr cr) := ⟨flags_initWith hr cr, nofun⟩

theorem inv_init : Inv Life.init := inv_initWith false false

theorem step_inv {l l' : Life} {e : Ev} (hs : step l e = some l') (h : Inv l) : Inv l' :=
  ⟨(step_iff.mp hs).flags h.flags, (step_iff.mp hs).vals h.vals⟩

theorem run_ind {P : Life → Prop} (hstep : ∀ l e l', step l e = some l' → P l → P l') :
    ∀ (es : List Ev) (l l' : Life), run l es = some l' → P l → P l'
  | [], l, l', h, hp => Option.some.inj h ▸ hp
  | e :: es, l, l', h, hp => by
    simp only [run] at h
    cases hs : step l e with
    | none => rw [hs] at h; cases h
    | some l1 => rw [hs] at h; exact run_ind hstep es l1 l' h (hstep l e l1 hs hp)

theorem run_snoc {e : Ev} {l' : Life} : ∀ (es : List Ev) (l : Life), run l es = some l' → run l (es ++ [e]) = step l' e
  | [], l, h => by
    cases h
    simp only [List.nil_append, run]
    cases step l' e <;> rfl
  | e' :: es, l, h => by
    simp only [List.cons_append, run] at h ⊢
    cases hs : step l e' with
    | none => rw [hs] at h; cases h
    | some l1 => rw [hs] at h; exact run_snoc es l1 h

def Reach (l : Life) : Prop := ∃ hookRaises chanCloseRaises es, run (Life.initWith hookRaises chanCloseRaises) es = some l

theorem Reach.inv {l : Life} (h : Reach l) : Inv l := by
  obtain ⟨hk, ck, es, hr⟩ := h
  exact run_ind (fun _ _ _ => step_inv) es _ _ hr (inv_initWith hk ck)

/-- every waiter that was blocked has been released — the innermost with `res`, the enclosing ones with `res` or
EOFError — and nobody is blocked any more -/
def Released (res : Res) (l l' : Life) : Prop :=
  l'.blocked = [] ∧ ∀ s, s ∈ l.blocked → ((s, res) ∈ l'.outcomes ∨ (s, Res.eof) ∈ l'.outcomes) ∧ s ∉ l'.pending

theorem mem_releaseAll (res : Res) (bl : List Nat) (s : Nat) (hs : s ∈ bl) :
    (s, res) ∈ releaseAll res bl ∨ (s, Res.eof) ∈ releaseAll res bl := by
  cases bl with
  | nil => cases hs
  | cons t rest =>
    rcases List.mem_cons.mp hs with rfl | hs
    · exact Or.inl List.mem_cons_self
    · exact Or.inr (List.mem_cons_of_mem _ (List.mem_map.mpr ⟨s, hs, rfl⟩))

theorem resolveBlocked_released (res : Res) (l : Life) : Released res l (resolveBlocked res l) := by
  refine ⟨rfl, fun s hs => ⟨?_, ?_⟩⟩
  · exact (mem_releaseAll res l.blocked s hs).imp (List.mem_append_right _) (List.mem_append_right _)
  · intro hm
    have := (List.mem_filter.mp hm).2
    rw [List.contains_iff_mem.mpr hs] at this
    cases this

theorem released_of_blocked_eq {res : Res} {l0 l1 l' : Life} (hb : l1.blocked = l0.blocked)
    (h : Released res l1 l') : Released res l0 l' :=
  ⟨h.1, fun s hs => h.2 s (hb ▸ hs)⟩

theorem endServe_released (r : TryRes) (l : Life) : Released (excRes (closeCall r l).2) l (endServe r l) :=
  released_of_blocked_eq (closeCall_reqs r l).blocked (resolveBlocked_released _ _)

theorem recvClose_released (l : Life) : Released .eof l (resolveBlocked .eof (cleanup l).1) :=
  released_of_blocked_eq (cleanup_reqs l).blocked (resolveBlocked_released _ _)

theorem resolveOne_resolves (s : Nat) (res : Res) (l : Life) :
    (s, res) ∈ (resolveOne s res l).outcomes ∧ s ∉ (resolveOne s res l).pending
    ∧ (resolveOne s res l).blocked.length ≤ l.blocked.length :=
  ⟨List.mem_append_right _ List.mem_cons_self, by simp [resolveOne], List.length_filter_le _ _⟩

structure Clean (l : Life) : Prop where
  closed : l.closed = true
  notInClose : l.inClose = false
  hookOnce : l.hookRuns = 1
  tables : l.tablesCleared = true
  channel : l.chanClosed = true

theorem Flags.clean {l : Life} (f : Flags l) (hc : l.closed = true) (hi : l.inClose = false) : Clean l :=
  have hcl := f.done hc hi
  ⟨hc, hi, by rw [f.hook, hcl]; rfl, (f.cl hcl).2.2, (f.cl hcl).2.1⟩

theorem closeEnd_clean {l l' : Life} {r : TryRes} (f : Flags l) (hs : Step l (.closeEnd r) l') : Clean l' := by
  cases hs
  have c := finishClose_flags r l f
  exact Flags.clean (c.1.congr rfl) c.2.1 c.2.2

/-- inside a `close()` call in progress the side is not yet cleanly closed: that call's `finally` cleans up -/
theorem endServe_closes (r : TryRes) {l : Life} (h : Flags l) (hc : l.chanClosed = true) :
    (endServe r l).closed = true ∧ (endServe r l).chanClosed = true ∧ (l.inClose = false → Clean (endServe r l))
    ∧ (endServe r l).blocked = [] :=
  have f := endServe_flags r l h
  ⟨f.2.1, endServe_chanClosed r l hc, fun hi => f.1.clean f.2.1 (f.2.2.trans hi), rfl⟩

end Rpyc.Proto.Life
