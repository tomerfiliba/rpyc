import RpycModel.Proto.LifePair
/-
The two-sided machine: what a side holds as received, or has in flight towards it, its peer has written (`PInv`, kept by
each kind of movement of the pair: `PInv.set`, `PInv.setTo`, `PInv.send`; an event is some of these, one after the other);
a side whose peer's stream is closed is closed after finitely many `serve()` calls.
-/
namespace Rpyc.Proto.Life

@[simp] theorem PSide.peer_peer (x : PSide) : x.peer.peer = x := by cases x <;> rfl

@[simp] theorem Pair.set_get_self (p : Pair) (x : PSide) (l : Life) : (p.set x l).get x = l := by cases x <;> rfl
@[simp] theorem Pair.set_get_peer (p : Pair) (x : PSide) (l : Life) : (p.set x l).get x.peer = p.get x.peer := by
  cases x <;> rfl
@[simp] theorem Pair.set_to (p : Pair) (x y : PSide) (l : Life) : (p.set x l).to y = p.to y := by
  cases x <;> cases y <;> rfl
@[simp] theorem Pair.set_sentTo (p : Pair) (x y : PSide) (l : Life) : (p.set x l).sentTo y = p.sentTo y := by
  cases x <;> cases y <;> rfl
@[simp] theorem Pair.setTo_get (p : Pair) (x y : PSide) (fs : List Frm) : (p.setTo x fs).get y = p.get y := by
  cases x <;> cases y <;> rfl
@[simp] theorem Pair.setTo_to_self (p : Pair) (x : PSide) (fs : List Frm) : (p.setTo x fs).to x = fs := by
  cases x <;> rfl
@[simp] theorem Pair.setTo_to_peer (p : Pair) (x : PSide) (fs : List Frm) : (p.setTo x.peer fs).to x = p.to x := by
  cases x <;> rfl
@[simp] theorem Pair.setTo_to_peer' (p : Pair) (x : PSide) (fs : List Frm) : (p.setTo x fs).to x.peer = p.to x.peer := by
  cases x <;> rfl
@[simp] theorem Pair.setTo_sentTo (p : Pair) (x y : PSide) (fs : List Frm) : (p.setTo x fs).sentTo y = p.sentTo y := by
  cases x <;> cases y <;> rfl
@[simp] theorem Pair.noteSent_get (p : Pair) (x y : PSide) (s v : Nat) : (p.noteSent x s v).get y = p.get y := by
  cases x <;> cases y <;> rfl
@[simp] theorem Pair.noteSent_to (p : Pair) (x y : PSide) (s v : Nat) : (p.noteSent x s v).to y = p.to y := by
  cases x <;> cases y <;> rfl
@[simp] theorem Pair.noteSent_sentTo_self (p : Pair) (x : PSide) (s v : Nat) :
    (p.noteSent x s v).sentTo x = p.sentTo x ++ [(s, v)] := by cases x <;> rfl
@[simp] theorem Pair.noteSent_sentTo_peer (p : Pair) (x : PSide) (s v : Nat) :
    (p.noteSent x.peer s v).sentTo x = p.sentTo x := by cases x <;> rfl

/-- what is true of side `x` inside the pair: its own invariant, and whatever it holds as received from the peer —
or has in flight towards it — the peer has really written -/
structure PSideInv (p : Pair) (x : PSide) : Prop where
  inv : Inv (p.get x)
  got : ∀ s v, (s, v) ∈ (p.get x).fromPeer → (s, v) ∈ p.sentTo x
  flying : ∀ s v, Frm.resp s v ∈ p.to x → (s, v) ∈ p.sentTo x

structure PInv (p : Pair) : Prop where
  a : PSideInv p .A
  b : PSideInv p .B

theorem PInv.side {p : Pair} (h : PInv p) (x : PSide) : PSideInv p x := by
  cases x
  · exact h.a
  · exact h.b

theorem PInv.mk' {p : Pair} (x : PSide) (h1 : PSideInv p x) (h2 : PSideInv p x.peer) : PInv p := by
  cases x
  · exact ⟨h1, h2⟩
  · exact ⟨h2, h1⟩

theorem pinv_init (ha ca hb cb : Bool) : PInv (Pair.init ha ca hb cb) :=
  ⟨⟨inv_initWith ha ca, nofun, nofun⟩, ⟨inv_initWith hb cb, nofun, nofun⟩⟩

theorem readsChannel_reply (s v : Nat) : readsChannel (.reply s v) = true := rfl

/-- a side's part of the invariant reads its own state, its inbox and the record of what was written to it; responses
may leave the inbox -/
theorem PSideInv.mono {p p' : Pair} {y : PSide} (h : PSideInv p y) (hl : p'.get y = p.get y)
    (hs : p'.sentTo y = p.sentTo y) (ht : ∀ s v, Frm.resp s v ∈ p'.to y → Frm.resp s v ∈ p.to y) : PSideInv p' y := by
  refine ⟨?_, ?_, fun s v hm => ?_⟩
  · rw [hl]; exact h.inv
  · rw [hl, hs]; exact h.got
  · rw [hs]; exact h.flying s v (ht s v hm)

/-- side `x` takes a step of its own; a response it takes in is one its peer has written -/
theorem PInv.set {p : Pair} {x : PSide} {e : Ev} {l : Life} (h : PInv p) (hl : step (p.get x) e = some l)
    (hr : ∀ s v, e = .reply s v → (s, v) ∈ p.sentTo x) : PInv (p.set x l) := by
  refine .mk' x ⟨?_, ?_, by simpa using (h.side x).flying⟩ ((h.side x.peer).mono (by simp) (by simp) (by simp))
  · rw [Pair.set_get_self]; exact step_inv hl (h.side x).inv
  · intro s v hm
    rw [Pair.set_sentTo]
    rw [Pair.set_get_self] at hm
    rcases (step_iff.mp hl).fromPeer with ⟨s', v', rfl, hf⟩ | hf <;> rw [hf] at hm
    · rcases List.mem_append.mp hm with hm | hm
      · exact (h.side x).got s v hm
      · cases List.mem_singleton.mp hm; exact hr s v rfl
    · exact (h.side x).got s v hm

/-- the frames in flight towards `y` change, to responses that were in flight already: frames are read, or frames
that are no responses are written -/
theorem PInv.setTo {p : Pair} {y : PSide} {fs : List Frm} (h : PInv p)
    (hfs : ∀ s v, Frm.resp s v ∈ fs → Frm.resp s v ∈ p.to y) : PInv (p.setTo y fs) :=
  .mk' y ((h.side y).mono (by simp) (by simp) (by simpa using hfs)) ((h.side y.peer).mono (by simp) (by simp) (by simp))

/-- `y` reads the next frame -/
theorem PInv.pop {p : Pair} {y : PSide} {f : Frm} {rest : List Frm} (h : PInv p) (hto : p.to y = f :: rest) :
    PInv (p.setTo y rest) :=
  h.setTo fun _ _ hm => hto ▸ List.mem_cons_of_mem _ hm

/-- `x` writes a response: it is in flight towards the peer, and noted as written -/
theorem PInv.send {p : Pair} {x : PSide} {s v : Nat} (h : PInv p) :
    PInv ((p.setTo x.peer (p.to x.peer ++ [.resp s v])).noteSent x.peer s v) := by
  refine .mk' x ((h.side x).mono (by simp) (by simp) (by simp))
    ⟨by simpa using (h.side x.peer).inv, fun s' v' hm => ?_, fun s' v' hm => ?_⟩
  · rw [Pair.noteSent_sentTo_self, Pair.setTo_sentTo]
    exact List.mem_append_left _ ((h.side x.peer).got s' v' (by simpa using hm))
  · rw [Pair.noteSent_sentTo_self, Pair.setTo_sentTo]
    rcases List.mem_append.mp (show Frm.resp s' v' ∈ p.to x.peer ++ [.resp s v] by simpa using hm) with hm | hm
    · exact List.mem_append_left _ ((h.side x.peer).flying s' v' hm)
    · cases List.mem_singleton.mp hm
      exact List.mem_append_right _ List.mem_cons_self

theorem pstep_inv {p p' : Pair} {e : PEv} (hs : pstep p e = some p') (h : PInv p) : PInv p' := by
  revert hs
  fun_cases pstep p e <;> intro hs <;> cases hs
  next hrc _ hl => exact h.set hl (by rintro s v rfl; exact absurd (readsChannel_reply s v) hrc)
  -- HANDLE_CLOSE is not a response
  next hl => exact (h.set hl nofun).setTo fun s v hm => by simpa using hm
  next => exact h.send
  next hto _ hl => exact (h.set hl nofun).pop (by simpa using hto)
  next hto _ => exact h.pop hto
  -- the response read was in flight, so the peer has written it
  next x _ s v _ hto _ hl =>
    exact (h.set hl (by rintro _ _ ⟨⟩; exact (h.side x).flying s v (hto ▸ List.mem_cons_self))).pop (by simpa using hto)
  next hto _ => exact h.pop hto
  next hto => exact h.pop hto
  next hl => exact h.set hl nofun

theorem prun_inv : ∀ (es : List PEv) (p p' : Pair), prun p es = some p' → PInv p → PInv p'
  | [], p, p', h, hi => Option.some.inj h ▸ hi
  | e :: es, p, p', h, hi => by
    simp only [prun] at h
    cases hs : pstep p e with
    | none => rw [hs] at h; cases h
    | some p1 => rw [hs] at h; exact prun_inv es p1 p' h (pstep_inv hs hi)

def PReach (p : Pair) : Prop := ∃ ha ca hb cb es, prun (Pair.init ha ca hb cb) es = some p

theorem PReach.inv {p : Pair} (h : PReach p) : PInv p := by
  obtain ⟨ha, ca, hb, cb, es, hr⟩ := h
  exact prun_inv es _ _ hr (pinv_init ha ca hb cb)

theorem recv_effect (p : Pair) (x : PSide) (h : canRecv p x = true) :
    ∃ p', pstep p (.recv x) = some p' ∧ (p'.to x).length + 1 = (p.to x).length ∧ p'.get x.peer = p.get x.peer := by
  simp only [canRecv, Bool.and_eq_true, Bool.not_eq_true', List.isEmpty_eq_false_iff] at h
  simp only [pstep, h.1, Bool.false_eq_true, if_false]
  cases hto : p.to x with
  | nil => exact absurd hto h.2
  | cons f rest =>
    cases f with
    | close => simp only; split <;> exact ⟨_, rfl, by simp, by simp⟩
    | resp s v => simp only; split <;> exact ⟨_, rfl, by simp, by simp⟩
    | req => exact ⟨_, rfl, by simp, by simp⟩

theorem eof_effect (p : Pair) (x : PSide) (r : TryRes) (hi : PInv p) (h : seesEof p x = true) :
    ∃ p', pstep p (.eof x r) = some p' ∧ (p'.get x).closed = true := by
  refine ⟨_, by simp only [pstep, h, if_true, step]; rfl, ?_⟩
  rw [Pair.set_get_self]
  exact (endServe_flags r _ (hi.side x).inv.flags.chanClosed).2.1

theorem serveOnce_effect (p : Pair) (x : PSide) (r : TryRes) (hi : PInv p) (hpeer : (p.get x.peer).chanClosed = true) :
    ∃ p', serveOnce x r p = some p' ∧ PInv p' ∧
      (((p'.to x).length + 1 = (p.to x).length ∧ p'.get x.peer = p.get x.peer) ∨ (p'.get x).closed = true) := by
  cases hr : canRecv p x
  · -- nothing to read: the own stream is closed, or nothing is in flight and the peer's stream is closed
    have hse : seesEof p x = true := by
      simp only [canRecv, Bool.and_eq_false_iff, Bool.not_eq_eq_eq_not] at hr
      simp only [seesEof, hpeer, Bool.true_and, Bool.or_eq_true]
      exact hr.imp id fun h => by simpa using h
    obtain ⟨p', hp', hcl⟩ := eof_effect p x r hi hse
    exact ⟨p', by simp only [serveOnce, hr, Bool.false_eq_true, if_false, hp'], pstep_inv hp' hi, .inr hcl⟩
  · obtain ⟨p', hp', he⟩ := recv_effect p x hr
    exact ⟨p', by simp only [serveOnce, hr, if_true, hp'], pstep_inv hp' hi, .inl he⟩

/-- **progress.** Once the peer's stream is closed, a side that keeps serving reads at most what is still in flight
towards it and then end-of-stream: after at most (frames in flight + 1) `serve()` calls it is closed. -/
theorem serveUntilClosed_closes (x : PSide) (r : TryRes) :
    ∀ (n : Nat) (p : Pair), PInv p → (p.get x.peer).chanClosed = true → (p.to x).length < n →
      ((serveUntilClosed x r n p).get x).closed = true := by
  intro n p
  fun_induction serveUntilClosed x r n p <;> intro hi hpeer hlen
  next => exact absurd hlen (Nat.not_lt_zero _)
  next hc => exact hc
  next n p hc p' hs ih =>
    obtain ⟨_, hp', hi', he | hcl⟩ := serveOnce_effect p x r hi hpeer <;> cases hs.symm.trans hp'
    · exact ih hi' (he.2 ▸ hpeer) (by omega)
    · cases n <;> simp [serveUntilClosed, hcl]
  next p _ hs => obtain ⟨_, hp', _⟩ := serveOnce_effect p x r hi hpeer; cases hs.symm.trans hp'

/-- each `serve()` call of `serveUntilClosed_closes` is enabled: the side never waits for data that cannot come -/
theorem serveOnce_enabled (p : Pair) (x : PSide) (r : TryRes) (hi : PInv p) (hpeer : (p.get x.peer).chanClosed = true) :
    ∃ p', serveOnce x r p = some p' :=
  (serveOnce_effect p x r hi hpeer).imp fun _ h => h.1

end Rpyc.Proto.Life
