import RpycModel.Proto.Handlers
/-
Lemmas for L6 `Proto/Handlers` (property C07): the invariants of a connection's state (`Inv`) and the growth of its log (`Ext`);
judgements about computations in `M` with their rules - `Holds` (what is returned), `At` (read-only), `Sat` (the invariants are
kept and the objects handled are known), `Step` (one answer) -; then the model's functions in the model's order, each by the rules along its syntax.
-/
namespace Rpyc.Handlers
open Rpyc

/-- what the configuration allows of one operation -/
def Touch.good (cfg : Config) (t : Touch) : Bool :=
  match t.kind with
  | .attr op => cfg.perm op && plainAllowed cfg t.name
  | .probe => plainAllowed cfg t.name
  | .pickle => cfg.allowPickle
  | .import_ => cfg.importCustomExc
  | .modPresent => cfg.importCustomExc || cfg.instantiateCustomExc
  | _ => true

def Ev.good (cfg : Config) : Ev → Bool
  | .touch t => t.good cfg
  | _ => true

/-- objects the protocol code has been handed so far: the root, and whatever the environment returned -/
def known (root : Nat) (log : List Ev) : List Nat := root :: log.flatMap Ev.gives

def evJust (kn : List Nat) : Ev → Bool
  | .touch t => t.needs.all (fun o => kn.contains o)
  | _ => true

def justifiedFrom (kn : List Nat) : List Ev → Bool
  | [] => true
  | e :: rest => evJust kn e && justifiedFrom (kn ++ e.gives) rest

/-- requests started minus requests answered or aborted -/
def evBal : Ev → Int
  | .request _ => 1
  | .reply _ _ => -1
  | .exc _ _ => -1
  | .aborted _ _ => -1
  | _ => 0

def balL : List Ev → Int
  | [] => 0
  | e :: es => evBal e + balL es

theorem balL_append (a b : List Ev) : balL (a ++ b) = balL a + balL b := by
  induction a with
  | nil => simp [balL]
  | cons e es ih => simp [balL, ih]; omega

theorem justifiedFrom_append (kn : List Nat) (l : List Ev) (e : Ev) :
    justifiedFrom kn (l ++ [e]) = (justifiedFrom kn l && evJust (kn ++ l.flatMap Ev.gives) e) := by
  induction l generalizing kn with
  | nil => simp [justifiedFrom]
  | cons x xs ih => simp [justifiedFrom, ih, List.append_assoc, Bool.and_assoc]

theorem known_append (root : Nat) (a b : List Ev) (o : Nat) :
    o ∈ known root (a ++ b) ↔ o ∈ known root a ∨ o ∈ b.flatMap Ev.gives := by
  simp [known, List.flatMap_append, or_assoc]

structure Inv (cfg : Config) (root : Nat) (st : St) : Prop where
  good : st.log.all (Ev.good cfg) = true
  /-- every operation was on objects known when it was logged -/
  just : justifiedFrom [root] st.log = true
  tbl : ∀ s ∈ st.table, s.o ∈ known root st.log
  res : ∀ p ∈ st.results, ∀ o ∈ p.2.objs, o ∈ known root st.log
  /-- every table entry was put there by `_box`, under that very id pack -/
  lent : ∀ s ∈ st.table, Ev.lent s.key s.o ∈ st.log
  /-- and whatever `_box` lent was an object the protocol had been handed -/
  lentK : ∀ k o, Ev.lent k o ∈ st.log → o ∈ known root st.log

theorem Inv.touch_good {cfg : Config} {root : Nat} {st : St} (hI : Inv cfg root st) {t : Touch}
    (ht : Ev.touch t ∈ st.log) : t.good cfg = true :=
  List.all_eq_true.mp hI.good _ ht

/-- the log has grown, and by a balanced piece: every request begun in it was answered in it.  That clause is what makes
`Props.C07.outcome_total` one line, and why the computations that write the one answer of a request are `Step`s, not `Sat`s -/
structure Ext (st st' : St) : Prop where
  ext : ∃ l, st'.log = st.log ++ l ∧ balL l = 0

theorem Ext.refl (st : St) : Ext st st := ⟨[], by simp, rfl⟩

theorem Ext.trans {a b c : St} (h1 : Ext a b) (h2 : Ext b c) : Ext a c := by
  obtain ⟨l1, e1, b1⟩ := h1.ext
  obtain ⟨l2, e2, b2⟩ := h2.ext
  exact ⟨l1 ++ l2, by simp [e2, e1, List.append_assoc], by simp [balL_append, b1, b2]⟩

theorem known_mono {root : Nat} {st st' : St} (h : Ext st st') {o : Nat} (ho : o ∈ known root st.log) :
    o ∈ known root st'.log := by
  obtain ⟨l, e, _⟩ := h.ext
  rw [e, known_append]; exact Or.inl ho

/-- what was known stays known, and more has become known: the hypothesis a continuation runs under -/
theorem known_mono_append {root : Nat} {st st' : St} (h : Ext st st') {A B : List Nat}
    (hA : ∀ o ∈ A, o ∈ known root st.log) (hB : ∀ o ∈ B, o ∈ known root st'.log) :
    ∀ o ∈ A ++ B, o ∈ known root st'.log :=
  fun o ho => (List.mem_append.mp ho).elim (fun ho => known_mono h (hA o ho)) (hB o)

theorem root_known (root : Nat) (log : List Ev) : root ∈ known root log := List.mem_cons_self

theorem Inv.mono {cfg : Config} {root : Nat} {st st' : St} (hI : Inv cfg root st) (hlog : st'.log = st.log)
    (htbl : ∀ s ∈ st'.table, Ev.lent s.key s.o ∈ st.log)
    (hres : ∀ p ∈ st'.results, ∀ o ∈ p.2.objs, o ∈ known root st.log) : Inv cfg root st' :=
  ⟨hlog ▸ hI.good, hlog ▸ hI.just, fun s hs => hlog ▸ hI.lentK _ _ (htbl s hs), fun p hp => hlog ▸ hres p hp,
    fun s hs => hlog ▸ htbl s hs, hlog ▸ hI.lentK⟩

theorem Inv.congr {cfg : Config} {root : Nat} {st st' : St} (hI : Inv cfg root st)
    (h1 : st'.log = st.log) (h2 : st'.table = st.table) (h3 : st'.results = st.results) : Inv cfg root st' :=
  hI.mono h1 (fun s hs => hI.lent s (h2 ▸ hs)) (fun p hp => hI.res p (h3 ▸ hp))

theorem Inv.push {cfg : Config} {root : Nat} {st : St} (hI : Inv cfg root st) (e : Ev) (hg : e.good cfg = true)
    (hj : ∀ t, e = .touch t → ∀ o ∈ t.needs, o ∈ known root st.log)
    (hl : ∀ k o, e = .lent k o → o ∈ known root st.log) :
    Inv cfg root { st with log := st.log ++ [e] } := by
  have hE : ∀ o, o ∈ known root st.log → o ∈ known root (st.log ++ [e]) :=
    fun o ho => (known_append _ _ _ _).2 (Or.inl ho)
  refine ⟨?_, ?_, fun s hs => hE _ (hI.tbl s hs), fun p hp o ho => hE _ (hI.res p hp o ho),
    fun s hs => List.mem_append_left _ (hI.lent s hs), fun k o h => ?_⟩
  · simp [hI.good, hg]
  · rw [justifiedFrom_append, hI.just, Bool.true_and]
    unfold evJust
    split
    · next t => exact List.all_eq_true.2 (fun o ho => by simpa [known] using hj t rfl o ho)
    · rfl
  · rcases List.mem_append.mp h with h | h
    · exact hE _ (hI.lentK k o h)
    · exact hE _ (hl k o (List.mem_singleton.mp h).symm)

/-- neither an operation on an object nor a lending: nothing has to be known for such an event -/
def Ev.quiet : Ev → Bool
  | .touch _ | .lent _ _ => false
  | _ => true

theorem Inv.note {cfg : Config} {root : Nat} {st st' : St} (hI : Inv cfg root st) (e : Ev) (hq : e.quiet = true)
    (hlog : st'.log = st.log ++ [e]) (htbl : st'.table = st.table) (hres : st'.results = st.results) :
    Inv cfg root st' := by
  have hg : e.good cfg = true := by
    cases e with
    | touch t => nomatch hq
    | _ => rfl
  exact (hI.push e hg (fun t ht => by subst ht; nomatch hq) (fun k o h => by subst h; nomatch hq)).congr hlog htbl hres

theorem Ext.push {st st' : St} {e : Ev} (hlog : st'.log = st.log ++ [e]) (hb : evBal e = 0) : Ext st st' :=
  ⟨[e], hlog, by simp [balL, hb]⟩

theorem Inv.init (cfg : Config) (root : Nat) : Inv cfg root {} :=
  ⟨rfl, rfl, fun _ hs => absurd hs List.not_mem_nil, fun _ hp => absurd hp List.not_mem_nil,
   fun _ hs => absurd hs List.not_mem_nil, fun _ _ h => absurd h List.not_mem_nil⟩

theorem justifiedFrom_split (kn : List Nat) (pre post : List Ev) (t : Touch)
    (h : justifiedFrom kn (pre ++ .touch t :: post) = true) : ∀ o ∈ t.needs, o ∈ kn ++ pre.flatMap Ev.gives := by
  induction pre generalizing kn with
  | nil =>
    simp only [List.nil_append, justifiedFrom, Bool.and_eq_true, evJust, List.all_eq_true] at h
    intro o ho
    simpa using h.1 o ho
  | cons e es ih =>
    simp only [List.cons_append, justifiedFrom, Bool.and_eq_true] at h
    intro o ho
    have := ih _ h.2 o ho
    simp only [List.flatMap_cons, List.mem_append] at this ⊢
    rcases this with (h1 | h1) | h1
    · exact Or.inl h1
    · exact Or.inr (Or.inl h1)
    · exact Or.inr (Or.inr h1)

variable {c : Ctx} {need : List Nat}

/-- `st'` has the invariant and its log extends `st`'s; of `st` nothing is claimed: its invariant is a hypothesis wherever a `Reach` is proved -/
def Reach (c : Ctx) (st st' : St) : Prop := Inv c.cfg c.root st' ∧ Ext st st'

theorem Reach.refl {st : St} (hI : Inv c.cfg c.root st) : Reach c st st := ⟨hI, Ext.refl _⟩

theorem Reach.trans {st st1 st2 : St} (h1 : Reach c st st1) (h2 : Reach c st1 st2) : Reach c st st2 :=
  ⟨h2.1, h1.2.trans h2.2⟩

theorem Reach.note {st st' : St} (hI : Inv c.cfg c.root st) (e : Ev) (hq : e.quiet = true) (hb : evBal e = 0)
    (hlog : st'.log = st.log ++ [e]) (htbl : st'.table = st.table) (hres : st'.results = st.results) : Reach c st st' :=
  ⟨hI.note e hq hlog htbl hres, Ext.push hlog hb⟩

section outcome
variable {α β : Type} {m : M α} {st : St} {fut : List Wire}

theorem bind_ok {f : α → M β} {a : α} (h : (m c st fut).r = .ok a) :
    (m >>= f) c st fut = f a c (m c st fut).st (m c st fut).fut := by
  simp only [Bind.bind]
  cases hm : m c st fut with
  | mk r st1 fut1 => rw [hm] at h; cases h; rfl

theorem bind_error {f : α → M β} {x : Exc} (h : (m c st fut).r = .error x) :
    (m >>= f) c st fut = ⟨.error x, (m c st fut).st, (m c st fut).fut⟩ := by
  simp only [Bind.bind]
  cases hm : m c st fut with
  | mk r st1 fut1 => rw [hm] at h; cases h; rfl

theorem attempt_run (m : M α) (c : Ctx) (st : St) (fut : List Wire) :
    attempt m c st fut = ⟨.ok (m c st fut).r, (m c st fut).st, (m c st fut).fut⟩ := rfl

theorem attempt_total (m : M α) (c : Ctx) (st : St) (fut : List Wire) (x : Exc) : (attempt m c st fut).r ≠ .error x :=
  nofun

theorem inGenerator_run (m : M α) (c : Ctx) (st : St) (fut : List Wire) :
    (inGenerator m c st fut).st = (m c st fut).st ∧ (inGenerator m c st fut).fut = (m c st fut).fut ∧
    ∀ a, (inGenerator m c st fut).r = .ok a → (m c st fut).r = .ok a := by
  unfold inGenerator
  cases m c st fut with
  | mk r st1 fut1 =>
    cases r with
    | ok a => exact ⟨rfl, rfl, fun _ h => h⟩
    | error x => exact ⟨rfl, rfl, nofun⟩

end outcome

/-- `P` of whatever `m` returns, from any state and any input: a fact about the value alone, fed to `Sat.bindP` and `Sat.postP` -/
def Holds {α} (c : Ctx) (m : M α) (P : α → Prop) : Prop := ∀ st fut a, (m c st fut).r = .ok a → P a

theorem Holds.pure {α} {P : α → Prop} (a : α) (h : P a) : Holds c (Pure.pure a : M α) P := by
  intro st fut b hb
  obtain rfl : a = b := Except.ok.inj hb
  exact h

theorem Holds.bindQ {α β} {m : M α} {f : α → M β} {P1 : α → Prop} {P2 : β → Prop}
    (h1 : Holds c m P1) (h2 : ∀ a, P1 a → Holds c (f a) P2) : Holds c (m >>= f) P2 := by
  intro st fut b hb
  cases hr : (m c st fut).r with
  | error x => rw [bind_error hr] at hb; cases hb
  | ok a => rw [bind_ok hr] at hb; exact h2 a (h1 st fut a hr) _ _ b hb

theorem Holds.bind {α β} {m : M α} {f : α → M β} {P : β → Prop} (h : ∀ a, Holds c (f a) P) :
    Holds c (m >>= f) P :=
  Holds.bindQ (P1 := fun _ => True) (fun _ _ _ _ => trivial) (fun a _ => h a)

theorem Holds.bind_getCfg {β} {f : Config → M β} {P : β → Prop} (h : Holds c (f c.cfg) P) :
    Holds c (getCfg >>= f) P := by
  intro st fut b hb
  exact h st fut b hb

theorem Holds.throwE {α} {P : α → Prop} (e : Err) : Holds c (throwE e : M α) P := by
  intro st fut b hb; cases hb

theorem Holds.liftE {α} {P : α → Prop} (r : Except Err α) (h : ∀ a, r = .ok a → P a) :
    Holds c (liftE r : M α) P := by
  cases r with
  | error e => exact Holds.throwE e
  | ok a => exact Holds.pure a (h a rfl)

theorem Holds.ite {α} {b : Bool} {m1 m2 : M α} {P : α → Prop}
    (h1 : b = true → Holds c m1 P) (h2 : b = false → Holds c m2 P) : Holds c (if b then m1 else m2) P := by
  cases b with
  | true => simpa using h1 rfl
  | false => simpa using h2 rfl

theorem Holds.inGenerator {α} {m : M α} {P : α → Prop} (h : Holds c m P) : Holds c (inGenerator m) P :=
  fun st fut b hb => h st fut b ((inGenerator_run m c st fut).2.2 b hb)

theorem Holds.mapM' {α β : Type} (g : α → M β) (P : β → Prop) (xs : List α)
    (hg : ∀ x ∈ xs, Holds c (g x) P) : Holds c (mapM' g xs) (fun ys => ∀ y ∈ ys, P y) := by
  induction xs with
  | nil => rw [Handlers.mapM']; exact Holds.pure _ (fun _ hy => nomatch hy)
  | cons x xs ih =>
    rw [Handlers.mapM']
    refine Holds.bindQ (hg x List.mem_cons_self) (fun b hb => ?_)
    refine Holds.bindQ (ih (fun x' hx' => hg x' (List.mem_cons_of_mem _ hx'))) (fun bs hbs => ?_)
    exact Holds.pure _ (fun y hy => (List.mem_cons.mp hy).elim (fun h => h ▸ hb) (hbs y))

/-- `Holds` at the one state `st`, for computations that only read it: `P` may then speak of `st` (`At.tableGet`) -/
def At {α} (c : Ctx) (st : St) (m : M α) (P : α → Prop) : Prop :=
  ∀ fut, (m c st fut).st = st ∧ (m c st fut).fut = fut ∧ ∀ a, (m c st fut).r = .ok a → P a

theorem At.pure {α} {st : St} {P : α → Prop} (a : α) (h : P a) : At c st (Pure.pure a : M α) P := by
  intro fut
  refine ⟨rfl, rfl, fun b hb => ?_⟩
  obtain rfl : a = b := Except.ok.inj hb
  exact h

theorem At.throwE {α} {st : St} {P : α → Prop} (e : Err) : At c st (Handlers.throwE e : M α) P := by
  intro fut
  exact ⟨rfl, rfl, nofun⟩

theorem At.liftE {α} {st : St} {P : α → Prop} (r : Except Err α) (h : ∀ a, r = .ok a → P a) :
    At c st (Handlers.liftE r : M α) P := by
  cases r with
  | ok a => exact At.pure a (h a rfl)
  | error e => exact At.throwE e

theorem At.bind {α β} {st : St} {m : M α} {f : α → M β} {P1 : α → Prop} {P2 : β → Prop}
    (h1 : At c st m P1) (h2 : ∀ a, P1 a → At c st (f a) P2) : At c st (m >>= f) P2 := by
  intro fut
  obtain ⟨e1, e2, hp⟩ := h1 fut
  cases hr : (m c st fut).r with
  | error x => rw [bind_error hr]; exact ⟨e1, e2, nofun⟩
  | ok a => rw [bind_ok hr, e1, e2]; exact h2 a (hp a hr) fut

theorem At.ite {α} {st : St} {b : Bool} {m1 m2 : M α} {P : α → Prop}
    (h1 : At c st m1 P) (h2 : At c st m2 P) : At c st (if b then m1 else m2) P := by
  cases b <;> simpa

theorem At.inGenerator {α} {st : St} {m : M α} {P : α → Prop} (h : At c st m P) :
    At c st (inGenerator m) P := by
  intro fut
  obtain ⟨e1, e2, hp⟩ := h fut
  obtain ⟨g1, g2, g3⟩ := inGenerator_run m c st fut
  exact ⟨g1.trans e1, g2.trans e2, fun a ha => hp a (g3 a ha)⟩

theorem At.mapM' {α β : Type} {st : St} (g : α → M β) (P : β → Prop) (xs : List α)
    (hg : ∀ x ∈ xs, At c st (g x) P) : At c st (mapM' g xs) (fun ys => ∀ y ∈ ys, P y) := by
  induction xs with
  | nil => rw [Handlers.mapM']; exact At.pure _ (fun _ hy => nomatch hy)
  | cons x xs ih =>
    rw [Handlers.mapM']
    refine At.bind (hg x List.mem_cons_self) (fun b hb => ?_)
    refine At.bind (ih (fun x' hx' => hg x' (List.mem_cons_of_mem _ hx'))) (fun bs hbs => ?_)
    exact At.pure _ (fun y hy => (List.mem_cons.mp hy).elim (fun h => h ▸ hb) (hbs y))

theorem At.tableGet {st : St} (key : Val) :
    At c st (tableGet key) (fun o => ∃ s ∈ st.table, s.o = o) := by
  intro fut
  unfold Handlers.tableGet
  cases h : lookupSlot st.table key with
  | none => exact ⟨rfl, rfl, nofun⟩
  | some s =>
    exact ⟨rfl, rfl, fun b hb => ⟨s, List.mem_of_find?_eq_some h, Except.ok.inj hb⟩⟩

theorem mkTuple_objs (xs : List PV) : ∀ o ∈ (mkTuple xs).objs, o ∈ PV.objsL xs := by
  intro o ho
  unfold mkTuple at ho
  split at ho
  · simp [PV.objs] at ho
  · simpa [PV.objs] using ho

theorem objs_of_allImm (xs : List PV) (h : xs.all PV.isImm = true) : PV.objsL xs = [] := by
  induction xs with
  | nil => rfl
  | cons x xs ih =>
    simp only [List.all_cons, Bool.and_eq_true] at h
    cases x with
    | imm v => rw [PV.objsL, ih h.2]; rfl
    | _ => exact absurd h.1 Bool.false_ne_true

theorem objsL_eq_flatMap (xs : List PV) : PV.objsL xs = xs.flatMap PV.objs := by
  induction xs with
  | nil => rfl
  | cons x xs ih => simp [PV.objsL, ih]

theorem objsL_map_imm (vs : List Val) : PV.objsL (vs.map PV.imm) = [] := by
  induction vs with
  | nil => rfl
  | cons y ys ih => simp [PV.objsL, PV.objs, ih]

/-- `need`: the objects assumed known when `m` starts; `Q a`: those claimed known once it has returned `a`.  When `m` raises,
the invariant and `Ext` are still claimed -/
def Sat {α} (c : Ctx) (need : List Nat) (m : M α) (Q : α → List Nat) : Prop :=
  ∀ st fut, Inv c.cfg c.root st → (∀ o ∈ need, o ∈ known c.root st.log) →
    Inv c.cfg c.root (m c st fut).st ∧ Ext st (m c st fut).st ∧
    ∀ a, (m c st fut).r = .ok a → ∀ o ∈ Q a, o ∈ known c.root (m c st fut).st.log

/-- `Within A B`: the objects `A` are among the objects `B`.  This is the side condition of the rules of `Sat`: `A` is
what a step operates on (the operands of a `Touch`, the objects of a value returned), `B` what is known at that point, the
append tree `need ++ Q₁ a₁ ++ …` that `Sat.bind` builds.  It is an instance argument of the rules and not a hypothesis
because it is found by the syntax of the two lists alone: a proof in the logic then names the rules and nothing else.
The first group of instances takes `A` apart (each premise is about a proper part of `A`), the second looks for a part
that cannot be taken apart further in `B` (each premise is about a proper part of `B`), so the search ends; where a
part occurs twice in `B` either occurrence proves the same proposition. -/
class Within (A B : List Nat) : Prop where
  sub : ∀ o ∈ A, o ∈ B

namespace Within
variable {A B C : List Nat}

instance left [h : Within A B] : Within A (B ++ C) := ⟨fun o ho => List.mem_append_left _ (h.sub o ho)⟩
instance right [h : Within A C] : Within A (B ++ C) := ⟨fun o ho => List.mem_append_right _ (h.sub o ho)⟩
instance consL {x : PV} {xs : List PV} [h : Within A x.objs] : Within A (PV.objsL (x :: xs)) :=
  ⟨fun o ho => List.mem_append_left _ (h.sub o ho)⟩
instance consR {x : PV} {xs : List PV} [h : Within A (PV.objsL xs)] : Within A (PV.objsL (x :: xs)) :=
  ⟨fun o ho => List.mem_append_right _ (h.sub o ho)⟩
instance refl : Within A A := ⟨fun _ h => h⟩

instance nil : Within [] C := ⟨fun _ h => nomatch h⟩
instance append [h1 : Within A C] [h2 : Within B C] : Within (A ++ B) C :=
  ⟨fun o ho => (List.mem_append.mp ho).elim (h1.sub o) (h2.sub o)⟩
instance needs {k : TK} {s : PV} {nm : PyStr} {as : List PV} [h : Within (s.objs ++ PV.objsL as) C] :
    Within (Touch.needs ⟨k, s, nm, as⟩) C := ⟨h.sub⟩
instance objsL_nil : Within (PV.objsL []) C := nil
instance objsL_cons {x : PV} {xs : List PV} [h : Within (x.objs ++ PV.objsL xs) C] : Within (PV.objsL (x :: xs)) C := ⟨h.sub⟩
instance map_imm {vs : List Val} : Within (PV.objsL (vs.map PV.imm)) C := objsL_map_imm vs ▸ nil
instance imm {v : Val} : Within (PV.imm v).objs C := nil
instance obj {o : Nat} [h : Within [o] C] : Within (PV.obj o).objs C := ⟨h.sub⟩
instance mkTuple {xs : List PV} [h : Within (PV.objsL xs) C] : Within (mkTuple xs).objs C :=
  ⟨fun o ho => h.sub o (mkTuple_objs xs o ho)⟩
instance ite {p : Prop} [Decidable p] {x y : PV} [h1 : Within x.objs C] [h2 : Within y.objs C] :
    Within (if p then x else y).objs C := by split <;> assumption
instance ret {v : PV} [h : Within v.objs C] : Within (Ans.ret v).objs C := ⟨h.sub⟩
instance raise {x : Exc} : Within (Ans.raise x).objs C := nil

end Within

theorem Sat.pure {α} {Q : α → List Nat} (a : α) [h : Within (Q a) need] :
    Sat c need (pure a : M α) Q := by
  intro st fut hI hN
  refine ⟨hI, Ext.refl _, ?_⟩
  intro b hb o ho
  obtain rfl : a = b := Except.ok.inj hb
  exact hN o (h.sub o ho)

theorem Sat.throwX {α} {Q : α → List Nat} (x : Exc) : Sat c need (throwX x : M α) Q := by
  intro st fut hI _
  refine ⟨hI, Ext.refl _, ?_⟩
  intro b hb; cases hb

theorem Sat.throwE {α} {Q : α → List Nat} (e : Err) : Sat c need (throwE e : M α) Q :=
  Sat.throwX _

theorem Sat.bindP {α β} {m : M α} {f : α → M β} {Q1 : α → List Nat} {Q2 : β → List Nat}
    {P : α → Prop} (h1 : Sat c need m Q1) (hP : Holds c m P) (h2 : ∀ a, P a → Sat c (need ++ Q1 a) (f a) Q2) :
    Sat c need (m >>= f) Q2 := by
  intro st fut hI hN
  obtain ⟨hI1, hE1, hQ1⟩ := h1 st fut hI hN
  cases hr : (m c st fut).r with
  | error x => rw [bind_error hr]; exact ⟨hI1, hE1, nofun⟩
  | ok a =>
    rw [bind_ok hr]
    obtain ⟨hI2, hE2, hQ2⟩ := h2 a (hP st fut a hr) _ _ hI1 (known_mono_append hE1 hN (hQ1 a hr))
    exact ⟨hI2, hE1.trans hE2, hQ2⟩

theorem Sat.bind {α β} {m : M α} {f : α → M β} {Q1 : α → List Nat} {Q2 : β → List Nat}
    (h1 : Sat c need m Q1) (h2 : ∀ a, Sat c (need ++ Q1 a) (f a) Q2) : Sat c need (m >>= f) Q2 :=
  Sat.bindP (P := fun _ => True) h1 (fun _ _ _ _ => trivial) (fun a _ => h2 a)

/-- the root is known in every state, whatever `need` is -/
theorem Sat.withRoot {α} {m : M α} {Q : α → List Nat} (h : Sat c (need ++ [c.root]) m Q) : Sat c need m Q :=
  fun st fut hI hN => h st fut hI (known_mono_append (Ext.refl st) hN (fun _ ho => by
    cases List.mem_singleton.mp ho; exact root_known _ _))

theorem Sat.weaken {α} {need need' : List Nat} {m : M α} {Q : α → List Nat}
    (h : Sat c need' m Q) [hs : Within need' need] : Sat c need m Q := by
  intro st fut hI hN
  exact h st fut hI (fun o ho => hN o (hs.sub o ho))

theorem Sat.postP {α} {m : M α} {Q Q' : α → List Nat}
    (h : Sat c need m Q) (hq : Holds c m (fun a => ∀ o ∈ Q' a, o ∈ Q a ∨ o ∈ need)) : Sat c need m Q' := by
  intro st fut hI hN
  obtain ⟨h1, h2, h3⟩ := h st fut hI hN
  refine ⟨h1, h2, fun a ha o ho => ?_⟩
  rcases hq st fut a ha o ho with h | h
  · exact h3 a ha o h
  · exact known_mono h2 (hN o h)

theorem Sat.post {α} {c : Ctx} {need : List Nat} {m : M α} {Q Q' : α → List Nat}
    (h : Sat c need m Q) (hq : ∀ a, ∀ o ∈ Q' a, o ∈ Q a ∨ o ∈ need) : Sat c need m Q' :=
  h.postP (fun _ _ a _ => hq a)

theorem Sat.liftE {α} (r : Except Err α) : Sat c need (liftE r : M α) (fun _ => []) := by
  cases r with
  | error e => exact Sat.throwE e
  | ok a => exact Sat.pure a

theorem Sat.bind_getCfg {β} {f : Config → M β} {Q : β → List Nat}
    (h : Sat c need (f c.cfg) Q) : Sat c need (getCfg >>= f) Q := by
  intro st fut hI hN
  exact h st fut hI hN

theorem Sat.bind_getCtx {β} {f : Ctx → M β} {Q : β → List Nat}
    (h : Sat c need (f c) Q) : Sat c need (getCtx >>= f) Q := by
  intro st fut hI hN
  exact h st fut hI hN

theorem Sat.bind_getSt {β} {f : St → M β} {Q : β → List Nat}
    (h : ∀ s, Sat c need (f s) Q) : Sat c need (getSt >>= f) Q := by
  intro st fut hI hN
  exact h st st fut hI hN

theorem Sat.modify {c : Ctx} {need : List Nat} (f : St → St)
    (hlog : ∀ st, (f st).log = st.log)
    (htbl : ∀ st, ∀ s ∈ (f st).table, ∃ s' ∈ st.table, s'.o = s.o ∧ s'.key = s.key)
    (hres : ∀ st, ∀ p ∈ (f st).results, p ∈ st.results) :
    Sat c need (modify f) (fun _ => []) :=
  fun st _ hI _ =>
    have ht : ∀ s ∈ (f st).table, Ev.lent s.key s.o ∈ st.log := fun s hs =>
      let ⟨s', hs', e1, e2⟩ := htbl st s hs
      e1 ▸ e2 ▸ hI.lent s' hs'
    ⟨hI.mono (hlog st) ht (fun p hp => hI.res p (hres st p hp)), ⟨[], (hlog st).trans (List.append_nil _).symm, rfl⟩,
      fun _ _ _ ho => nomatch ho⟩

theorem Sat.modify_frame (f : St → St) (hlog : ∀ st, (f st).log = st.log)
    (htbl : ∀ st, (f st).table = st.table) (hres : ∀ st, (f st).results = st.results) :
    Sat c need (Handlers.modify f) (fun _ => []) :=
  Sat.modify f hlog (fun st s hs => ⟨s, htbl st ▸ hs, rfl, rfl⟩) (fun st _ hp => hres st ▸ hp)

theorem Sat.touch (t : Touch) (hg : t.good c.cfg = true) [hn : Within t.needs need] :
    Sat c need (push (.touch t)) (fun _ => []) := by
  intro st fut hI hN
  refine ⟨hI.push _ hg (fun t' ht o ho => ?_) (fun k o h => nomatch h), Ext.push rfl rfl, ?_⟩
  · cases ht; exact hN o (hn.sub o ho)
  · intro a _ o ho; cases ho

theorem mem_tableAdd {tbl : List Slot} {key : Val} {o : Nat} {s : Slot} (h : s ∈ tableAdd tbl key o) :
    (s.o = o ∧ s.key = key) ∨ ∃ s' ∈ tbl, s'.o = s.o ∧ s'.key = s.key := by
  unfold tableAdd at h
  split at h
  · rcases List.mem_append.mp h with h | h
    · exact Or.inr ⟨s, h, rfl, rfl⟩
    · simp at h; subst h; exact Or.inl ⟨rfl, rfl⟩
  · obtain ⟨s', hs', e⟩ := List.mem_map.mp h
    refine Or.inr ⟨s', hs', ?_⟩
    split at e <;> (subst e; exact ⟨rfl, rfl⟩)

theorem Sat.addSlot (key : Val) (o : Nat) [ho : Within [o] need] :
    Sat c need (addSlot key o) (fun _ => []) := by
  intro st fut hI hN
  have hI' := hI.push (.lent key o) rfl (fun t ht => nomatch ht)
    (fun k o' h => by cases h; exact hN o (ho.sub o (.head _)))
  refine ⟨hI'.mono rfl (fun s hs => ?_) hI'.res, ⟨[.lent key o], rfl, rfl⟩, nofun⟩
  rcases mem_tableAdd hs with ⟨h1, h2⟩ | ⟨s', hs', e1, e2⟩
  · rw [h1, h2]; exact List.mem_append_right _ (.head _)
  · rw [← e1, ← e2]; exact hI'.lent s' hs'

theorem Sat.tableGet (key : Val) : Sat c need (tableGet key) (fun o => [o]) := by
  intro st fut hI _
  obtain ⟨e, _, hp⟩ := At.tableGet (c := c) (st := st) key fut
  rw [e]
  refine ⟨hI, Ext.refl _, fun a ha o ho => ?_⟩
  obtain ⟨s, hs, rfl⟩ := hp a ha
  cases List.mem_singleton.mp ho
  exact hI.tbl s hs

theorem Sat.sendFrame (e : Ev) (hq : e.quiet = true) (hb : evBal e = 0) : Sat c need (sendFrame e) (fun _ => []) := by
  intro st fut hI hN
  unfold Handlers.sendFrame
  split
  · exact ⟨hI, Ext.refl _, nofun⟩
  · have h := Reach.note (st' := { st with log := st.log ++ [e] }) hI e hq hb rfl rfl rfl
    exact ⟨h.1, h.2, fun _ _ _ ho => nomatch ho⟩

/-- what the handler lemmas assume of the waiting function in the context -/
def AwaitOK (c : Ctx) : Prop :=
  ∀ st seq fut, Inv c.cfg c.root st →
    Inv c.cfg c.root (c.await st seq fut).2.1 ∧ Ext st (c.await st seq fut).2.1 ∧
    ∀ o ∈ (c.await st seq fut).1.objs, o ∈ known c.root (c.await st seq fut).2.1.log

theorem Sat.awaitReply (hA : AwaitOK c) (seq : Nat) :
    Sat c need (awaitReply seq) PV.objs := by
  intro st fut hI hN
  have h := hA st seq fut hI
  fun_cases Handlers.awaitReply seq c st fut
  next e => rw [e] at h; exact ⟨h.1, h.2.1, by intro a ha o ho; cases ha; exact h.2.2 o ho⟩
  next e => rw [e] at h; exact ⟨h.1, h.2.1, nofun⟩

theorem Sat.attempt {α} {c : Ctx} {need : List Nat} {m : M α} {Q : α → List Nat} (h : Sat c need m Q) :
    Sat c need (attempt m) (fun r => match r with | .ok a => Q a | .error _ => []) := by
  intro st fut hI hN
  obtain ⟨h1, h2, h3⟩ := h st fut hI hN
  rw [attempt_run]
  refine ⟨h1, h2, fun r hr o ho => ?_⟩
  cases hr
  cases hm : (m c st fut).r with
  | ok v => rw [hm] at ho; exact h3 v hm o ho
  | error x => rw [hm] at ho; cases ho

theorem Sat.tryExc {α} {m h : M α} {Q : α → List Nat}
    (hm : Sat c need m Q) (hh : Sat c need h Q) : Sat c need (tryExc m h) Q := by
  intro st fut hI hN
  have h1 := hm st fut hI hN
  fun_cases Handlers.tryExc m h c st fut
  next e => rw [e] at h1; exact h1
  next x st1 fut1 e _ =>
    rw [e] at h1
    obtain ⟨g1, g2, g3⟩ := hh st1 fut1 h1.1 (fun o ho => known_mono h1.2.1 (hN o ho))
    exact ⟨g1, h1.2.1.trans g2, g3⟩
  next e _ => rw [e] at h1; exact ⟨h1.1, h1.2.1, nofun⟩

theorem Sat.inGenerator {α} {m : M α} {Q : α → List Nat} (h : Sat c need m Q) :
    Sat c need (inGenerator m) Q := by
  intro st fut hI hN
  obtain ⟨h1, h2, h3⟩ := h st fut hI hN
  obtain ⟨e, _, hr⟩ := inGenerator_run m c st fut
  rw [e]
  exact ⟨h1, h2, fun a ha => h3 a (hr a ha)⟩

theorem Sat.ite {α} {b : Bool} {m1 m2 : M α} {Q : α → List Nat}
    (h1 : b = true → Sat c need m1 Q) (h2 : b = false → Sat c need m2 Q) :
    Sat c need (if b then m1 else m2) Q := by
  cases b with
  | true => simpa using h1 rfl
  | false => simpa using h2 rfl

theorem Sat.mapM' {α β : Type} (g : α → M β) (pre : α → List Nat)
    (hg : ∀ x need', (∀ o ∈ pre x, o ∈ need') → Sat c need' (g x) (fun _ => []))
    (xs : List α) (hxs : ∀ x ∈ xs, ∀ o ∈ pre x, o ∈ need) : Sat c need (mapM' g xs) (fun _ => []) := by
  induction xs generalizing need with
  | nil => exact Sat.pure _
  | cons x xs ih =>
    refine Sat.bind (hg x need (hxs x List.mem_cons_self)) (fun b => ?_)
    refine Sat.bind (ih (fun y hy o ho => ?_)) (fun bs => Sat.pure _)
    exact List.mem_append_left _ (hxs y (List.mem_cons_of_mem _ hy) o ho)

theorem boxWith_sat {s : M PV} (hs : ∀ need, Sat c need s PV.objs) :
    ∀ f need v, (∀ o ∈ v.objs, o ∈ need) → Sat c need (boxWith s f v) (fun _ => []) := by
  intro f
  induction f with
  | zero => intro need v _; rw [boxWith]; exact Sat.throwE _
  | succ f ihf =>
    intro need v hv
    cases v with
    | imm v => rw [boxWith]; exact Sat.pure _
    | proxy nm ci ii => rw [boxWith]; exact Sat.pure _
    | tup xs =>
      rw [boxWith]
      refine Sat.bind (Sat.inGenerator (Sat.mapM' _ PV.objs (fun x need' hx => ihf need' x hx) xs ?_))
        (fun bs => Sat.pure _)
      intro x hx o ho
      refine hv o ?_
      simp only [PV.objs, objsL_eq_flatMap, List.mem_flatMap]
      exact ⟨x, hx, ho⟩
    | obj o =>
      have : Within [o] need := ⟨hv⟩
      rw [boxWith]
      refine Sat.bind_getSt (fun st0 => ?_)
      refine Sat.ite (fun _ => Sat.throwX _) (fun _ => ?_)
      refine Sat.bind (Sat.touch _ rfl) (fun _ => ?_)
      refine Sat.bind (hs _) (fun k => ?_)
      cases k with
      | imm key => exact Sat.bind (Sat.addSlot key o) (fun _ => Sat.pure _)
      | _ => exact Sat.throwE _

theorem mem_release {tbl : List Slot} {key : Val} {p : Prop} [Decidable p] {m : Int} {s : Slot}
    (h : s ∈ (if p then tableRemove tbl key else tableSet tbl key m)) : ∃ s' ∈ tbl, s'.o = s.o ∧ s'.key = s.key := by
  split at h
  · exact ⟨s, (List.mem_filter.mp h).1, rfl, rfl⟩
  · obtain ⟨s', hs', e⟩ := List.mem_map.mp h
    refine ⟨s', hs', ?_⟩
    split at e <;> (subst e; exact ⟨rfl, rfl⟩)

theorem mem_unregOne {tbl : List Slot} {key : Val} {s : Slot} (h : s ∈ unregOne tbl key) :
    ∃ s' ∈ tbl, s'.o = s.o ∧ s'.key = s.key := by
  unfold unregOne at h
  split at h
  · exact ⟨s, h, rfl, rfl⟩
  · exact mem_release h

theorem mem_unregAll (added : List Val) : ∀ (tbl : List Slot) (s : Slot), s ∈ added.foldl unregOne tbl →
    ∃ s' ∈ tbl, s'.o = s.o ∧ s'.key = s.key := by
  induction added with
  | nil => intro tbl s h; exact ⟨s, h, rfl, rfl⟩
  | cons k ks ih =>
    intro tbl s h
    obtain ⟨s1, h1, e1, e2⟩ := ih (unregOne tbl k) s h
    obtain ⟨s2, h2, e3, e4⟩ := mem_unregOne h1
    exact ⟨s2, h2, e3.trans e1, e4.trans e2⟩

theorem Sat.unregister {c : Ctx} {need : List Nat} (added : List Val) : Sat c need (unregister added) (fun _ => []) :=
  Sat.modify _ (fun _ => rfl) (fun st s hs => mem_unregAll added st.table s hs) (fun _ _ hp => hp)

theorem boxCollect_sat {s : M PV} (hs : ∀ need, Sat c need s PV.objs) (need : List Nat) (v : PV)
    (hv : ∀ o ∈ v.objs, o ∈ need) : Sat c need (boxCollect s v) (fun _ => []) := by
  unfold boxCollect
  refine Sat.bind_getCtx ?_
  refine Sat.bind (Sat.modify_frame _ (fun _ => rfl) (fun _ => rfl) (fun _ => rfl)) (fun _ => ?_)
  refine Sat.bind (Sat.attempt (boxWith_sat hs _ _ v (fun o ho => List.mem_append_left _ (hv o ho)))) (fun r => ?_)
  refine Sat.bind_getSt (fun st => ?_)
  exact Sat.bind (Sat.modify_frame _ (fun _ => rfl) (fun _ => rfl) (fun _ => rfl)) (fun _ => Sat.pure _)

theorem requestFailed_sat (seq : Nat) (added : List Val) (x : Exc) :
    Sat c need (requestFailed seq added x) PV.objs := by
  unfold requestFailed
  refine Sat.bind (Sat.unregister added) (fun _ => ?_)
  exact Sat.bind (Sat.modify_frame _ (fun _ => rfl) (fun _ => rfl) (fun _ => rfl)) (fun _ => Sat.throwX x)

theorem requestWith_sat (hA : AwaitOK c) {s : M PV} (hs : ∀ need, Sat c need s PV.objs)
    (need : List Nat) (h : Nat) (args : List PV) (hN : ∀ o ∈ PV.objsL args, o ∈ need) :
    Sat c need (requestWith s h args) PV.objs := by
  unfold requestWith
  refine Sat.bind_getSt (fun st => ?_)
  refine Sat.bind (Sat.modify_frame _ (fun _ => rfl) (fun _ => rfl) (fun _ => rfl)) (fun _ => ?_)
  refine Sat.bind (boxCollect_sat hs _ (mkTuple args) (fun o ho =>
    List.mem_append_left _ (hN o (mkTuple_objs args o ho)))) (fun ra => ?_)
  obtain ⟨r, added⟩ := ra
  cases r with
  | error x => exact Sat.ite (fun _ => requestFailed_sat _ _ _) (fun _ => Sat.throwX x)
  | ok boxed =>
    simp only
    cases encodable boxed with
    | error e => exact requestFailed_sat _ _ _
    | ok u =>
      refine Sat.bind (Sat.attempt (Sat.sendFrame _ rfl rfl)) (fun sent => ?_)
      cases sent with
      | error x => exact requestFailed_sat _ _ _
      | ok a => exact Sat.awaitReply hA _

theorem settle_sat (hA : AwaitOK c) : ∀ n need, Sat c need (settle n) PV.objs := by
  intro n
  induction n with
  | zero => intro need; rw [settle]; exact Sat.throwE _
  | succ n ih =>
    intro need st fut hI hN
    simp only [settle]
    cases hm : c.env st.clock with
    | done a =>
      cases a with
      | ret v =>
        obtain ⟨h1, h2⟩ := Reach.note (st' := { st with clock := st.clock + 1, log := st.log ++ [.answer (.ret v)] })
          hI _ rfl rfl rfl rfl rfl
        refine ⟨h1, h2, fun a ha o ho => ?_⟩
        cases ha
        exact (known_append _ _ _ _).2 (Or.inr (by simpa [Ev.gives, Ans.objs] using ho))
      | raise x =>
        obtain ⟨h1, h2⟩ := Reach.note (st' := { st with clock := st.clock + 1, log := st.log ++ [.answer (.raise x)] })
          hI _ rfl rfl rfl rfl rfl
        exact ⟨h1, h2, nofun⟩
    | callback h args =>
      -- the callback's arguments become known with the `cbmove` event; the request it makes and the rest of the
      -- operation run from there
      obtain ⟨hI1, hE1⟩ := Reach.note (st' := { st with clock := st.clock + 1, log := st.log ++ [.cbmove h args] })
        hI _ rfl rfl rfl rfl rfl
      have hN1 : ∀ o ∈ PV.objsL args, o ∈ known c.root (st.log ++ [Ev.cbmove h args]) := fun o ho =>
        (known_append _ _ _ _).2 (Or.inr (by simpa [Ev.gives] using ho))
      obtain ⟨hI2, hE2, _⟩ := requestWith_sat hA ih (PV.objsL args) h args (fun o ho => ho) _ fut hI1 hN1
      obtain ⟨hI3, hE3, hQ3⟩ := ih need _ _ hI2 (fun o ho => known_mono (hE1.trans hE2) (hN o ho))
      exact ⟨hI3, (hE1.trans hE2).trans hE3, hQ3⟩

theorem Sat.prim (hA : AwaitOK c) (t : Touch) (hg : t.good c.cfg = true)
    [Within t.needs need] : Sat c need (prim t) PV.objs := by
  unfold Handlers.prim
  exact Sat.bind (Sat.touch t hg) (fun _ => Sat.bind_getCtx (settle_sat hA _ _))

theorem Sat.boxTop (hA : AwaitOK c) (v : PV) [hn : Within v.objs need] :
    Sat c need (boxTop v) (fun _ => []) := by
  unfold Handlers.boxTop
  exact Sat.bind_getCtx (boxCollect_sat (settle_sat hA _) _ v hn.sub)

theorem Sat.requestTop (hA : AwaitOK c) (h : Nat) (args : List PV)
    [hn : Within (PV.objsL args) need] : Sat c need (requestTop h args) PV.objs := by
  unfold Handlers.requestTop
  exact Sat.bind_getCtx (requestWith_sat hA (settle_sat hA _) _ _ args hn.sub)

theorem Sat.classLookup {c : Ctx} (hA : AwaitOK c) : ∀ (cuts : List (PyStr × PyStr)) (need : List Nat),
    Sat c need (classLookup cuts) (fun _ => []) := by
  intro cuts
  induction cuts with
  | nil => intro need; rw [Handlers.classLookup]; exact Sat.pure _
  | cons pc rest ih =>
    intro need
    obtain ⟨p, cn⟩ := pc
    rw [Handlers.classLookup]
    refine Sat.bind (Sat.prim hA _ rfl) (fun m => ?_)
    exact Sat.ite (fun _ => ih _) (fun _ => Sat.pure _)

theorem Sat.netrefFactory (hA : AwaitOK c) (idp : IdPack) :
    Sat c need (netrefFactory idp) (fun _ => []) := by
  unfold Handlers.netrefFactory
  refine Sat.bind_getSt (fun st => ?_)
  refine Sat.ite (fun _ => Sat.pure _) (fun _ => ?_)
  refine Sat.ite (fun _ => Sat.pure _) (fun _ => ?_)
  refine Sat.bind (Sat.requestTop hA _ _) (fun methods => ?_)
  refine Sat.bind (Sat.classLookup hA _ _) (fun _ => ?_)
  refine Sat.bind (Sat.prim hA _ rfl) (fun _ => ?_)
  exact Sat.ite (fun _ => Sat.modify_frame _ (fun _ => rfl) (fun _ => rfl) (fun _ => rfl)) (fun _ => Sat.pure _)

mutual
def Pkg.objs : Pkg → List Nat
  | .res o => [o]
  | .node xs => Pkg.objsL xs
  | .leaf _ _ => []
def Pkg.objsL : List Pkg → List Nat
  | [] => []
  | x :: xs => x.objs ++ Pkg.objsL xs
end

theorem pkgObjsL_eq_flatMap (xs : List Pkg) : Pkg.objsL xs = xs.flatMap Pkg.objs := by
  induction xs with
  | nil => rfl
  | cons x xs ih => simp [Pkg.objsL, ih]

/-- **every object of a resolved package is an object of the table of the state it was resolved in** - at any tuple
depth, for any package whatsoever (and resolving changes nothing) -/
theorem resolve_table (c : Ctx) (st : St) : ∀ f pkg,
    At c st (resolve f pkg) (fun p => ∀ o ∈ p.objs, ∃ s ∈ st.table, s.o = o) := by
  intro f
  induction f with
  | zero => intro pkg; rw [resolve]; exact At.throwE _
  | succ f ihf =>
    intro pkg
    rw [resolve]
    refine At.bind (P1 := fun _ => True) (At.liftE _ (fun _ _ => trivial)) (fun lv _ => ?_)
    refine At.ite ?_ (At.ite ?_ (At.pure _ (by intro o ho; simp [Pkg.objs] at ho)))
    · refine At.bind (P1 := fun _ => True) (At.liftE _ (fun _ _ => trivial)) (fun items _ => ?_)
      refine At.bind (At.inGenerator (At.mapM' _ _ items (fun x _ => ihf x))) (fun xs hxs => ?_)
      refine At.pure _ ?_
      intro o ho
      simp only [Pkg.objs, pkgObjsL_eq_flatMap, List.mem_flatMap] at ho
      obtain ⟨x, hx, hox⟩ := ho
      exact hxs x hx o hox
    · refine At.bind (At.tableGet _) (fun o ho => ?_)
      refine At.pure _ ?_
      intro o' ho'
      simp [Pkg.objs] at ho'
      rw [ho']; exact ho

/-- in particular the first pass of `_unbox` changes nothing: no log entry (so no request to the peer), no table entry,
no proxy, no message consumed -/
theorem resolve_quiet (c : Ctx) (f : Nat) (pkg : Val) (st : St) (fut : List Wire) :
    (resolve f pkg c st fut).st = st ∧ (resolve f pkg c st fut).fut = fut :=
  have h := resolve_table c st f pkg fut
  ⟨h.1, h.2.1⟩

theorem resolve_sat (f : Nat) (need : List Nat) (pkg : Val) : Sat c need (resolve f pkg) Pkg.objs := by
  intro st fut hI _
  obtain ⟨e, _, hp⟩ := resolve_table c st f pkg fut
  rw [e]
  refine ⟨hI, Ext.refl _, fun p h o ho => ?_⟩
  obtain ⟨s, hs, rfl⟩ := hp p h o ho
  exact hI.tbl s hs

/-- **the second pass of `_unbox` adds no object**: every local object in the value it builds is an object of the
resolved package (proxies for the peer's objects are not local objects) -/
theorem unbox2_objs (c : Ctx) : ∀ f p, Holds c (unbox2 f p) (fun v => ∀ o ∈ v.objs, o ∈ p.objs) := by
  intro f
  induction f with
  | zero => intro p; rw [unbox2]; exact Holds.throwE _
  | succ f ihf =>
    intro p
    cases p with
    | res o => rw [unbox2]; exact Holds.pure _ (by simp [PV.objs, Pkg.objs])
    | node xs =>
      rw [unbox2]
      have hx : ∀ x ∈ xs, Holds c (unbox2 f x) (fun v => ∀ o ∈ v.objs, o ∈ (Pkg.node xs).objs) :=
        fun x hx st fut v h o ho => by
          rw [Pkg.objs, pkgObjsL_eq_flatMap, List.mem_flatMap]
          exact ⟨x, hx, ihf x st fut v h o ho⟩
      refine Holds.bindQ (Holds.inGenerator (Holds.mapM' _ _ xs hx)) (fun ys hys => Holds.pure _ (fun o ho => ?_))
      have := mkTuple_objs ys o ho
      rw [objsL_eq_flatMap, List.mem_flatMap] at this
      obtain ⟨y, hy, hoy⟩ := this
      exact hys y hy o hoy
    | leaf label value =>
      rw [unbox2]
      refine Holds.ite (fun _ => Holds.pure _ (by simp [PV.objs])) (fun _ => ?_)
      refine Holds.ite (fun _ => ?_) (fun _ => Holds.throwE _)
      refine Holds.bind (fun v0 => Holds.bind (fun v1 => Holds.bind (fun v2 => Holds.bind (fun c' => Holds.bind (fun st => ?_)))))
      refine Holds.ite (fun _ => Holds.pure _ (by simp [PV.objs])) (fun _ => ?_)
      exact Holds.bind (fun _ => Holds.bind (fun _ => Holds.pure _ (by simp [PV.objs])))

/-- the effects of the second pass; which objects its value holds is `unbox2_objs` -/
theorem unbox2_sat (hA : AwaitOK c) : ∀ f need p, Sat c need (unbox2 f p) (fun _ => []) := by
  intro f
  induction f with
  | zero => intro need p; rw [unbox2]; exact Sat.throwE _
  | succ f ihf =>
    intro need p
    cases p with
    | res o => rw [unbox2]; exact Sat.pure _
    | node xs =>
      rw [unbox2]
      exact Sat.bind (Sat.inGenerator (Sat.mapM' _ (fun _ => []) (fun x need' _ => ihf need' x) xs
        (fun _ _ _ ho => nomatch ho))) (fun ys => Sat.pure _)
    | leaf label value =>
      rw [unbox2]
      refine Sat.ite (fun _ => Sat.pure _) (fun _ => ?_)
      refine Sat.ite (fun _ => ?_) (fun _ => Sat.throwE _)
      refine Sat.bind (Sat.liftE _) (fun v0 => ?_)
      refine Sat.bind (Sat.liftE _) (fun v1 => ?_)
      refine Sat.bind (Sat.liftE _) (fun v2 => ?_)
      refine Sat.bind_getCtx ?_
      refine Sat.bind_getSt (fun st => ?_)
      refine Sat.ite (fun _ => Sat.pure _) (fun _ => ?_)
      refine Sat.bind (Sat.netrefFactory hA _) (fun _ => ?_)
      refine Sat.bind (Sat.modify_frame _ ?_ ?_ ?_) (fun _ => Sat.pure _)
      all_goals intro st; split <;> rfl

theorem unbox_sat (hA : AwaitOK c) (f : Nat) (need : List Nat) (pkg : Val) : Sat c need (unbox f pkg) PV.objs := by
  unfold unbox
  refine Sat.bind (resolve_sat f need pkg) (fun p => (unbox2_sat hA f _ p).postP ?_)
  exact fun st fut v h o ho => Or.inr (List.mem_append_right _ (unbox2_objs c f p st fut v h o ho))

/-- every local object in a value `_unbox` builds, from any package in any state, is an object of that state's table -/
theorem unbox_table (c : Ctx) (st : St) (f : Nat) (pkg : Val) (fut : List Wire) (v : PV)
    (h : (unbox f pkg c st fut).r = .ok v) : ∀ o ∈ v.objs, ∃ s ∈ st.table, s.o = o := by
  intro o ho
  cases hr : (resolve f pkg c st fut).r with
  | error x => rw [unbox, bind_error hr] at h; cases h
  | ok p =>
    rw [unbox, bind_ok hr] at h
    exact (resolve_table c st f pkg fut).2.2 p hr o (unbox2_objs c f p _ _ v h o ho)

theorem pyEqNat_int (a : Int) (b : Nat) : pyEqNat (.int a) b = (a == (b : Int)) := by
  simp [pyEqNat, pyEq, leafEq, numVal, Num.eq]

theorem pyEqNat_self (n : Nat) : pyEqNat (.int n) n = true := by
  rw [pyEqNat_int]; exact beq_self_eq_true _

/-- the first label test of `_unbox`, for a tuple, fails on a LOCAL_REF (the second, for a LOCAL_REF, is `pyEqNat_self`) -/
theorem labelLocalRef_ne_tuple : pyEqNat (.int Gen.Handlers.labelLocalRef) Gen.Handlers.labelTuple = false := by
  rw [pyEqNat_int]; decide

/-- `_unbox` of a LOCAL_REF is the table lookup of its identifier, in any state and without changing it -/
theorem unbox_localRef (c : Ctx) (st : St) (fut : List Wire) (f : Nat) (key : Val) :
    unbox (f + 1) (.tuple [.int Gen.Handlers.labelLocalRef, key]) c st fut =
      match lookupSlot st.table key with
      | some s => ⟨.ok (.obj s.o), st, fut⟩
      | none => ⟨.error (Exc.ofErr .keyError), st, fut⟩ := by
  cases h : lookupSlot st.table key <;>
    simp [unbox, resolve, unbox2, unpack2, iterVal, Handlers.liftE, Bind.bind, Pure.pure, labelLocalRef_ne_tuple,
      pyEqNat_self, tableGet, h]

theorem Sat.unboxTop (hA : AwaitOK c) (pkg : Val) : Sat c need (unboxTop pkg) PV.objs := by
  unfold Handlers.unboxTop
  exact Sat.bind_getCtx (unbox_sat hA _ _ _)

theorem Sat.probe (hA : AwaitOK c) (obj : PV) (n : PyStr)
    (hg : plainAllowed c.cfg n = true) [Within obj.objs need] : Sat c need (probe obj n) (fun _ => []) := by
  unfold Handlers.probe
  exact Sat.bind (Sat.prim hA _ hg) (fun a => Sat.pure _)

theorem plainAllowed_twin (cfg : Config) (n : PyStr) (h : prefixTruthy cfg = true) : plainAllowed cfg (twin cfg n) = true := by
  simp only [prefixTruthy, Bool.and_eq_true] at h
  simp [plainAllowed, twin, h.1]

theorem checkAttr_allowed (cfg : Config) (has : PyStr → Bool) (n : PyStr) (op : Op) (n' : PyStr)
    (h : checkAttr cfg has n op = .ok n') : cfg.perm op = true ∧ plainAllowed cfg n' = true := by
  revert h
  fun_cases checkAttr cfg has n op <;> intro h <;> cases h
  next hp h1 => exact ⟨by simpa using hp, (Bool.and_eq_true_iff.mp h1).1⟩
  next hp _ h2 => exact ⟨by simpa using hp, plainAllowed_twin cfg n (Bool.and_eq_true_iff.mp h2).1⟩
  next hp _ _ h3 => exact ⟨by simpa using hp, h3⟩

theorem Sat.probeIf (hA : AwaitOK c) (b : Bool) (obj : PV) (n : PyStr)
    (hg : b = true → plainAllowed c.cfg n = true) [Within obj.objs need] :
    Sat c need (probeIf b obj n) (fun _ => []) := by
  unfold Handlers.probeIf
  exact Sat.ite (fun hb => Sat.probe hA _ _ (hg hb)) (fun _ => Sat.pure _)

theorem Sat.checkAttrM (hA : AwaitOK c) (obj : PV) (n : PyStr) (op : Op)
    [Within obj.objs need] : Sat c need (checkAttrM obj n op) (fun _ => []) := by
  unfold Handlers.checkAttrM
  refine Sat.bind_getCfg ?_
  refine Sat.ite (fun _ => Sat.throwE _) (fun _ => ?_)
  refine Sat.bind (Sat.probeIf hA _ _ _ (plainAllowed_twin _ _)) (fun b1 => ?_)
  refine Sat.bind (Sat.probeIf hA _ _ _ (fun hp => (Bool.and_eq_true_iff.mp hp).1)) (fun b2 => ?_)
  exact Sat.liftE _

theorem checkAttrM_allowed (c : Ctx) (obj : PV) (n : PyStr) (op : Op) :
    Holds c (checkAttrM obj n op) (fun n' => c.cfg.perm op = true ∧ plainAllowed c.cfg n' = true) := by
  unfold Handlers.checkAttrM
  refine Holds.bind_getCfg ?_
  refine Holds.ite (fun _ => Holds.throwE _) (fun _ => ?_)
  refine Holds.bind (fun b1 => Holds.bind (fun b2 => Holds.liftE _ (fun a ha => checkAttr_allowed _ _ _ _ _ ha)))

theorem accessAttr_sat (hA : AwaitOK c) (obj name : PV) (extra : List PV) (op : Op)
    [Within obj.objs need] [Within (PV.objsL extra) need] : Sat c need (accessAttr obj name extra op) PV.objs := by
  unfold Handlers.accessAttr
  refine Sat.bind (Sat.liftE _) (fun n => ?_)
  refine Sat.bind (Sat.prim hA _ rfl) (fun hk => ?_)
  refine Sat.ite (fun _ => Sat.prim hA _ rfl) (fun _ => ?_)
  refine Sat.bindP (Sat.checkAttrM hA _ _ _) (checkAttrM_allowed c _ _ _) (fun n' hp => ?_)
  exact Sat.prim hA _ (by simp [Touch.good, hp.1, hp.2])

theorem Sat.accessAttr {c : Ctx} (hA : AwaitOK c) {need : List Nat} (obj name : PV) (extra : List PV) (op : Op)
    (hn : ∀ o ∈ obj.objs ++ PV.objsL extra, o ∈ need) : Sat c need (accessAttr obj name extra op) PV.objs :=
  have : Within obj.objs need := ⟨fun o ho => hn o (List.mem_append_left _ ho)⟩
  have : Within (PV.objsL extra) need := ⟨fun o ho => hn o (List.mem_append_right _ ho)⟩
  accessAttr_sat hA obj name extra op

theorem Sat.splat (hA : AwaitOK c) (x : PV) [hn : Within x.objs need] :
    Sat c need (splat x) PV.objsL := by
  unfold Handlers.splat
  split
  · exact Sat.bind (Sat.liftE _) (fun xs => Sat.pure _)
  · exact Sat.pure _ (h := ⟨hn.sub⟩)
  · refine Sat.bind (Sat.prim hA _ rfl) (fun r => ?_)
    split
    · exact Sat.pure _
    · exact Sat.pure _ (h := Within.right (h := ⟨fun _ h => h⟩))
    · exact Sat.throwE _

theorem Sat.indexPV (hA : AwaitOK c) (x : PV) (i : Nat) [hn : Within x.objs need] :
    Sat c need (indexPV x i) PV.objs := by
  unfold Handlers.indexPV
  cases x with
  | imm v => exact Sat.bind (Sat.liftE _) (fun r => Sat.pure _)
  | tup xs =>
    simp only
    cases h : xs[i]? with
    | none => exact Sat.throwE _
    | some r =>
      refine Sat.pure _ (h := ⟨fun o ho => hn.sub o ?_⟩)
      simp only [PV.objs, objsL_eq_flatMap, List.mem_flatMap]
      exact ⟨r, List.mem_of_getElem? h, ho⟩
  | obj o => exact Sat.prim hA _ rfl
  | proxy a b d => exact Sat.prim hA _ rfl

theorem Sat.hashKey (hA : AwaitOK c) (x : PV) [Within x.objs need] :
    Sat c need (hashKey x) (fun _ => []) := by
  unfold Handlers.hashKey
  split
  · exact Sat.pure _
  · exact Sat.bind (Sat.prim hA _ rfl) (fun _ => Sat.pure _)

theorem Sat.cleanup {c : Ctx} (hA : AwaitOK c) {need : List Nat} : Sat c need cleanup (fun _ => []) := by
  unfold Handlers.cleanup
  have h1 : Sat c need (Handlers.modify (fun st => { st with closed := true, log := st.log ++ [.cleaned] })) (fun _ => []) :=
    fun st fut hI hN =>
      have h := Reach.note (st' := { st with closed := true, log := st.log ++ [.cleaned] }) hI _ rfl rfl rfl rfl rfl
      ⟨h.1, h.2, fun a _ o ho => nomatch ho⟩
  refine Sat.bind h1 (fun _ => ?_)
  refine Sat.bind_getCtx ?_
  refine Sat.bind (Sat.attempt (Sat.withRoot (Sat.prim hA _ rfl))) (fun r => ?_)
  refine Sat.bind (Sat.modify _ (fun _ => rfl) (fun _ s hs => nomatch hs) (fun _ p hp => nomatch hp)) (fun _ => ?_)
  cases r with
  | error x => exact Sat.throwX x
  | ok v => exact Sat.pure _

theorem Sat.decref {c : Ctx} {need : List Nat} (key : Val) (n : Int) : Sat c need (decref key n) PV.objs := by
  unfold Handlers.decref
  refine Sat.bind_getSt (fun st => ?_)
  cases lookupSlot st.table key with
  | none => exact Sat.throwE _
  | some s =>
    simp only
    refine Sat.bind (Q1 := fun _ => []) ?_ (fun _ => Sat.pure _)
    exact Sat.modify _ (fun _ => rfl) (fun _ _ hs => mem_release hs) (fun _ _ hp => hp)

section handlers
variable (hA : AwaitOK c)
include hA

omit hA in
theorem hPing_sat (as : List PV) : Sat c (PV.objsL as) (hPing as) PV.objs := by
  unfold hPing
  split
  · exact Sat.pure _
  · exact Sat.throwE _

theorem hClose_sat (as : List PV) : Sat c (PV.objsL as) (hClose as) PV.objs := by
  unfold hClose
  split
  · exact Sat.bind (Sat.cleanup hA) (fun _ => Sat.pure _)
  · exact Sat.throwE _

omit hA in
theorem hGetroot_sat (as : List PV) : Sat c (PV.objsL as) (hGetroot as) PV.objs := by
  unfold hGetroot
  split
  · exact Sat.bind_getCtx (Sat.withRoot (Sat.pure _))
  · exact Sat.throwE _

theorem hDelCore_sat (obj count : PV) [Within obj.objs need] :
    Sat c need (hDelCore obj count) PV.objs := by
  unfold hDelCore
  split
  · split
    · exact Sat.throwE _
    · refine Sat.bind (Sat.prim hA _ rfl) (fun k => ?_)
      split
      · exact Sat.decref _ _
      · exact Sat.throwE _
  · exact Sat.throwE _

theorem hDel_sat (as : List PV) : Sat c (PV.objsL as) (hDel as) PV.objs := by
  unfold hDel
  split
  · exact hDelCore_sat hA _ _
  · exact hDelCore_sat hA _ _
  · exact Sat.throwE _

/-- the handlers that take one object and perform one operation on it (`repr`, `str`, `hash`, `dir`) -/
theorem unary_sat (k : TK) (hk : ∀ o, Touch.good c.cfg { kind := k, subj := o } = true) (as : List PV) :
    Sat c (PV.objsL as) (match as with
      | [o] => prim { kind := k, subj := o }
      | _ => throwE .typeError) PV.objs := by
  split
  · exact Sat.prim hA _ (hk _)
  · exact Sat.throwE _

theorem hCmpCore_sat (obj other op : PV) [Within obj.objs need] [Within other.objs need] :
    Sat c need (hCmpCore obj other op) PV.objs := by
  unfold hCmpCore
  refine Sat.bind (Sat.prim hA _ rfl) (fun ty => ?_)
  refine Sat.bind (Sat.prim hA _ rfl) (fun own => ?_)
  refine Sat.ite (fun _ => ?_) (fun _ => ?_)
  · exact Sat.bind (accessAttr_sat hA _ _ _ _) (fun f => Sat.prim hA _ rfl)
  · exact Sat.bind (accessAttr_sat hA _ _ _ _) (fun f => Sat.prim hA _ rfl)

theorem hCmp_sat (as : List PV) : Sat c (PV.objsL as) (hCmp as) PV.objs := by
  unfold hCmp
  split
  · exact hCmpCore_sat hA _ _ _
  · exact hCmpCore_sat hA _ _ _
  · exact Sat.throwE _

theorem callChecked_sat (o a kw : PV) [Within o.objs need] [Within a.objs need] [Within kw.objs need] :
    Sat c need (callChecked o a kw) PV.objs := by
  unfold callChecked
  exact Sat.ite (fun _ => Sat.prim hA _ rfl) (fun _ => Sat.throwE _)

theorem hCall_sat (as : List PV) : Sat c (PV.objsL as) (hCall as) PV.objs := by
  unfold hCall
  split
  · exact callChecked_sat hA _ _ _
  · exact callChecked_sat hA _ _ _
  · exact Sat.throwE _

/-- `_handle_getattr` and `_handle_delattr`: an access by name without further arguments -/
theorem attr_sat (op : Op) (as : List PV) :
    Sat c (PV.objsL as) (match as with
      | [o, n] => accessAttr o n [] op
      | _ => throwE .typeError) PV.objs := by
  split
  · exact accessAttr_sat hA _ _ _ _
  · exact Sat.throwE _

theorem hSetattr_sat (as : List PV) : Sat c (PV.objsL as) (hSetattr as) PV.objs := by
  unfold hSetattr
  split
  · exact accessAttr_sat hA _ _ _ _
  · exact Sat.throwE _

theorem hCallattrCore_sat (o n a kw : PV) [Within o.objs need] [Within a.objs need] [Within kw.objs need] :
    Sat c need (hCallattrCore o n a kw) PV.objs := by
  unfold hCallattrCore
  exact Sat.bind (accessAttr_sat hA _ _ _ _) (fun f => callChecked_sat hA _ _ _)

theorem hCallattr_sat (as : List PV) : Sat c (PV.objsL as) (hCallattr as) PV.objs := by
  unfold hCallattr
  split
  · exact hCallattrCore_sat hA _ _ _ _
  · exact hCallattrCore_sat hA _ _ _ _
  · exact Sat.throwE _

theorem lookupPV_sat (x : PV) [Within x.objs need] : Sat c need (lookupPV x) (fun o => [o]) := by
  unfold lookupPV
  split
  · exact Sat.tableGet _
  · exact Sat.bind (Sat.hashKey hA _) (fun _ => Sat.throwE _)

theorem probeConn_sat (x : PV) [Within x.objs need] : Sat c need (probeConn x) (fun _ => []) := by
  unfold probeConn
  split
  · exact Sat.pure _
  · exact Sat.pure _
  · exact Sat.pure _
  · exact Sat.bind (Sat.prim hA _ rfl) (fun _ => Sat.pure _)

theorem hInspect_sat (as : List PV) : Sat c (PV.objsL as) (hInspect as) PV.objs := by
  unfold hInspect
  split
  · refine Sat.bind (lookupPV_sat hA _) (fun o => ?_)
    refine Sat.bind (probeConn_sat hA _) (fun ch => ?_)
    exact Sat.ite (fun _ => Sat.throwE _) (fun _ => Sat.prim hA _ rfl)
  · exact Sat.throwE _

theorem truth_sat (x : PV) [Within x.objs need] : Sat c need (truth x) (fun _ => []) := by
  unfold truth
  split
  · exact Sat.pure _
  · exact Sat.pure _
  · exact Sat.bind (Sat.prim hA _ rfl) (fun _ => Sat.pure _)

theorem ctxTriple_sat (t : Bool) (exc : PV) [Within exc.objs need] :
    Sat c need (ctxTriple t exc) PV.objsL := by
  unfold ctxTriple
  refine Sat.ite (fun _ => ?_) (fun _ => Sat.pure _)
  exact Sat.bind (Sat.prim hA _ rfl) (fun r => Sat.splat hA r)

theorem hCtxexit_sat (as : List PV) : Sat c (PV.objsL as) (hCtxexit as) PV.objs := by
  unfold hCtxexit
  split
  · refine Sat.bind (truth_sat hA _) (fun t => ?_)
    refine Sat.bind (ctxTriple_sat hA _ _) (fun triple => ?_)
    exact Sat.bind (accessAttr_sat hA _ _ _ _) (fun f => Sat.prim hA _ rfl)
  · exact Sat.throwE _

theorem inBuiltin_sat (x : PV) [Within x.objs need] : Sat c need (inBuiltin x) (fun _ => []) := by
  unfold inBuiltin
  split
  · exact Sat.pure _
  · exact Sat.pure _
  · exact Sat.bind (Sat.hashKey hA _) (fun _ => Sat.pure _)

theorem hPickle_sat (as : List PV) : Sat c (PV.objsL as) (hPickle as) PV.objs := by
  unfold hPickle
  split
  · refine Sat.bind_getCfg ?_
    refine Sat.ite (fun _ => Sat.throwE _) (fun hp => ?_)
    exact Sat.prim hA _ (by simpa [Touch.good] using hp)
  · exact Sat.throwE _

theorem hBuffiter_sat (as : List PV) : Sat c (PV.objsL as) (hBuffiter as) PV.objs := by
  unfold hBuffiter
  split
  · exact Sat.prim hA _ rfl
  · exact Sat.throwE _

theorem hOldslicing_sat (as : List PV) : Sat c (PV.objsL as) (hOldslicing as) PV.objs := by
  unfold hOldslicing
  split
  · refine Sat.tryExc ?_ ?_
    · refine Sat.bind (accessAttr_sat hA _ _ _ _) (fun f => ?_)
      exact Sat.bind (Sat.splat hA _) (fun xs => Sat.prim hA _ rfl)
    · refine Sat.bind (accessAttr_sat hA _ _ _ _) (fun g => ?_)
      exact Sat.bind (Sat.splat hA _) (fun xs => Sat.prim hA _ rfl)
  · exact Sat.throwE _

theorem hInstancecheck_sat (as : List PV) : Sat c (PV.objsL as) (hInstancecheck as) PV.objs := by
  unfold hInstancecheck
  split
  · refine Sat.bind (probeConn_sat hA _) (fun pc => ?_)
    refine Sat.ite (fun _ => ?_) (fun _ => ?_)
    · split
      · exact Sat.requestTop hA _ _
      · exact Sat.throwE _
    refine Sat.bind (Sat.indexPV hA _ _) (fun e0 => ?_)
    refine Sat.bind (Sat.indexPV hA _ _) (fun e1 => ?_)
    refine Sat.bind (Sat.indexPV hA _ _) (fun e0' => ?_)
    refine Sat.bind (inBuiltin_sat hA _) (fun b => ?_)
    refine Sat.ite (fun _ => Sat.prim hA _ rfl) (fun _ => ?_)
    refine Sat.bind (Sat.hashKey hA _) (fun _ => ?_)
    refine Sat.bind (Sat.hashKey hA _) (fun _ => ?_)
    refine Sat.bind_getSt (fun st => ?_)
    exact Sat.ite (fun _ => Sat.prim hA _ rfl) (fun _ => Sat.pure _)
  · exact Sat.throwE _

theorem runHandler_sat (name : String) (as : List PV) : Sat c (PV.objsL as) (runHandler name as) PV.objs := by
  unfold runHandler
  refine Sat.ite (fun _ => hPing_sat _) (fun _ => ?_)
  refine Sat.ite (fun _ => hClose_sat hA _) (fun _ => ?_)
  refine Sat.ite (fun _ => hGetroot_sat _) (fun _ => ?_)
  refine Sat.ite (fun _ => attr_sat hA .get _) (fun _ => ?_)
  refine Sat.ite (fun _ => attr_sat hA .del _) (fun _ => ?_)
  refine Sat.ite (fun _ => hSetattr_sat hA _) (fun _ => ?_)
  refine Sat.ite (fun _ => hCall_sat hA _) (fun _ => ?_)
  refine Sat.ite (fun _ => hCallattr_sat hA _) (fun _ => ?_)
  refine Sat.ite (fun _ => unary_sat hA .repr (fun _ => rfl) _) (fun _ => ?_)
  refine Sat.ite (fun _ => unary_sat hA .str (fun _ => rfl) _) (fun _ => ?_)
  refine Sat.ite (fun _ => hCmp_sat hA _) (fun _ => ?_)
  refine Sat.ite (fun _ => unary_sat hA .hash (fun _ => rfl) _) (fun _ => ?_)
  refine Sat.ite (fun _ => hInstancecheck_sat hA _) (fun _ => ?_)
  refine Sat.ite (fun _ => unary_sat hA .dir (fun _ => rfl) _) (fun _ => ?_)
  refine Sat.ite (fun _ => hPickle_sat hA _) (fun _ => ?_)
  refine Sat.ite (fun _ => hDel_sat hA _) (fun _ => ?_)
  refine Sat.ite (fun _ => hInspect_sat hA _) (fun _ => ?_)
  refine Sat.ite (fun _ => hBuffiter_sat hA _) (fun _ => ?_)
  refine Sat.ite (fun _ => hOldslicing_sat hA _) (fun _ => ?_)
  refine Sat.ite (fun _ => hCtxexit_sat hA _) (fun _ => ?_)
  exact Sat.throwE _

theorem handleRequest_sat (raw : Val) : Sat c need (handleRequest raw) PV.objs := by
  unfold handleRequest
  refine Sat.bind (Sat.liftE _) (fun ha => ?_)
  refine Sat.bind (Sat.unboxTop hA _) (fun args => ?_)
  refine Sat.bind (Sat.liftE _) (fun name => ?_)
  exact Sat.bind (Sat.splat hA _) (fun xs => (runHandler_sat hA name xs).weaken)

end handlers

def Ev.answers (seq : Val) : Ev → Prop
  | .reply s _ => s = seq
  | .exc s _ => s = seq
  | .aborted s _ => s = seq
  | _ => False

/-- what `st'`'s log has beyond `st`'s: balanced activity `l`, then the one answer `e` to `seq`.  Not an `Ext` (balance -1);
with the `.request seq` that `dispatchRequest` logs in front the whole is balanced again (`Sat.dispatchRequest`) -/
def Answered (seq : Val) (st st' : St) : Prop :=
  ∃ l e, st'.log = st.log ++ l ++ [e] ∧ balL l = 0 ∧ evBal e = -1 ∧ e.answers seq

theorem Answered.one (seq : Val) (st : St) (e : Ev) (hb : evBal e = -1) (ha : e.answers seq) :
    Answered seq st { st with log := st.log ++ [e] } := ⟨[], e, by simp, rfl, hb, ha⟩

/-- `Sat` for the computations that end the request `seq`: `Answered` in the place of `Ext`, nothing returned -/
def Step (c : Ctx) (seq : Val) (need : List Nat) (m : M Unit) : Prop :=
  ∀ st fut, Inv c.cfg c.root st → (∀ o ∈ need, o ∈ known c.root st.log) →
    Inv c.cfg c.root (m c st fut).st ∧ Answered seq st (m c st fut).st

theorem sendExc_step (c : Ctx) (seq : Val) (x : Exc) (need : List Nat) : Step c seq need (sendExc seq x) := by
  intro st fut hI _
  unfold sendExc
  split
  · exact ⟨hI.note _ rfl rfl rfl rfl, Answered.one seq st _ rfl rfl⟩
  · exact ⟨hI.note _ rfl rfl rfl rfl, Answered.one seq st _ rfl rfl⟩

theorem abortWith_step (c : Ctx) (seq : Val) (x : Exc) (need : List Nat) : Step c seq need (abortWith seq x) := by
  intro st fut hI _
  exact ⟨hI.note _ rfl rfl rfl rfl, Answered.one seq st _ rfl rfl⟩

theorem Answered.after {seq : Val} {a b d : St} (h1 : Ext a b) (h2 : Answered seq b d) : Answered seq a d := by
  obtain ⟨l1, e1, b1⟩ := h1.ext
  obtain ⟨l2, e, e2, b2, b3, ha⟩ := h2
  exact ⟨l1 ++ l2, e, by simp [e2, e1, List.append_assoc], by simp [balL_append, b1, b2], b3, ha⟩

theorem Step.bind {α} {seq : Val} {m : M α} {f : α → M Unit} {Q : α → List Nat}
    (h1 : Sat c need m Q) (hne : ∀ st fut x, (m c st fut).r ≠ .error x) (h2 : ∀ a, Step c seq (need ++ Q a) (f a)) :
    Step c seq need (m >>= f) := by
  intro st fut hI hN
  obtain ⟨g1, g2, g3⟩ := h1 st fut hI hN
  cases hr : (m c st fut).r with
  | error x => exact absurd hr (hne st fut x)
  | ok a =>
    rw [bind_ok hr]
    obtain ⟨k1, k2⟩ := h2 a _ _ g1 (known_mono_append g2 hN (g3 a hr))
    exact ⟨k1, Answered.after g2 k2⟩

theorem Step.bind_getCfg {seq : Val} {f : Config → M Unit} (h : Step c seq need (f c.cfg)) :
    Step c seq need (getCfg >>= f) :=
  fun st fut hI hN => h st fut hI hN

theorem Step.unregister {seq : Val} {k : M Unit} (added : List Val) (h : Step c seq (need ++ []) k) :
    Step c seq need (do unregister added; k) :=
  Step.bind (Sat.unregister added) (fun _ _ _ hx => nomatch hx) (fun _ => h)

theorem sendReply_step (c : Ctx) (seq b : Val) (added : List Val) (need : List Nat) : Step c seq need (sendReply seq b added) := by
  intro st fut hI hN
  unfold sendReply
  split
  · exact Step.unregister added (abortWith_step c seq _ _) st fut hI hN
  · exact ⟨hI.note _ rfl rfl rfl rfl, Answered.one seq st _ rfl rfl⟩

/-- `boxCollect` runs the boxing under `attempt`; every step around it (reading the context and the state, the two
updates of the add-stack, `pure`) returns, so the outcome is `.ok` by computation -/
theorem boxTop_total (v : PV) (c : Ctx) (st : St) (fut : List Wire) (x : Exc) : (boxTop v c st fut).r ≠ .error x :=
  nofun

theorem sendResult_step (c : Ctx) (hA : AwaitOK c) (seq : Val) (res : PV) (need : List Nat) (hk : ∀ o ∈ res.objs, o ∈ need) :
    Step c seq need (sendResult seq res) := by
  unfold sendResult
  refine Step.bind (Sat.boxTop hA res (hn := ⟨hk⟩)) (boxTop_total res c) (fun ra => ?_)
  obtain ⟨r, added⟩ := ra
  cases r with
  | error x =>
    simp only
    split
    · exact Step.unregister added (abortWith_step c seq _ _)
    · split
      · exact Step.unregister added (sendExc_step c seq _ _)
      · exact abortWith_step c seq _ _
  | ok b =>
    simp only
    cases encodable b with
    | error e => exact Step.unregister added (sendExc_step c seq _ _)
    | ok u => exact sendReply_step c seq b added _

theorem answer_step (c : Ctx) (hA : AwaitOK c) (seq : Val) (r : Except Exc PV) (need : List Nat)
    (hk : ∀ v, r = .ok v → ∀ o ∈ v.objs, o ∈ need) : Step c seq need (answer seq r) := by
  unfold answer
  refine Step.bind_getCfg ?_
  cases r with
  | ok res => exact sendResult_step c hA seq res need (hk res rfl)
  | error x =>
    simp only
    split
    · exact abortWith_step c seq x need
    · exact sendExc_step c seq x need

/-- **one request, one answer**: whatever `raw` is, `_dispatch_request` logs the request, then balanced activity (its
handler's touches, nested requests each with their own answer), then exactly one answer to `seq` -/
theorem dispatchRequest_step (c : Ctx) (hA : AwaitOK c) (seq raw : Val) (st : St) (fut : List Wire)
    (hI : Inv c.cfg c.root st) :
    Inv c.cfg c.root (dispatchRequest seq raw c st fut).st ∧
    ∃ l e, (dispatchRequest seq raw c st fut).st.log = st.log ++ [.request seq] ++ l ++ [e] ∧ balL l = 0 ∧
      evBal e = -1 ∧ e.answers seq := by
  have hS : Step c seq [] (attempt (handleRequest raw) >>= answer seq) :=
    Step.bind (Sat.attempt (handleRequest_sat hA raw)) (attempt_total _ c) (fun r => answer_step c hA seq r _ (by
      rintro v rfl o ho; exact List.mem_append_right _ ho))
  exact hS _ fut (hI.note (.request seq) rfl rfl rfl rfl) (fun _ h => nomatch h)

theorem Sat.dispatchRequest {c : Ctx} (hA : AwaitOK c) {need : List Nat} (seq raw : Val) :
    Sat c need (dispatchRequest seq raw) (fun _ => []) := by
  intro st fut hI _
  obtain ⟨h1, l, e, e1, b1, b2, _⟩ := dispatchRequest_step c hA seq raw st fut hI
  refine ⟨h1, ⟨[.request seq] ++ l ++ [e], by simp [e1, List.append_assoc], ?_⟩, fun _ _ _ ho => nomatch ho⟩
  simp only [balL_append, balL, b1, b2]; rfl

theorem Sat.seqCallback (seq : Val) (a : Ans) [hn : Within a.objs need] :
    Sat c need (seqCallback seq a) (fun _ => []) := by
  intro st fut hI hN
  fun_cases Handlers.seqCallback seq a c st fut
  next =>
    have h := Reach.note (st' := { st with log := st.log ++ [.ignored seq] }) hI _ rfl rfl rfl rfl rfl
    exact ⟨h.1, h.2, fun _ _ _ ho => nomatch ho⟩
  next k _ =>
    have h := Reach.note hI (.dropped k) rfl rfl rfl rfl rfl
      (st' := { st with pending := st.pending.filter (fun p => p.1 != k), log := st.log ++ [.dropped k] })
    exact ⟨h.1, h.2, fun _ _ _ ho => nomatch ho⟩
  next k _ _ _ =>
    -- the answer joins the pending results: its objects are known by hypothesis
    have hI' := hI.note (st' := { st with log := st.log ++ [.delivered k] }) (.delivered k) rfl rfl rfl rfl
    refine ⟨hI'.mono rfl hI'.lent (fun p hp o ho => ?_), ⟨[_], rfl, rfl⟩, fun _ _ _ ho => nomatch ho⟩
    rcases List.mem_append.mp hp with h | h
    · exact hI'.res p h o ho
    · cases List.mem_singleton.mp h
      exact (known_append _ _ _ _).2 (Or.inl (hN o (hn.sub o ho)))

theorem Sat.importGate (hA : AwaitOK c) (modname : Val) :
    Sat c need (importGate modname) (fun _ => []) := by
  unfold Handlers.importGate
  refine Sat.bind_getCfg ?_
  refine Sat.ite (fun hi => ?_) (fun _ => Sat.pure _)
  refine Sat.bind (Sat.prim hA _ (by simp [Touch.good, hi])) (fun present => ?_)
  refine Sat.ite (fun _ => ?_) (fun _ => Sat.pure _)
  refine Sat.bind (Sat.attempt (Sat.prim hA _ (by simp [Touch.good, hi]))) (fun r => ?_)
  cases r with
  | error x => exact Sat.ite (fun _ => Sat.pure _) (fun _ => Sat.throwX _)
  | ok v => exact Sat.pure _

theorem Sat.classGate {c : Ctx} (hA : AwaitOK c) {need : List Nat} (modname clsname : Val) :
    Sat c need (classGate modname clsname) PV.objs := by
  unfold Handlers.classGate
  refine Sat.bind_getCfg ?_
  refine Sat.ite (fun hi => ?_) (fun _ => ?_)
  · exact Sat.bind (Sat.prim hA _ (by simp [Touch.good, hi])) (fun _ => Sat.pure _)
  · exact Sat.ite (fun _ => Sat.prim hA _ rfl) (fun _ => Sat.pure _)

theorem Sat.loadExc {c : Ctx} (hA : AwaitOK c) {need : List Nat} (val : Val) : Sat c need (loadExc val) Ans.objs := by
  unfold Handlers.loadExc
  refine Sat.ite (fun _ => Sat.pure _) (fun _ => ?_)
  split
  · exact Sat.pure _
  · refine Sat.bind (Sat.liftE _) (fun x4 => ?_)
    obtain ⟨head, args, attrs, tb⟩ := x4
    refine Sat.bind (Sat.liftE _) (fun x2 => ?_)
    obtain ⟨modname, clsname⟩ := x2
    refine Sat.bind (Sat.importGate hA _) (fun _ => ?_)
    refine Sat.bind (Sat.classGate hA _ _) (fun cls => ?_)
    refine Sat.bind (Sat.prim hA _ rfl) (fun r => ?_)
    split
    · exact Sat.pure _
    · exact Sat.throwE _

theorem Sat.dispatch {c : Ctx} (hA : AwaitOK c) {need : List Nat} (w : Wire) : Sat c need (dispatch w) (fun _ => []) := by
  unfold Handlers.dispatch
  cases w with
  | empty => exact Sat.pure _
  | garbage e => exact Sat.throwE _
  | val v =>
    simp only
    refine Sat.bind (Sat.liftE _) (fun x => ?_)
    refine Sat.ite (fun _ => Sat.dispatchRequest hA _ _) (fun _ => ?_)
    refine Sat.ite (fun _ => ?_) (fun _ => ?_)
    · refine Sat.bind (Sat.attempt (Sat.unboxTop hA _)) (fun r => ?_)
      cases r with
      | ok obj => exact Sat.seqCallback _ _
      | error x =>
        simp only [Handlers.deliverResponse]
        exact Sat.ite (fun _ => Sat.throwX _) (fun _ => Sat.seqCallback _ _)
    refine Sat.ite (fun _ => ?_) (fun _ => Sat.throwE _)
    refine Sat.bind (Sat.attempt (Sat.loadExc hA _)) (fun r => ?_)
    cases r with
    | ok a => exact Sat.seqCallback _ _
    | error x =>
      simp only [Handlers.deliverResponse]
      exact Sat.ite (fun _ => Sat.throwX _) (fun _ => Sat.seqCallback _ _)

theorem takeResult_ok {cfg : Config} {root : Nat} {st st' : St} {seq : Nat} {a : Ans} (hI : Inv cfg root st)
    (h : takeResult st seq = some (a, st')) :
    Inv cfg root st' ∧ Ext st st' ∧ ∀ o ∈ a.objs, o ∈ known root st'.log := by
  unfold takeResult at h
  split at h
  · rename_i p hp
    cases h
    exact ⟨hI.mono rfl hI.lent (fun q hq => hI.res q (List.mem_filter.mp hq).1),
      ⟨[], (List.append_nil _).symm, rfl⟩, hI.res p (List.mem_of_find?_eq_some hp)⟩
  · cases h

theorem Sat.reach {α} {m : M α} {Q : α → List Nat} (h : Sat c [] m Q) {st : St} (hI : Inv c.cfg c.root st)
    (fut : List Wire) : Reach c st (m c st fut).st :=
  have h' := h st fut hI (fun _ ho => nomatch ho)
  ⟨h'.1, h'.2.1⟩

theorem awaitF_ok (b : Ctx) : ∀ f, AwaitOK { b with await := awaitF b f } := by
  intro f
  induction f with
  | zero => exact fun st seq fut hI => ⟨hI, Ext.refl _, fun _ ho => nomatch ho⟩
  | succ f ih =>
    intro st seq fut hI
    show Inv b.cfg b.root (awaitF b (f + 1) st seq fut).2.1 ∧ Ext st (awaitF b (f + 1) st seq fut).2.1 ∧
      ∀ o ∈ (awaitF b (f + 1) st seq fut).1.objs, o ∈ known b.root (awaitF b (f + 1) st seq fut).2.1.log
    unfold awaitF
    cases htk : takeResult st seq with
    | some p => exact takeResult_ok hI htk
    | none =>
      simp only
      split
      · exact ⟨hI, Ext.refl _, fun _ ho => nomatch ho⟩
      · cases fut with
        | nil =>
          have h := Reach.note (c := b) (st' := expire st seq) hI (.expired seq) rfl rfl rfl rfl rfl
          exact ⟨h.1, h.2, fun _ ho => nomatch ho⟩
        | cons w rest =>
          have h := (Sat.dispatch ih w).reach hI rest
          simp only
          cases hd : dispatch w { b with await := awaitF b f } st rest with
          | mk r st' fut' =>
            rw [hd] at h
            cases r with
            | error x => exact ⟨h.1, h.2, fun _ ho => nomatch ho⟩
            | ok u =>
              obtain ⟨g1, g2, g3⟩ := ih st' seq fut' h.1
              exact ⟨g1, h.2.trans g2, g3⟩

theorem closeConn_ok (c : Ctx) (hA : AwaitOK c) (st : St) (hI : Inv c.cfg c.root st) : Reach c st (closeConn c st) := by
  unfold closeConn
  split
  · exact .refl hI
  · have h := Reach.note hI (.outReq st.nextSeq Gen.Handlers.handleClose (.tuple [.int Gen.Handlers.labelValue, .tuple []]))
      rfl rfl (st' := { st with nextSeq := st.nextSeq + 1, pending := st.pending ++ [(st.nextSeq, false)], log := _ })
      rfl rfl rfl
    exact h.trans ((Sat.cleanup hA).reach h.1 [])

theorem serveBurst_ok (b : Ctx) : ∀ f st ws, Inv b.cfg b.root st → Reach b st (serveBurst b f st ws) := by
  intro f st ws
  fun_induction serveBurst b f st ws <;> intro hI
  next => exact .refl hI
  next hclosed => exact .refl hI
  next => exact .refl hI
  next f st _ w rest x st' _ hd =>
    have hA : AwaitOK (b.tie f) := awaitF_ok b f
    have h := (Sat.dispatch hA w).reach hI rest
    rw [hd] at h
    have h2 := Reach.note (st' := { st' with log := st'.log ++ [.ended x.cls] }) h.1 _ rfl rfl rfl rfl rfl
    exact h.trans (h2.trans (closeConn_ok (b.tie f) hA _ h2.1))
  next f st _ w rest _ _ _ hd ih =>
    have h := (Sat.dispatch (c := b.tie f) (awaitF_ok b f) w).reach hI rest
    rw [hd] at h
    exact h.trans (ih h.1)

theorem run_ok (b : Ctx) (fuel : Nat) : ∀ bursts st, Inv b.cfg b.root st → Reach b st (run b fuel st bursts) := by
  intro bursts
  induction bursts with
  | nil => exact fun st hI => .refl hI
  | cons ws rest ih =>
    intro st hI
    have h := serveBurst_ok b fuel st ws hI
    exact h.trans (ih _ h.1)

end Rpyc.Handlers
