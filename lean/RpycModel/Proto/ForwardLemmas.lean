import RpycModel.Proto.Forward
import RpycModel.Proto.CallsLemmas
/-
Helper lemmas of the forwarding layer (C02): what `serve` does on each handler id, the pieces of the handlers, the
buffered-iteration loop, and the policy's decisions.
-/
namespace Rpyc.Forward
open Rpyc Rpyc.Calls

/-! ### `serve` on each handler id: the generated table routes the id to the method, which takes its arguments -/

section
variable {H : Type} (S : ObjSem H) (pol : Policy) (allowPickle : Bool)

@[simp] theorem serve_getattr (obj name : PyVal) :
    serve S pol allowPickle Gen.Netref.handleGetattr [obj, name] = hGetattr S pol obj name := by
  unfold serve
  rw [show Gen.Netref.handlerTable.lookup Gen.Netref.handleGetattr = some "_handle_getattr" from rfl]
  simp

@[simp] theorem serve_setattr (obj name value : PyVal) :
    serve S pol allowPickle Gen.Netref.handleSetattr [obj, name, value]
      = accessAttr pol .set obj name (fun n => S.apply (.setattr obj n value)) := by
  unfold serve
  rw [show Gen.Netref.handlerTable.lookup Gen.Netref.handleSetattr = some "_handle_setattr" from rfl]
  simp

@[simp] theorem serve_delattr (obj name : PyVal) :
    serve S pol allowPickle Gen.Netref.handleDelattr [obj, name]
      = accessAttr pol .del obj name (fun n => S.apply (.delattr obj n)) := by
  unfold serve
  rw [show Gen.Netref.handlerTable.lookup Gen.Netref.handleDelattr = some "_handle_delattr" from rfl]
  simp

@[simp] theorem serve_call (obj a kw : PyVal) :
    serve S pol allowPickle Gen.Netref.handleCall [obj, a, kw] = hCall S obj a kw := by
  unfold serve
  rw [show Gen.Netref.handlerTable.lookup Gen.Netref.handleCall = some "_handle_call" from rfl]
  simp

@[simp] theorem serve_callattr (obj name a kw : PyVal) :
    serve S pol allowPickle Gen.Netref.handleCallattr [obj, name, a, kw]
      = andThen (hGetattr S pol obj name) (fun f => hCall S f a kw) := by
  unfold serve
  rw [show Gen.Netref.handlerTable.lookup Gen.Netref.handleCallattr = some "_handle_callattr" from rfl]
  simp

@[simp] theorem serve_repr (obj : PyVal) :
    serve S pol allowPickle Gen.Netref.handleRepr [obj] = S.apply (.repr obj) := by
  unfold serve
  rw [show Gen.Netref.handlerTable.lookup Gen.Netref.handleRepr = some "_handle_repr" from rfl]
  simp

@[simp] theorem serve_str (obj : PyVal) :
    serve S pol allowPickle Gen.Netref.handleStr [obj] = S.apply (.str obj) := by
  unfold serve
  rw [show Gen.Netref.handlerTable.lookup Gen.Netref.handleStr = some "_handle_str" from rfl]
  simp

@[simp] theorem serve_hash (obj : PyVal) :
    serve S pol allowPickle Gen.Netref.handleHash [obj] = S.apply (.hash obj) := by
  unfold serve
  rw [show Gen.Netref.handlerTable.lookup Gen.Netref.handleHash = some "_handle_hash" from rfl]
  simp

@[simp] theorem serve_dir (obj : PyVal) :
    serve S pol allowPickle Gen.Netref.handleDir [obj] = S.apply (.dir obj) := by
  unfold serve
  rw [show Gen.Netref.handlerTable.lookup Gen.Netref.handleDir = some "_handle_dir" from rfl]
  simp

@[simp] theorem serve_cmp (obj other op : PyVal) :
    serve S pol allowPickle Gen.Netref.handleCmp [obj, other, op]
      = S.bind (.typeOf obj) (fun t => andThen (hGetattr S pol t op) (fun f => S.apply (.call f [obj, other] []))) := by
  unfold serve
  rw [show Gen.Netref.handlerTable.lookup Gen.Netref.handleCmp = some "_handle_cmp" from rfl]
  simp

@[simp] theorem serve_pickle (obj proto : PyVal) :
    serve S pol allowPickle Gen.Netref.handlePickle [obj, proto]
      = if allowPickle then S.apply (.pickle obj proto) else fun h => (.error ⟨nameOf "ValueError", []⟩, h) := by
  unfold serve
  rw [show Gen.Netref.handlerTable.lookup Gen.Netref.handlePickle = some "_handle_pickle" from rfl]
  simp

@[simp] theorem serve_buffiter (obj count : PyVal) :
    serve S pol allowPickle Gen.Netref.handleBuffiter [obj, count] = S.apply (.islice obj count) := by
  unfold serve
  rw [show Gen.Netref.handlerTable.lookup Gen.Netref.handleBuffiter = some "_handle_buffiter" from rfl]
  simp

@[simp] theorem serve_ctxexit (obj exc : PyVal) :
    serve S pol allowPickle Gen.Netref.handleCtxexit [obj, exc] = hCtxexit S pol obj exc := by
  unfold serve
  rw [show Gen.Netref.handlerTable.lookup Gen.Netref.handleCtxexit = some "_handle_ctxexit" from rfl]
  simp

@[simp] theorem serve_instancecheck (obj other : PyVal) :
    serve S pol allowPickle Gen.Netref.handleInstancecheck [obj, other] = S.apply (.instancecheck obj other) := by
  unfold serve
  rw [show Gen.Netref.handlerTable.lookup Gen.Netref.handleInstancecheck = some "_handle_instancecheck" from rfl]
  simp

end

theorem andThen_apply {H : Type} (S : ObjSem H) (p : PrimOp) (k : PyVal → H → Res × H) :
    andThen (S.apply p) k = S.bind p k := by
  funext h; simp [andThen, ObjSem.bind]

theorem hGetattr_ok {H : Type} (S : ObjSem H) (pol : Policy) (obj : PyVal) (n : Name)
    (h : pol .get obj n = .ok n) : hGetattr S pol obj (.imm (.str n)) = S.apply (.getattr obj n) := by
  funext x; simp [hGetattr, accessAttr, nameOfVal, h]

theorem hCall_ok {H : Type} (S : ObjSem H) (f : PyVal) (args : List PyVal) (kws : List (Name × PyVal))
    (h : (kws.map (·.1)).Nodup) : hCall S f (mkTup args) (kwTuple kws) = S.apply (.call f args kws) := by
  funext x; simp [hCall, itemsOf_mkTup, dictOf_kwTuple kws h]

/-- an operation that asks the policy about one name: the policy hypothesis of the forwarding theorems, from the
policy passing that name -/
theorem policy_passes {pol : Policy} {op : ProxyOp} {p : Perm} {name : Name} (h : policyNames op = [(p, name)])
    (hpol : ∀ obj, pol p obj name = .ok name) : ∀ perm obj n, (perm, n) ∈ policyNames op → pol perm obj n = .ok n := by
  intro perm obj n hm
  rw [h] at hm
  cases List.mem_singleton.1 hm
  exact hpol obj

theorem accessAttr_denied {H : Type} (pol : Policy) (perm : Perm) (obj : PyVal) (n : Name) (e : Exc)
    (k : Name → H → Res × H) (h : pol perm obj n = .error e) (x : H) :
    accessAttr pol perm obj (.imm (.str n)) k x = (.error e, x) := by
  simp [accessAttr, nameOfVal, h]

theorem fetch_le (count : Nat) (items : List PyVal) (t : Option Exc) (h : count ≤ items.length) :
    fetch count ⟨items, t⟩ = (.ok (items.take count), ⟨items.drop count, t⟩) := by
  simp [fetch, h]

theorem fetch_gt_none (count : Nat) (items : List PyVal) (h : ¬ count ≤ items.length) :
    fetch count ⟨items, none⟩ = (.ok items, ⟨[], none⟩) := by
  simp [fetch, h]

theorem fetch_gt_some (count : Nat) (items : List PyVal) (e : Exc) (h : ¬ count ≤ items.length) :
    fetch count ⟨items, some e⟩ = (.error e, ⟨[], none⟩) := by
  simp [fetch, h]

theorem next_count (count maxChunk factor : Nat) (hc : 1 ≤ count) (hm : 1 ≤ maxChunk) (hf : 1 ≤ factor) :
    1 ≤ min (count * factor) maxChunk := by
  have : 1 * 1 ≤ count * factor := Nat.mul_le_mul hc hf
  exact Nat.le_min.2 ⟨by simpa using this, hm⟩

theorem buffLoop_full (fuel count maxChunk factor : Nat) (items : List PyVal) (t : Option Exc) (acc : List PyVal)
    (hc : 1 ≤ count) (hle : count ≤ items.length) :
    buffLoop (fuel + 1) count maxChunk factor ⟨items, t⟩ acc
      = buffLoop fuel (min (count * factor) maxChunk) maxChunk factor ⟨items.drop count, t⟩ (acc ++ items.take count) := by
  cases htk : items.take count with
  | nil =>
    have : (items.take count).length = count := by simp [List.length_take]; omega
    rw [htk] at this; simp at this; omega
  | cons x xs => rw [buffLoop, fetch_le count items t hle, htk]

theorem buffLoop_all (maxChunk factor : Nat) (hm : 1 ≤ maxChunk) (hf : 1 ≤ factor) :
    ∀ (fuel : Nat) (items : List PyVal) (count : Nat) (acc : List PyVal), 1 ≤ count → items.length + 2 ≤ fuel →
      buffLoop fuel count maxChunk factor ⟨items, none⟩ acc = (acc ++ items, none) := by
  intro fuel
  induction fuel with
  | zero => intro items count acc _ h; omega
  | succ f ih =>
    intro items count acc hc hfuel
    have hn := next_count count maxChunk factor hc hm hf
    by_cases hle : count ≤ items.length
    · rw [buffLoop_full f count maxChunk factor items none acc hc hle,
        ih _ _ _ hn (by simp only [List.length_drop]; omega), List.append_assoc, List.take_append_drop]
    · -- the rest, then an empty chunk
      cases items with
      | nil => simp [buffLoop, fetch_gt_none count [] hle]
      | cons x xs =>
        rw [buffLoop, fetch_gt_none count (x :: xs) hle]
        simpa using ih [] _ (acc ++ x :: xs) hn (by simp at hfuel ⊢; omega)

/-- a raising iterator: the same exception ends the iteration; the items delivered before it are a prefix of what
plain iteration delivers, and what is missing is less than one chunk (the items of the chunk in which it struck) -/
theorem buffLoop_raising (maxChunk factor : Nat) (hm : 1 ≤ maxChunk) (hf : 1 ≤ factor) (e : Exc) :
    ∀ (fuel : Nat) (items : List PyVal) (count : Nat) (acc : List PyVal), 1 ≤ count → items.length + 2 ≤ fuel →
      ∃ k, buffLoop fuel count maxChunk factor ⟨items, some e⟩ acc = (acc ++ items.take k, some e)
        ∧ k ≤ items.length ∧ items.length - k < max count maxChunk := by
  intro fuel
  induction fuel with
  | zero => intro items count acc _ h; omega
  | succ f ih =>
    intro items count acc hc hfuel
    by_cases hle : count ≤ items.length
    · have hdl : (items.drop count).length = items.length - count := List.length_drop
      obtain ⟨k, hk, hk1, hk2⟩ := ih (items.drop count) _ (acc ++ items.take count)
        (next_count count maxChunk factor hc hm hf) (by omega)
      -- every later chunk is at most `maxChunk`
      rw [Nat.max_eq_right (Nat.min_le_right ..), hdl] at hk2
      refine ⟨count + k, ?_, by omega, Nat.lt_of_lt_of_le (by omega) (Nat.le_max_right ..)⟩
      rw [buffLoop_full f count maxChunk factor items (some e) acc hc hle, hk, List.take_add, List.append_assoc]
    · exact ⟨0, by simp [buffLoop, fetch_gt_some count items e hle], by omega, by omega⟩

theorem prefix_nonempty : (nameOf Gen.Netref.defaultExposedPrefix).isEmpty = false := by decide

theorem checkAttr_plain (c : Config) (has : Name → Bool) (perm : Perm) (name : Name)
    (hperm : c.perm perm = true) (hplain : c.plain name = true)
    (hhas : has name = true ∨ has (c.exposedPrefix ++ name) = false) : checkAttr c has perm name = .ok name := by
  unfold checkAttr
  rcases hhas with h | h <;> simp [hperm, hplain, h]

theorem checkAttr_plain_noprefix (c : Config) (has : Name → Bool) (perm : Perm) (name : Name)
    (hperm : c.perm perm = true) (hplain : c.plain name = true) (hoff : c.prefixOn = false) :
    checkAttr c has perm name = .ok name := by
  simp [checkAttr, hperm, hplain, hoff]

theorem checkAttr_noperm (c : Config) (has : Name → Bool) (perm : Perm) (name : Name)
    (hperm : c.perm perm = false) : checkAttr c has perm name = .error attributeError := by
  simp [checkAttr, hperm]

theorem checkAttr_notwin (c : Config) (has : Name → Bool) (perm : Perm) (name : Name)
    (h : has (c.exposedPrefix ++ name) = false) :
    checkAttr c has perm name = if c.perm perm && c.plain name then .ok name else .error attributeError := by
  unfold checkAttr
  cases c.perm perm <;> cases c.plain name <;> simp [h]

end Rpyc.Forward
