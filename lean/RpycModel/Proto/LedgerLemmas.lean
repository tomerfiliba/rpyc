import RpycModel.Proto.Ledger
/-
The counting functions of the ledger machine and its invariant.

`Dir x rq rs w` is everything that is true of the requests travelling from side `x` (state `rq`, the
requester) to its peer (state `rs`, the responder) and of the responses travelling back; the invariant of a
state is `Dir` in both directions.
-/
namespace Rpyc.Proto.Ledger

def isReq (r : Nat) : Msg → Bool
  | .req s => s == r
  | .resp _ _ _ => false

def isResp (r : Nat) : Msg → Bool
  | .req _ => false
  | .resp _ s _ => s == r

def isHand (r : Nat) : Frame → Bool
  | .handling s => s == r
  | .waiting _ => false

def nReq (r : Nat) (l : List Msg) : Nat := l.countP (isReq r)
def nResp (r : Nat) (l : List Msg) : Nat := l.countP (isResp r)
def nHand (r : Nat) (l : List Frame) : Nat := l.countP (isHand r)
def nKey {α : Type} (r : Nat) (l : List (Nat × α)) : Nat := l.countP (fun e => e.1 == r)
def nSeq (r : Nat) (l : List Nat) : Nat := l.countP (fun s => s == r)

def reqOf (x : Side) (e : Side × Msg) : Option Nat :=
  if e.1 = x then (match e.2 with
    | .req r => some r
    | .resp _ _ _ => none) else none

/-- response frames bearing `r` that the wire attributes to side `x`: those `x` wrote, and the hand-built ones
written towards `x.peer` (`.inject` tags them with the side they pretend to come from) -/
def nWireResp (x : Side) (r : Nat) (w : Wire) : Nat := w.countP (fun e => e.1 == x && isResp r e.2)

@[simp] theorem Side.peer_peer (x : Side) : x.peer.peer = x := by cases x <;> rfl
@[simp] theorem Side.peer_ne (x : Side) : x.peer ≠ x := by cases x <;> decide
@[simp] theorem Side.ne_peer (x : Side) : x ≠ x.peer := by cases x <;> decide
@[simp] theorem Side.peer_beq (x : Side) : (x.peer == x) = false := by cases x <;> rfl
@[simp] theorem Side.beq_peer (x : Side) : (x == x.peer) = false := by cases x <;> rfl

@[simp] theorem nReq_nil (r : Nat) : nReq r [] = 0 := rfl
@[simp] theorem nResp_nil (r : Nat) : nResp r [] = 0 := rfl
@[simp] theorem nHand_nil (r : Nat) : nHand r [] = 0 := rfl
@[simp] theorem nKey_nil {α : Type} (r : Nat) : nKey r ([] : List (Nat × α)) = 0 := rfl
@[simp] theorem nSeq_nil (r : Nat) : nSeq r [] = 0 := rfl
@[simp] theorem nWireResp_nil (x : Side) (r : Nat) : nWireResp x r [] = 0 := rfl

@[simp] theorem nReq_append (r : Nat) (l m : List Msg) : nReq r (l ++ m) = nReq r l + nReq r m := by
  simp [nReq]
@[simp] theorem nResp_append (r : Nat) (l m : List Msg) : nResp r (l ++ m) = nResp r l + nResp r m := by
  simp [nResp]
@[simp] theorem nHand_append (r : Nat) (l m : List Frame) : nHand r (l ++ m) = nHand r l + nHand r m := by
  simp [nHand]
@[simp] theorem nKey_append {α : Type} (r : Nat) (l m : List (Nat × α)) : nKey r (l ++ m) = nKey r l + nKey r m := by
  simp [nKey]
@[simp] theorem nSeq_append (r : Nat) (l m : List Nat) : nSeq r (l ++ m) = nSeq r l + nSeq r m := by
  simp [nSeq]
@[simp] theorem nWireResp_append (x : Side) (r : Nat) (l m : Wire) :
    nWireResp x r (l ++ m) = nWireResp x r l + nWireResp x r m := by
  simp [nWireResp]

@[simp] theorem nReq_cons_req (r s : Nat) (l : List Msg) :
    nReq r (.req s :: l) = nReq r l + (if s = r then 1 else 0) := by
  simp [nReq, List.countP_cons, isReq]
@[simp] theorem nReq_cons_resp (r s v : Nat) (k : RKind) (l : List Msg) : nReq r (.resp k s v :: l) = nReq r l := by
  simp [nReq, isReq]
@[simp] theorem nResp_cons_req (r s : Nat) (l : List Msg) : nResp r (.req s :: l) = nResp r l := by
  simp [nResp, isResp]
@[simp] theorem nResp_cons_resp (r s v : Nat) (k : RKind) (l : List Msg) :
    nResp r (.resp k s v :: l) = nResp r l + (if s = r then 1 else 0) := by
  simp [nResp, List.countP_cons, isResp]
@[simp] theorem nHand_cons_handling (r s : Nat) (l : List Frame) :
    nHand r (.handling s :: l) = nHand r l + (if s = r then 1 else 0) := by
  simp [nHand, List.countP_cons, isHand]
@[simp] theorem nHand_cons_waiting (r s : Nat) (l : List Frame) : nHand r (.waiting s :: l) = nHand r l := by
  simp [nHand, isHand]
@[simp] theorem nKey_cons {α : Type} (r s : Nat) (a : α) (l : List (Nat × α)) :
    nKey r ((s, a) :: l) = nKey r l + (if s = r then 1 else 0) := by
  simp [nKey, List.countP_cons]
@[simp] theorem nSeq_cons (r s : Nat) (l : List Nat) : nSeq r (s :: l) = nSeq r l + (if s = r then 1 else 0) := by
  simp [nSeq, List.countP_cons]
@[simp] theorem nWireResp_cons (x y : Side) (r : Nat) (m : Msg) (l : Wire) :
    nWireResp x r ((y, m) :: l) = nWireResp x r l + (if y = x ∧ isResp r m = true then 1 else 0) := by
  simp [nWireResp, List.countP_cons]

@[simp] theorem isResp_req (r s : Nat) : isResp r (.req s) = false := rfl
@[simp] theorem isResp_resp (r s v : Nat) (k : RKind) : isResp r (.resp k s v) = (s == r) := rfl

@[simp] theorem reqOf_self_req (x : Side) (r : Nat) : reqOf x (x, .req r) = some r := by simp [reqOf]
@[simp] theorem reqOf_resp (x y : Side) (k : RKind) (s v : Nat) : reqOf x (y, .resp k s v) = none := by
  simp [reqOf]
@[simp] theorem reqOf_peer_req (x : Side) (r : Nat) : reqOf x.peer (x, .req r) = none := by simp [reqOf]

theorem nSeq_pos_iff (r : Nat) (l : List Nat) : 0 < nSeq r l ↔ r ∈ l := by
  simp [nSeq, List.countP_pos_iff]

theorem nSeq_eq_zero (r : Nat) (l : List Nat) (h : r ∉ l) : nSeq r l = 0 :=
  Nat.eq_zero_of_not_pos (mt (nSeq_pos_iff r l).mp h)

theorem nKey_pos_of_mem {α : Type} (s : Nat) (a : α) (l : List (Nat × α)) (h : (s, a) ∈ l) : 0 < nKey s l := by
  simp only [nKey, List.countP_pos_iff]
  exact ⟨(s, a), h, by simp⟩

theorem nResp_pos_of_mem (k : RKind) (s v : Nat) (l : List Msg) (h : Msg.resp k s v ∈ l) : 0 < nResp s l := by
  simp only [nResp, List.countP_pos_iff]
  exact ⟨_, h, by simp⟩

theorem nHand_pos_of_mem (r : Nat) (l : List Frame) (h : Frame.handling r ∈ l) : 0 < nHand r l := by
  simp only [nHand, List.countP_pos_iff]
  exact ⟨_, h, by simp [isHand]⟩

theorem nReq_pos_of_mem (r : Nat) (l : List Msg) (h : Msg.req r ∈ l) : 0 < nReq r l := by
  simp only [nReq, List.countP_pos_iff]
  exact ⟨_, h, by simp [isReq]⟩

theorem registered_iff (cb : List (Nat × Kind)) (s : Nat) : registered cb s = true ↔ 0 < nKey s cb := by
  simp [registered, nKey, List.countP_pos_iff]

theorem not_registered_iff (cb : List (Nat × Kind)) (s : Nat) : registered cb s = false ↔ nKey s cb = 0 := by
  rw [← Bool.not_eq_true, registered_iff]
  exact Nat.not_lt.trans Nat.le_zero

@[simp] theorem nKey_register (r s : Nat) (k : Kind) (cb : List (Nat × Kind)) :
    nKey r (register s k cb) = nKey r cb + (if s = r then 1 else 0) := by
  simp [register]

theorem nKey_unregister (r s : Nat) (cb : List (Nat × Kind)) :
    nKey r (unregister s cb) = if s = r then 0 else nKey r cb := by
  simp only [nKey, unregister, List.countP_filter]
  split
  · subst s
    exact List.countP_eq_zero.mpr fun e _ => by simp
  · -- an entry keyed `r` is not keyed `s`, so the filter keeps it
    rename_i h
    refine List.countP_congr fun e _ => ?_
    simp only [Bool.and_eq_true, Bool.not_eq_true', beq_iff_eq, beq_eq_false_iff_ne, and_iff_left_iff_imp]
    rintro rfl
    exact Ne.symm h

theorem registered_unregister (s : Nat) (cb : List (Nat × Kind)) : registered (unregister s cb) s = false :=
  (not_registered_iff _ _).mpr (by rw [nKey_unregister, if_pos rfl])

/-- the send-failure path of `_async_request` -/
theorem unregister_register_fresh (s : Nat) (k : Kind) (cb : List (Nat × Kind)) (h : nKey s cb = 0) :
    unregister s (register s k cb) = cb := by
  simp only [nKey, List.countP_eq_zero] at h
  simp only [unregister, register, List.filter_append, List.filter_cons, beq_self_eq_true, Bool.not_true,
    Bool.false_eq_true, if_false, List.filter_nil, List.append_nil]
  apply List.filter_eq_self.mpr
  intro e he
  have := h e he
  simpa using this

theorem nHand_unwind (r : Nat) (cb : List (Nat × Kind)) (st : List Frame) : nHand r (unwind cb st) = nHand r st := by
  fun_induction unwind cb st
  next => rfl
  -- a waiting frame that is dropped is not a handling frame
  next ih => simpa using ih
  next => rfl

theorem nSeq_filterMap_handlingSeq (r : Nat) (st : List Frame) : nSeq r (st.filterMap handlingSeq) = nHand r st := by
  induction st with
  | nil => rfl
  | cons f st ih =>
    cases f with
    | handling s => simp [handlingSeq, ih]
    | waiting s => simp [List.filterMap_cons, handlingSeq, ih]

structure Dir (x : Side) (rq rs : SideSt) (w : Wire) : Prop where
  /-- the counting invariant: an issued request is in exactly one place -/
  count : ∀ r, nSeq r rq.issued = nReq r rs.inbox + nHand r rs.stack + nKey r rs.answered + nSeq r rs.abandoned
  /-- at the requester: still registered, or given exactly one outcome -/
  waiter : ∀ r, nSeq r rq.issued = nKey r rq.callbacks + nKey r rq.results
  below : ∀ r, r ∈ rq.issued → r < rq.seq
  sorted : rq.issued.Pairwise (· < ·)
  /-- no number is issued twice (a consequence of `sorted`; a clause of its own because the counting arguments use it in this form) -/
  once : ∀ r, nSeq r rq.issued ≤ 1
  wireReq : w.filterMap (reqOf x) = rq.issued
  /-- every response produced or injected is in the requester's inbox, or was delivered, or was dropped -/
  flow : ∀ r, nKey r rs.answered + nKey r rq.injected = nResp r rq.inbox + nKey r rq.results + nSeq r rq.dropped
  /-- `flow` by content and not only by number: what is delivered or in the inbox carries the kind and value the responder
  gave it, or is a hand-built frame -/
  provRes : ∀ e, e ∈ rq.results → e ∈ rs.answered ∨ e ∈ rq.injected
  provInbox : ∀ k s v, Msg.resp k s v ∈ rq.inbox → (s, k, v) ∈ rs.answered ∨ (s, k, v) ∈ rq.injected
  wireResp : ∀ r, nWireResp x.peer r w = nKey r rs.answered + nKey r rq.injected
  exec : ∀ r, nSeq r rs.executed ≤ nKey r rs.answered + nSeq r rs.abandoned
  /-- without hand-built frames no response is ever dropped: each finds its waiter (the argument is in `dir_drop`) -/
  honest : rq.injected = [] → rq.dropped = []

structure Inv (s : St) : Prop where
  ab : Dir .A s.a s.b s.wire
  ba : Dir .B s.b s.a s.wire

theorem dir_init (x : Side) (sa sb : Nat) : Dir x (.init sa) (.init sb) [] := by
  constructor <;> simp [SideSt.init]

theorem inv_init (sa sb : Nat) : Inv (St.init sa sb) := ⟨dir_init _ _ _, dir_init _ _ _⟩

theorem Dir.fresh {x : Side} {rq rs : SideSt} {w : Wire} (h : Dir x rq rs w) : nSeq rq.seq rq.issued = 0 :=
  nSeq_eq_zero _ _ fun hm => Nat.lt_irrefl _ (h.below _ hm)

theorem Dir.fresh_callbacks {x : Side} {rq rs : SideSt} {w : Wire} (h : Dir x rq rs w) :
    nKey rq.seq rq.callbacks = 0 := by
  have := h.waiter rq.seq
  have := h.fresh
  omega

end Rpyc.Proto.Ledger
