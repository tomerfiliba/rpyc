import RpycModel.Box.Lemmas
/-
C03 below the property theorems: what it is for a value to arrive (`Arrives`); `_unbox` as a fold of `unboxRef` over the
by-reference keys (`recvRefs`), which keeps proxy identity (`PxInv`, `Keeps`); one-pass = two-pass on success; labels
survive the wire (`parse_toVal`); the invariant of whole conversations (`ConvInv`).
A name ending in `1` is about the one-pass walk (`unboxOnePass`, `unboxOnePassL`); `unbox_state`, `unbox_counts` and
`unbox_keeps`, without the `1`, say the same of the two-pass `unbox`.
-/
namespace Rpyc.Box
open Rpyc

mutual
/-- keys of the peer's objects that the value refers to through proxies of this connection -/
def PyVal.proxies : PyVal → List Id
  | .proxy id _ => [id]
  | .tup xs => PyVal.proxiesL xs
  | _ => []
def PyVal.proxiesL : List PyVal → List Id
  | [] => []
  | x :: xs => x.proxies ++ PyVal.proxiesL xs
end

mutual
/-- `Arrives x y`: the sender's value `x` is received as `y` — an equal value of the same type tree for plain
values, a proxy of the same key for an object (subclass instances included), the original object for a proxy
handed back, component by component for tuples -/
inductive Arrives : PyVal → PyVal → Prop where
  | val (x : PyVal) : x.dumpable = true → Arrives x (.imm x.toVal)
  | tup (xs ys : List PyVal) : ArrivesL xs ys → Arrives (.tup xs) (.tup ys)
  | obj (id : Id) (pid : Nat) : Arrives (.obj id) (.proxy id pid)
  | sub (v : Val) (id : Id) (pid : Nat) : Arrives (.sub v id) (.proxy id pid)
  | back (id : Id) (pid : Nat) : Arrives (.proxy id pid) (.obj id)
inductive ArrivesL : List PyVal → List PyVal → Prop where
  | nil : ArrivesL [] []
  | cons (x y : PyVal) (xs ys : List PyVal) : Arrives x y → ArrivesL xs ys → ArrivesL (x :: xs) (y :: ys)
end

/-! ### what success of each walk means, one step at a time

`box`, `unboxOnePass`, `resolve`, `create` and their list versions thread a state through `Except`; the inductions
below only ever need to know what a successful step consisted of. -/

section steps
variable {t t' : Tbl} {s s' : Side} {x y : PyVal} {xs ys : List PyVal} {l : Label} {ls : List Label}
  {r : RLabel} {rs : List RLabel}

theorem box_imm_ok {v : Val} (h : box t (.imm v) = .ok (l, t')) : Rpyc.dumpable v = true ∧ l = .value v ∧ t' = t := by
  rw [box] at h
  split at h
  · cases h; exact ⟨‹_›, rfl, rfl⟩
  · cases h

theorem box_tup_ok (h : box t (.tup xs) = .ok (l, t')) :
    (PyVal.dumpableL xs = true ∧ l = .value (.tuple (PyVal.toValL xs)) ∧ t' = t)
    ∨ (PyVal.dumpableL xs = false ∧ ∃ ls, boxL t xs = .ok (ls, t') ∧ l = .tuple ls) := by
  rw [box] at h
  split at h
  · cases h; exact .inl ⟨‹_›, rfl, rfl⟩
  · split at h
    · cases h
    · cases h; exact .inr ⟨Bool.eq_false_iff.mpr ‹_›, _, ‹_›, rfl⟩

theorem boxL_cons_ok (h : boxL t (x :: xs) = .ok (ls, t')) :
    ∃ l t1 ls', box t x = .ok (l, t1) ∧ boxL t1 xs = .ok (ls', t') ∧ ls = l :: ls' := by
  rw [boxL] at h
  split at h
  · cases h
  · split at h
    · cases h
    · cases h; exact ⟨_, _, _, ‹_›, ‹_›, rfl⟩

theorem unboxOnePass_tuple_ok (h : unboxOnePass s (.tuple ls) = .ok (y, s')) :
    ∃ ys, unboxOnePassL s ls = .ok (ys, s') ∧ y = .tup ys := by
  rw [unboxOnePass] at h
  split at h
  · cases h
  · cases h; exact ⟨_, ‹_›, rfl⟩

theorem unboxOnePass_localRef_ok {id : Id} (h : unboxOnePass s (.localRef id) = .ok (y, s')) :
    (∃ n, s.tbl id = some n) ∧ y = .obj id ∧ s' = s := by
  rw [unboxOnePass] at h
  split at h
  · cases h
  · cases h; exact ⟨⟨_, ‹_›⟩, rfl, rfl⟩

theorem unboxOnePassL_cons_ok (h : unboxOnePassL s (l :: ls) = .ok (ys, s')) :
    ∃ y s1 ys', unboxOnePass s l = .ok (y, s1) ∧ unboxOnePassL s1 ls = .ok (ys', s') ∧ ys = y :: ys' := by
  rw [unboxOnePassL] at h
  split at h
  · cases h
  · split at h
    · cases h
    · cases h; exact ⟨_, _, _, ‹_›, ‹_›, rfl⟩

theorem resolve_tuple_ok (h : resolve t (.tuple ls) = .ok r) : ∃ rs, resolveL t ls = .ok rs ∧ r = .tuple rs := by
  rw [resolve] at h
  split at h
  · cases h
  · cases h; exact ⟨_, ‹_›, rfl⟩

theorem resolve_localRef_ok {id : Id} (h : resolve t (.localRef id) = .ok r) : (∃ n, t id = some n) ∧ r = .resolved id := by
  rw [resolve] at h
  split at h
  · cases h
  · cases h; exact ⟨⟨_, ‹_›⟩, rfl⟩

theorem resolveL_cons_ok (h : resolveL t (l :: ls) = .ok rs) :
    ∃ r rs', resolve t l = .ok r ∧ resolveL t ls = .ok rs' ∧ rs = r :: rs' := by
  rw [resolveL] at h
  split at h
  · cases h
  · split at h
    · cases h
    · cases h; exact ⟨_, _, ‹_›, ‹_›, rfl⟩

theorem create_tuple_ok (h : create s (.tuple rs) = .ok (y, s')) : ∃ ys, createL s rs = .ok (ys, s') ∧ y = .tup ys := by
  rw [create] at h
  split at h
  · cases h
  · cases h; exact ⟨_, ‹_›, rfl⟩

theorem createL_cons_ok (h : createL s (r :: rs) = .ok (ys, s')) :
    ∃ y s1 ys', create s r = .ok (y, s1) ∧ createL s1 rs = .ok (ys', s') ∧ ys = y :: ys' := by
  rw [createL] at h
  split at h
  · cases h
  · split at h
    · cases h
    · cases h; exact ⟨_, _, _, ‹_›, ‹_›, rfl⟩

end steps

theorem unboxRef_hit {s : Side} {id : Id} (h : s.px id ≠ none) :
    unboxRef s id = (.proxy id (s.pid id), { s with px := s.px.recv id }) := by
  cases hp : s.px id with
  | none => exact absurd hp h
  | some c => simp [unboxRef, hp]

theorem unboxRef_miss {s : Side} {id : Id} (h : s.px id = none) :
    unboxRef s id = (.proxy id s.next,
      { s with px := s.px.recv id, pid := fun j => if j = id then s.next else s.pid j, next := s.next + 1 }) := by
  simp [unboxRef, h]

theorem unboxRef_tbl (s : Side) (id : Id) : (unboxRef s id).2.tbl = s.tbl := by
  unfold unboxRef; cases s.px id <;> rfl

theorem unboxRef_px (s : Side) (id : Id) : (unboxRef s id).2.px = s.px.recv id := by
  unfold unboxRef; cases s.px id <;> rfl

theorem unboxRef_fst (s : Side) (id : Id) : (unboxRef s id).1 = .proxy id ((unboxRef s id).2.pid id) := by
  unfold unboxRef; cases s.px id <;> simp

theorem recv_live (p : Tbl) (id k : Id) : (p.recv id) k ≠ none ↔ (k = id ∨ p k ≠ none) := by
  by_cases e : k = id
  · subst e; simp [Tbl.recv]; cases p k <;> simp [hit]
  · simp [Tbl.recv, Tbl.set_other _ _ e, e]

theorem unboxRef_again (s : Side) (id : Id) : (unboxRef (unboxRef s id).2 id).1 = (unboxRef s id).1 := by
  have live : (unboxRef s id).2.px id ≠ none := by rw [unboxRef_px]; exact (recv_live s.px id id).mpr (.inl rfl)
  rw [unboxRef_hit live]
  exact (unboxRef_fst s id).symm

/-- the cache is consulted again once the class is known: the nested dispatch and the outer `_unbox` end up with the
same proxy object, and it counts both receptions -/
theorem unboxRefAcrossInspect_recheck (s : Side) (id : Id) (h : s.px id = none) :
    (unboxRefAcrossInspect true s id).1 = (unboxRefAcrossInspect true s id).2.1
    ∧ (unboxRefAcrossInspect true s id).2.2.px id = some 2 := by
  simp only [unboxRefAcrossInspect, if_true]
  exact ⟨(unboxRef_again s id).symm, by rw [unboxRef_px, unboxRef_px]; simp [Tbl.recv, h, hit]⟩

mutual
/-- the second hypothesis, that the objects behind the value's proxies are still in the peer's table, is what the C10
property `alive_while_held` (Props/C10.lean) provides -/
theorem unbox_box_aux1 : ∀ (x : PyVal) (t t' : Tbl) (l : Label) (s : Side),
    box t x = .ok (l, t') → (∀ id ∈ x.proxies, s.tbl id ≠ none) →
    ∃ y s', unboxOnePass s l = .ok (y, s') ∧ Arrives x y ∧ s'.tbl = s.tbl
  | .imm v => fun t t' l s hb _ => by
    obtain ⟨hd, rfl, rfl⟩ := box_imm_ok hb
    exact ⟨.imm v, s, rfl, Arrives.val (.imm v) hd, rfl⟩
  | .tup xs => fun t t' l s hb hres => by
    rcases box_tup_ok hb with ⟨hd, rfl, rfl⟩ | ⟨_, ls, hl, rfl⟩
    · exact ⟨_, s, rfl, Arrives.val (.tup xs) hd, rfl⟩
    · obtain ⟨ys, s', hu, ha, ht⟩ := unboxL_boxL_aux1 xs t t' ls s hl hres
      exact ⟨.tup ys, s', by simp only [unboxOnePass, hu], Arrives.tup xs ys ha, ht⟩
  | .obj id => fun t t' l s hb _ => by
    cases hb
    exact ⟨_, _, rfl, unboxRef_fst s id ▸ Arrives.obj id _, unboxRef_tbl s id⟩
  | .sub v id => fun t t' l s hb _ => by
    cases hb
    exact ⟨_, _, rfl, unboxRef_fst s id ▸ Arrives.sub v id _, unboxRef_tbl s id⟩
  | .proxy id pid => fun t t' l s hb hres => by
    cases hb
    cases ht : s.tbl id with
    | none => exact absurd ht (hres id (List.mem_singleton_self id))
    | some n => exact ⟨.obj id, s, by simp only [unboxOnePass, ht], Arrives.back id pid, rfl⟩
theorem unboxL_boxL_aux1 : ∀ (xs : List PyVal) (t t' : Tbl) (ls : List Label) (s : Side),
    boxL t xs = .ok (ls, t') → (∀ id ∈ PyVal.proxiesL xs, s.tbl id ≠ none) →
    ∃ ys s', unboxOnePassL s ls = .ok (ys, s') ∧ ArrivesL xs ys ∧ s'.tbl = s.tbl
  | [] => fun t t' ls s hb _ => by
    cases hb
    exact ⟨[], s, rfl, ArrivesL.nil, rfl⟩
  | x :: xs => fun t t' ls s hb hres => by
    obtain ⟨l, t1, ls', hx, hxs, rfl⟩ := boxL_cons_ok hb
    obtain ⟨y, s1, hu, ha, ht⟩ := unbox_box_aux1 x t t1 l s hx
      (fun id hid => hres id (List.mem_append_left _ hid))
    obtain ⟨ys, s2, hul, hal, htl⟩ := unboxL_boxL_aux1 xs t1 t' ls' s1 hxs
      (fun id hid => by rw [ht]; exact hres id (List.mem_append_right _ hid))
    exact ⟨y :: ys, s2, by simp only [unboxOnePassL, hu, hul], ArrivesL.cons x y xs ys ha hal, by rw [htl, ht]⟩
end

theorem addAll_append (t : Tbl) (a b : List Id) : addAll t (a ++ b) = addAll (addAll t a) b := by
  simp [addAll, List.foldl_append]

mutual
theorem box_adds : ∀ (x : PyVal) (t t' : Tbl) (l : Label), box t x = .ok (l, t') → t' = addAll t l.remoteRefs
  | .imm v => fun t t' l hb => by obtain ⟨_, rfl, rfl⟩ := box_imm_ok hb; rfl
  | .tup xs => fun t t' l hb => by
    rcases box_tup_ok hb with ⟨_, rfl, rfl⟩ | ⟨_, ls, hl, rfl⟩
    · rfl
    · exact boxL_adds xs t t' ls hl
  | .obj id => fun t t' l hb => by cases hb; rfl
  | .sub v id => fun t t' l hb => by cases hb; rfl
  | .proxy id pid => fun t t' l hb => by cases hb; rfl
theorem boxL_adds : ∀ (xs : List PyVal) (t t' : Tbl) (ls : List Label), boxL t xs = .ok (ls, t') →
    t' = addAll t (Label.remoteRefsL ls)
  | [] => fun t t' ls hb => by cases hb; rfl
  | x :: xs => fun t t' ls hb => by
    obtain ⟨l, t1, ls', hx, hxs, rfl⟩ := boxL_cons_ok hb
    rw [Label.remoteRefsL, addAll_append, ← box_adds x t t1 l hx]
    exact boxL_adds xs t1 t' ls' hxs
end

/-- the receiver's state after the `REMOTE_REF`s `ks` were unboxed, in order -/
def recvRefs (s : Side) (ks : List Id) : Side := ks.foldl (fun s id => (unboxRef s id).2) s

theorem recvRefs_cons (s : Side) (id : Id) (ks : List Id) : recvRefs s (id :: ks) = recvRefs (unboxRef s id).2 ks := rfl

theorem recvRefs_append (s : Side) (a b : List Id) : recvRefs s (a ++ b) = recvRefs (recvRefs s a) b :=
  List.foldl_append

theorem recvRefs_counts (ks : List Id) (s : Side) : (recvRefs s ks).px = recvAll s.px ks ∧ (recvRefs s ks).tbl = s.tbl := by
  induction ks generalizing s with
  | nil => exact ⟨rfl, rfl⟩
  | cons id ks ih =>
    rw [recvRefs_cons, (ih _).1, (ih _).2, unboxRef_px, unboxRef_tbl]
    exact ⟨rfl, rfl⟩

mutual
theorem unbox_state1 : ∀ (l : Label) (s s' : Side) (y : PyVal), unboxOnePass s l = .ok (y, s') → s' = recvRefs s l.remoteRefs
  | .value v => fun s s' y hu => by cases hu; rfl
  | .tuple ls => fun s s' y hu => by
    obtain ⟨ys, hl, _⟩ := unboxOnePass_tuple_ok hu
    exact unboxL_state1 ls s s' ys hl
  | .localRef id => fun s s' y hu => by obtain ⟨_, _, rfl⟩ := unboxOnePass_localRef_ok hu; rfl
  | .remoteRef id => fun s s' y hu => (congrArg Prod.snd (Except.ok.inj hu)).symm
  | .other tag => fun s s' y hu => by cases hu
theorem unboxL_state1 : ∀ (ls : List Label) (s s' : Side) (ys : List PyVal), unboxOnePassL s ls = .ok (ys, s') →
    s' = recvRefs s (Label.remoteRefsL ls)
  | [] => fun s s' ys hu => by cases hu; rfl
  | l :: ls => fun s s' ys hu => by
    obtain ⟨y, s1, ys', hy, hys, _⟩ := unboxOnePassL_cons_ok hu
    rw [Label.remoteRefsL, recvRefs_append, ← unbox_state1 l s s1 y hy]
    exact unboxL_state1 ls s1 s' ys' hys
end

theorem unboxL_counts1 : ∀ (ls : List Label) (s s' : Side) (ys : List PyVal), unboxOnePassL s ls = .ok (ys, s') →
    s'.px = recvAll s.px (Label.remoteRefsL ls) ∧ s'.tbl = s.tbl := by
  intro ls s s' ys hu
  rw [unboxL_state1 ls s s' ys hu]
  exact recvRefs_counts _ s

/-- live proxies have serial numbers below `next`, and distinct keys have distinct live proxies -/
structure PxInv (s : Side) : Prop where
  below : ∀ k, s.px k ≠ none → s.pid k < s.next
  distinct : ∀ j k, s.px j ≠ none → s.px k ≠ none → s.pid j = s.pid k → j = k

theorem pxInv_init : PxInv Side.init := ⟨by intro k h; simp [Side.init, Tbl.empty] at h, by intro j k h; simp [Side.init, Tbl.empty] at h⟩

theorem PxInv.mono {s s' : Side} (h : PxInv s) (hl : ∀ k, s'.px k ≠ none → s.px k ≠ none) (hp : s'.pid = s.pid)
    (hn : s'.next = s.next) : PxInv s' :=
  ⟨fun k hk => by rw [hp, hn]; exact h.below k (hl k hk),
   fun j k hj hk e => h.distinct j k (hl j hj) (hl k hk) (by rw [← hp]; exact e)⟩

/-- from `s` to `s'` proxy identity is kept: `PxInv` still holds, no serial number is reused, and every live proxy
stays alive and the same object -/
def Keeps (s s' : Side) : Prop :=
  PxInv s → PxInv s' ∧ s.next ≤ s'.next ∧ (∀ k, s.px k ≠ none → s'.pid k = s.pid k ∧ s'.px k ≠ none)

theorem Keeps.refl (s : Side) : Keeps s s := fun h => ⟨h, Nat.le_refl _, fun _ hk => ⟨rfl, hk⟩⟩

theorem Keeps.trans {s s1 s2 : Side} (a : Keeps s s1) (b : Keeps s1 s2) : Keeps s s2 := fun h =>
  let ⟨h1, n1, k1⟩ := a h
  let ⟨h2, n2, k2⟩ := b h1
  ⟨h2, Nat.le_trans n1 n2, fun k hk => ⟨(k2 k (k1 k hk).2).1.trans (k1 k hk).1, (k2 k (k1 k hk).2).2⟩⟩

theorem unboxRef_keeps (s : Side) (id : Id) : Keeps s (unboxRef s id).2 := by
  intro h
  have old : ∀ k, (s.px.recv id) k ≠ none → k ≠ id → s.px k ≠ none := fun k hk ne =>
    ((recv_live s.px id k).mp hk).resolve_left ne
  by_cases hp : s.px id = none
  case neg =>
    rw [unboxRef_hit hp]
    refine ⟨h.mono (fun k hk => ?_) rfl rfl, Nat.le_refl _, fun k hk => ⟨rfl, (recv_live s.px id k).mpr (.inr hk)⟩⟩
    by_cases e : k = id
    · subst e; exact hp
    · exact old k hk e
  case pos =>
    rw [unboxRef_miss hp]
    refine ⟨⟨fun k hk => ?_, fun j k hj hk hjk => ?_⟩, Nat.le_succ _, fun k hk => ?_⟩
    · dsimp only at hk ⊢
      by_cases e : k = id
      · simp [e]
      · simp only [e, if_false]; exact Nat.lt_succ_of_lt (h.below k (old k hk e))
    · -- the new serial number is above every live one
      dsimp only at hj hk hjk
      by_cases ej : j = id <;> by_cases ek : k = id
      · rw [ej, ek]
      · have := h.below k (old k hk ek)
        simp only [ej, ek, if_true, if_false] at hjk; omega
      · have := h.below j (old j hj ej)
        simp only [ej, ek, if_true, if_false] at hjk; omega
      · simp only [ej, ek, if_false] at hjk
        exact h.distinct j k (old j hj ej) (old k hk ek) hjk
    · have e : k ≠ id := fun e => hk (e ▸ hp)
      exact ⟨by simp [e], (recv_live s.px id k).mpr (.inr hk)⟩

theorem recvRefs_keeps (ks : List Id) (s : Side) : Keeps s (recvRefs s ks) := by
  induction ks generalizing s with
  | nil => exact Keeps.refl s
  | cons id ks ih => exact (unboxRef_keeps s id).trans (ih _)

/-- the conclusion is `Keeps s s'`, written out -/
theorem unboxL_keeps1 : ∀ (ls : List Label) (s s' : Side) (ys : List PyVal), unboxOnePassL s ls = .ok (ys, s') → PxInv s →
    PxInv s' ∧ s.next ≤ s'.next ∧ (∀ k, s.px k ≠ none → s'.pid k = s.pid k ∧ s'.px k ≠ none) := by
  intro ls s s' ys hu h
  rw [unboxL_state1 ls s s' ys hu]
  exact recvRefs_keeps _ s h

mutual
theorem create_tbl : ∀ (r : RLabel) (s s' : Side) (y : PyVal), create s r = .ok (y, s') → s'.tbl = s.tbl
  | .value v => fun s s' y h => by cases h; rfl
  | .tuple rs => fun s s' y h => by
    obtain ⟨ys, hl, _⟩ := create_tuple_ok h
    exact createL_tbl rs s s' ys hl
  | .resolved id => fun s s' y h => by cases h; rfl
  | .remoteRef id => fun s s' y h => by
    have e : (unboxRef s id).2 = s' := congrArg Prod.snd (Except.ok.inj h)
    rw [← e]; exact unboxRef_tbl s id
  | .other tag => fun s s' y h => by cases h
theorem createL_tbl : ∀ (rs : List RLabel) (s s' : Side) (ys : List PyVal), createL s rs = .ok (ys, s') → s'.tbl = s.tbl
  | [] => fun s s' ys h => by cases h; rfl
  | r :: rs => fun s s' ys h => by
    obtain ⟨y, s1, ys', hy, hys, _⟩ := createL_cons_ok h
    rw [createL_tbl rs s1 s' ys' hys, create_tbl r s s1 y hy]
end

mutual
theorem onePass_eq_create : ∀ (l : Label) (s : Side) (r : RLabel), resolve s.tbl l = .ok r → unboxOnePass s l = create s r
  | .value v => fun s r h => by cases h; rfl
  | .tuple ls => fun s r h => by
    obtain ⟨rs, hr, rfl⟩ := resolve_tuple_ok h
    rw [unboxOnePass, create, onePassL_eq_createL ls s rs hr]
  | .localRef id => fun s r h => by
    obtain ⟨⟨n, ht⟩, rfl⟩ := resolve_localRef_ok h
    simp only [unboxOnePass, create, ht]
  | .remoteRef id => fun s r h => by cases h; rfl
  | .other tag => fun s r h => by cases h; rfl
theorem onePassL_eq_createL : ∀ (ls : List Label) (s : Side) (rs : List RLabel), resolveL s.tbl ls = .ok rs →
    unboxOnePassL s ls = createL s rs
  | [] => fun s rs h => by cases h; rfl
  | l :: ls => fun s rs h => by
    obtain ⟨r, rs', hr, hrs, rfl⟩ := resolveL_cons_ok h
    rw [unboxOnePassL, createL, onePass_eq_create l s r hr]
    cases hc : create s r with
    | error e => rfl
    | ok p =>
      -- the rest was resolved against the table as it was: creating the proxies of `r` did not touch it
      rw [← create_tbl r s p.2 p.1 hc] at hrs
      simp only [onePassL_eq_createL ls p.2 rs' hrs]
end

mutual
theorem resolve_of_onePass : ∀ (l : Label) (s s' : Side) (y : PyVal), unboxOnePass s l = .ok (y, s') →
    ∃ r, resolve s.tbl l = .ok r
  | .value v => fun s s' y _ => ⟨.value v, rfl⟩
  | .tuple ls => fun s s' y h => by
    obtain ⟨ys, hl, _⟩ := unboxOnePass_tuple_ok h
    obtain ⟨rs, hr⟩ := resolveL_of_onePassL ls s s' ys hl
    exact ⟨.tuple rs, by simp [resolve, hr]⟩
  | .localRef id => fun s s' y h => by
    obtain ⟨⟨n, ht⟩, _⟩ := unboxOnePass_localRef_ok h
    exact ⟨.resolved id, by simp [resolve, ht]⟩
  | .remoteRef id => fun s s' y _ => ⟨.remoteRef id, rfl⟩
  | .other tag => fun s s' y h => by cases h
theorem resolveL_of_onePassL : ∀ (ls : List Label) (s s' : Side) (ys : List PyVal), unboxOnePassL s ls = .ok (ys, s') →
    ∃ rs, resolveL s.tbl ls = .ok rs
  | [] => fun s s' ys _ => ⟨[], rfl⟩
  | l :: ls => fun s s' ys h => by
    obtain ⟨y, s1, ys', hy, hys, _⟩ := unboxOnePassL_cons_ok h
    obtain ⟨r, hr⟩ := resolve_of_onePass l s s1 y hy
    obtain ⟨rs, hrs⟩ := resolveL_of_onePassL ls s1 s' ys' hys
    rw [unbox_state1 l s s1 y hy, (recvRefs_counts _ s).2] at hrs
    exact ⟨r :: rs, by simp [resolveL, hr, hrs]⟩
end

theorem twoPassL_of_onePassL : ∀ (ls : List Label) (s s' : Side) (ys : List PyVal), unboxOnePassL s ls = .ok (ys, s') →
    ∃ rs, resolveL s.tbl ls = .ok rs ∧ createL s rs = .ok (ys, s') := by
  intro ls s s' ys h
  obtain ⟨rs, hr⟩ := resolveL_of_onePassL ls s s' ys h
  exact ⟨rs, hr, by rw [← onePassL_eq_createL ls s rs hr]; exact h⟩

theorem onePassL_of_twoPassL : ∀ (ls : List Label) (rs : List RLabel) (s s' : Side) (ys : List PyVal),
    resolveL s.tbl ls = .ok rs → createL s rs = .ok (ys, s') → unboxOnePassL s ls = .ok (ys, s') := by
  intro ls rs s s' ys h1 h2
  rw [onePassL_eq_createL ls s rs h1]; exact h2

theorem unbox_iff_onePass (s s' : Side) (l : Label) (y : PyVal) :
    unbox s l = .ok (y, s') ↔ unboxOnePass s l = .ok (y, s') := by
  unfold unbox
  constructor
  · intro h
    split at h
    · cases h
    · rw [onePass_eq_create l s _ ‹_›]; exact h
  · intro h
    obtain ⟨r, hr⟩ := resolve_of_onePass l s s' y h
    rw [onePass_eq_create l s r hr] at h
    simp only [hr, h]

@[simp] theorem unbox_remoteRef (s : Side) (id : Id) : unbox s (.remoteRef id) = .ok (unboxRef s id) := rfl

theorem unbox_localRef {s : Side} {id : Id} {n : Nat} (h : s.tbl id = some n) : unbox s (.localRef id) = .ok (.obj id, s) := by
  simp [unbox, resolve, create, h]

theorem unbox_state (l : Label) (s s' : Side) (y : PyVal) (hu : unbox s l = .ok (y, s')) : s' = recvRefs s l.remoteRefs :=
  unbox_state1 l s s' y ((unbox_iff_onePass s s' l y).mp hu)

theorem unbox_counts (l : Label) (s s' : Side) (y : PyVal) (hu : unbox s l = .ok (y, s')) :
    s'.px = recvAll s.px l.remoteRefs ∧ s'.tbl = s.tbl := by
  rw [unbox_state l s s' y hu]; exact recvRefs_counts _ s

theorem unbox_keeps (l : Label) (s s' : Side) (y : PyVal) (hu : unbox s l = .ok (y, s')) : Keeps s s' := by
  rw [unbox_state l s s' y hu]; exact recvRefs_keeps _ s

mutual
theorem resolve_present : ∀ (l : Label) (t : Tbl) (r : RLabel), resolve t l = .ok r → ∀ id ∈ l.localRefs, t id ≠ none
  | .value v => fun t r _ => by simp [Label.localRefs]
  | .tuple ls => fun t r h => by
    obtain ⟨rs, hl, _⟩ := resolve_tuple_ok h
    exact resolveL_present ls t rs hl
  | .localRef id => fun t r h => by
    obtain ⟨⟨n, hn⟩, _⟩ := resolve_localRef_ok h
    simp [Label.localRefs, hn]
  | .remoteRef id => fun t r _ => by simp [Label.localRefs]
  | .other tag => fun t r _ => by simp [Label.localRefs]
theorem resolveL_present : ∀ (ls : List Label) (t : Tbl) (rs : List RLabel), resolveL t ls = .ok rs →
    ∀ id ∈ Label.localRefsL ls, t id ≠ none
  | [] => fun t rs _ => by simp [Label.localRefsL]
  | l :: ls => fun t rs h id hm => by
    obtain ⟨r, rs', hr, hrs, _⟩ := resolveL_cons_ok h
    rw [Label.localRefsL, List.mem_append] at hm
    exact hm.elim (resolve_present l t r hr id) (resolveL_present ls t rs' hrs id)
end

mutual
theorem resolve_error_is_keyError : ∀ (l : Label) (t : Tbl) (e : Err), resolve t l = .error e → e = .keyError
  | .value v => fun t e h => by cases h
  | .tuple ls => fun t e h => by
    rw [resolve] at h
    split at h
    · cases h; exact resolveL_error_is_keyError ls t e ‹_›
    · cases h
  | .localRef id => fun t e h => by
    rw [resolve] at h
    split at h <;> cases h
    rfl
  | .remoteRef id => fun t e h => by cases h
  | .other tag => fun t e h => by cases h
theorem resolveL_error_is_keyError : ∀ (ls : List Label) (t : Tbl) (e : Err), resolveL t ls = .error e → e = .keyError
  | [] => fun t e h => by cases h
  | l :: ls => fun t e h => by
    rw [resolveL] at h
    split at h
    · cases h; exact resolve_error_is_keyError l t e ‹_›
    · split at h
      · cases h; exact resolveL_error_is_keyError ls t e ‹_›
      · cases h
end

/-- a package with a local reference the table does not hold is refused with KeyError in the first pass — whatever
else it carries, wherever, and before any proxy exists -/
theorem resolve_keyError_of_missing (l : Label) (t : Tbl) (h : ∃ id ∈ l.localRefs, t id = none) :
    resolve t l = .error .keyError := by
  obtain ⟨id, hm, hn⟩ := h
  cases hr : resolve t l with
  | ok r => exact absurd hn (resolve_present l t r hr id hm)
  | error e => rw [resolve_error_is_keyError l t e hr]

theorem resolveL_keyError_of_missing : ∀ (ls : List Label) (t : Tbl), (∃ id ∈ Label.localRefsL ls, t id = none) →
    resolveL t ls = .error .keyError := by
  intro ls t ⟨id, hm, hn⟩
  cases hr : resolveL t ls with
  | ok rs => exact absurd hn (resolveL_present ls t rs hr id hm)
  | error e => rw [resolveL_error_is_keyError ls t e hr]

mutual
/-- only the four labels `_box` produces -/
def Label.known : Label → Bool
  | .other _ => false
  | .tuple ls => Label.knownL ls
  | _ => true
def Label.knownL : List Label → Bool
  | [] => true
  | l :: ls => l.known && Label.knownL ls
end

mutual
theorem box_known : ∀ (x : PyVal) (t t' : Tbl) (l : Label), box t x = .ok (l, t') → l.known = true
  | .imm v => fun t t' l hb => by obtain ⟨_, rfl, _⟩ := box_imm_ok hb; rfl
  | .tup xs => fun t t' l hb => by
    rcases box_tup_ok hb with ⟨_, rfl, _⟩ | ⟨_, ls, hl, rfl⟩
    · rfl
    · exact boxL_known xs t t' ls hl
  | .obj id => fun t t' l hb => by cases hb; rfl
  | .sub v id => fun t t' l hb => by cases hb; rfl
  | .proxy id pid => fun t t' l hb => by cases hb; rfl
theorem boxL_known : ∀ (xs : List PyVal) (t t' : Tbl) (ls : List Label), boxL t xs = .ok (ls, t') → Label.knownL ls = true
  | [] => fun t t' ls hb => by cases hb; rfl
  | x :: xs => fun t t' ls hb => by
    obtain ⟨l, t1, ls', hx, hxs, rfl⟩ := boxL_cons_ok hb
    simp [Label.knownL, box_known x t t1 l hx, boxL_known xs t1 t' ls' hxs]
end

/-- the four label numbers select four different branches of `_unbox` (generated constants) -/
theorem labelKind_table : labelKind Gen.Box.labelValue = .value ∧ labelKind Gen.Box.labelTuple = .tuple
    ∧ labelKind Gen.Box.labelLocalRef = .localRef ∧ labelKind Gen.Box.labelRemoteRef = .remoteRef := by decide

theorem Label.depth_pos (l : Label) : 1 ≤ l.depth := by cases l <;> simp [Label.depth]

mutual
theorem parse_toVal (pack : Id → Val) (unpack : Val → Option Id) (hp : ∀ k, unpack (pack k) = some k) :
    ∀ (l : Label) (fuel : Nat), l.known = true → l.depth ≤ fuel → parseLabel unpack fuel (l.toVal pack) = .ok l
  | l, 0, _, hf => absurd (Nat.le_trans l.depth_pos hf) (by decide)
  | .value v, f + 1, _, _ => by simp only [Label.toVal, parseLabel, labelKind_table.1]
  | .tuple ls, f + 1, hk, hf => by
    simp only [Label.toVal, parseLabel, labelKind_table.2.1,
      parseL_toValL pack unpack hp ls f hk (by rw [Label.depth] at hf; omega)]
  | .localRef id, f + 1, _, _ => by simp only [Label.toVal, parseLabel, labelKind_table.2.2.1, hp]
  | .remoteRef id, f + 1, _, _ => by simp only [Label.toVal, parseLabel, labelKind_table.2.2.2, hp]
  | .other tag, _ + 1, hk, _ => by cases hk
theorem parseL_toValL (pack : Id → Val) (unpack : Val → Option Id) (hp : ∀ k, unpack (pack k) = some k) :
    ∀ (ls : List Label) (fuel : Nat), Label.knownL ls = true → Label.depthL ls ≤ fuel →
      parseLabelL unpack fuel (Label.toValL pack ls) = .ok ls
  | [], fuel, _, _ => by rw [Label.toValL, parseLabelL]
  | l :: ls, 0, _, hf => by rw [Label.depthL] at hf; omega
  | l :: ls, f + 1, hk, hf => by
    rw [Label.knownL, Bool.and_eq_true] at hk
    rw [Label.depthL] at hf
    rw [Label.toValL, parseLabelL, parse_toVal pack unpack hp l f hk.1 (by omega),
      parseL_toValL pack unpack hp ls (f + 1) hk.2 (by omega)]
end

/-! ### an invariant of whole conversations

Between two steps of a conversation nothing is in flight, so the counts of the C10 machine balance directly: what an end's
table holds for a key is what the other end's live proxy of it will release. -/

/-- one lending direction at rest: the holder's proxies are well identified, none counts zero, and the owner's table
(`t`) holds for every key exactly what the holder's live proxy counts -/
structure HalfInv (t : Tbl) (q : Side) : Prop where
  px : PxInv q
  pos : ∀ k, q.px k ≠ some 0
  bal : ∀ k, val (t k) = cnt (q.px k)

theorem HalfInv.with_tbl {t : Tbl} {q : Side} (h : HalfInv t q) (t' : Tbl) : HalfInv t { q with tbl := t' } :=
  ⟨h.px.mono (fun _ hk => hk) rfl rfl, h.pos, h.bal⟩

theorem halfInv_init : HalfInv Side.init.tbl Side.init :=
  ⟨pxInv_init, by intro k; simp [Side.init, Tbl.empty], by intro k; simp [Side.init, Tbl.empty, val, cnt]⟩

theorem HalfInv.alive {t : Tbl} {q : Side} (h : HalfInv t q) {k : Id} (hl : q.px k ≠ none) : ∃ n, t k = some n :=
  val_pos (by rw [h.bal k]; exact cnt_pos_of_ne_zero (h.pos k) hl)

theorem HalfInv.released {t : Tbl} {q : Side} (h : HalfInv t q) {k : Id} (hd : q.px k = none) : t k = none :=
  val_eq_zero.mp (by rw [h.bal k, hd]; rfl)

theorem set_none_live (p : Tbl) (id k : Id) (h : (p.set id none) k ≠ none) : p k ≠ none := by
  by_cases e : k = id
  · subst e; simp at h
  · simpa [Tbl.set_other _ _ e] using h

theorem xfer_inv (o q o1 q1 : Side) (x y : PyVal) (l : Label) (hx : xfer o q x = .ok (l, y, o1, q1))
    (h1 : HalfInv o.tbl q) (h2 : HalfInv q.tbl o) : HalfInv o1.tbl q1 ∧ HalfInv q1.tbl o1 := by
  revert hx
  fun_cases xfer o q x <;> intro hx <;> cases hx
  next t hb hu =>
    obtain ⟨hpx, htbl⟩ := unbox_counts l q q1 y hu
    refine ⟨⟨(unbox_keeps l q q1 y hu h1.px).1, ?_, fun k => ?_⟩, ?_⟩
    · rw [hpx]; exact recvAll_ne_zero _ _ h1.pos
    · have := h1.bal k
      rw [hpx, box_adds x o.tbl t l hb, val_addAll, cnt_recvAll]
      omega
    · rw [htbl]; exact h2.with_tbl t

theorem release_inv (o q : Side) (id : Id) (h1 : HalfInv o.tbl q) (h2 : HalfInv q.tbl o) :
    HalfInv (release o q id).1.tbl (release o q id).2 ∧ HalfInv (release o q id).2.tbl (release o q id).1 := by
  unfold release
  cases hp : q.px id with
  | none => exact ⟨h1, h2⟩
  | some c =>
    obtain ⟨m, ht⟩ := h1.alive (k := id) (by simp [hp])
    have hb := h1.bal id
    rw [hp, ht] at hb
    simp only [cnt, val] at hb
    simp only [Tbl.decref, ht]
    refine ⟨⟨h1.px.mono (fun k hk => set_none_live q.px id k hk) rfl rfl, fun k => ?_, fun k => ?_⟩, h2.with_tbl _⟩
    · by_cases e : k = id
      · subst e; simp
      · simp only [Tbl.set_other _ _ e]; exact h1.pos k
    · -- the release is for the whole stored count: the entry goes as the proxy goes
      by_cases e : k = id
      · subst e
        simp only [Tbl.set_same, val_dropBy, cnt]
        omega
      · simp only [Tbl.set_other _ _ e]; exact h1.bal k

theorem releaseAll_inv (ids : List Id) (o q : Side) (h1 : HalfInv o.tbl q) (h2 : HalfInv q.tbl o) :
    HalfInv (releaseAll o q ids).1.tbl (releaseAll o q ids).2 ∧ HalfInv (releaseAll o q ids).2.tbl (releaseAll o q ids).1 := by
  induction ids generalizing o q with
  | nil => exact ⟨h1, h2⟩
  | cons id ids ih =>
    obtain ⟨a, b⟩ := release_inv o q id h1 h2
    exact ih (release o q id).1 (release o q id).2 a b

/-- both lending directions of a conversation at rest -/
def ConvInv (c : Conv) : Prop := HalfInv c.a.tbl c.b ∧ HalfInv c.b.tbl c.a

theorem convInv_init : ConvInv Conv.init := ⟨halfInv_init, halfInv_init⟩

theorem convInv_send (c : Conv) (x : PyVal) (keep : Bool) (seen : Seen) (c' : Conv) (h : ConvInv c)
    (hs : c.send x keep = .ok (seen, c')) : ConvInv c' := by
  revert hs
  fun_cases Conv.send c x keep <;> intro hs <;> cases hs
  next l y a1 b1 hx _ => exact xfer_inv c.a c.b a1 b1 x y l hx h.1 h.2
  next l y a1 b1 hx _ =>
    obtain ⟨i1, i2⟩ := xfer_inv c.a c.b a1 b1 x y l hx h.1 h.2
    exact releaseAll_inv _ a1 b1 i1 i2

theorem convInv_echo (c : Conv) (x : PyVal) (seen : Seen) (c' : Conv) (h : ConvInv c)
    (hs : c.echo x = .ok (seen, c')) : ConvInv c' := by
  revert hs
  fun_cases Conv.echo c x <;> intro hs <;> cases hs
  next l y a1 b1 hx l2 z b2 a2 hx2 =>
    obtain ⟨i1, i2⟩ := xfer_inv c.a c.b a1 b1 x y l hx h.1 h.2
    obtain ⟨j1, j2⟩ := xfer_inv b1 a1 b2 a2 y z l2 hx2 i2 i1
    obtain ⟨k1, k2⟩ := releaseAll_inv (transient l c.heldB) a2 b2 j2 j1
    exact (releaseAll_inv (transient l2 c.heldA) _ _ k2 k1).symm

theorem convInv_make (c : Conv) (id : Id) (seen : Seen) (c' : Conv) (h : ConvInv c)
    (hs : c.make id = .ok (seen, c')) : ConvInv c' := by
  revert hs
  fun_cases Conv.make c id <;> intro hs <;> cases hs
  next l y b1 a1 hx => exact (xfer_inv c.b c.a b1 a1 (.obj id) y l hx h.2 h.1).symm

theorem convInv_forget (c : Conv) (h : ConvInv c) : ConvInv c.forget :=
  releaseAll_inv c.heldB c.a c.b h.1 h.2

theorem convInv_step (c : Conv) (op : ConvOp) (h : ConvInv c) : ConvInv (c.step op) := by
  fun_cases Conv.step c op
  next keep x _ c' hs => exact convInv_send c x keep _ c' h hs
  next => exact h
  next x _ c' hs => exact convInv_echo c x _ c' h hs
  next => exact h
  next id _ c' hs => exact convInv_make c id _ c' h hs
  next => exact h
  next => exact convInv_forget c h

theorem convInv_run (ops : List ConvOp) (c : Conv) (h : ConvInv c) : ConvInv (Conv.run c ops) := by
  induction ops generalizing c with
  | nil => exact h
  | cons op ops ih => exact ih _ (convInv_step c op h)

end Rpyc.Box
