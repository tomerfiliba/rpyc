import RpycModel.Box.Model
/-
The reference-count machine (C10): how `add`/`decref`/`recv` move the counted quantities, the moves of the owner
and of the peer that keep `Inv` (`Inv.owner`, `Inv.pop`, `Inv.peer`), and every operation as an instance of them.
-/
namespace Rpyc.Box
open Rpyc

/-! ### obligations about the generated constants

Four switches measured on the live code, which the model takes as parameters (`failedBox`, `unreceivedTail`,
`deliverNested`, `unboxRefAcrossInspect`); the theorems of C10 and C03 need each of them to be true. -/

theorem failedSend_released : Gen.Box.failedSendReleases = true := by decide
theorem failedUnbox_released : Gen.Box.failedUnboxReleases = true := by decide
theorem localRefs_resolvedFirst : Gen.Box.localRefsResolvedFirst = true := by decide
theorem oneProxy_acrossInspect : Gen.Box.oneProxyAcrossInspect = true := by decide

@[simp] theorem Tbl.set_same (t : Tbl) (k : Id) (v : Option Nat) : (t.set k v) k = v := by simp [Tbl.set]
theorem Tbl.set_other (t : Tbl) {j k : Id} (v : Option Nat) (h : j ≠ k) : (t.set k v) j = t j := by simp [Tbl.set, h]

@[simp] theorem val_bump (o : Option Nat) : val (bump o) = val o + 1 := by cases o <;> rfl
@[simp] theorem cnt_hit (o : Option Nat) : cnt (hit o) = cnt o + 1 := by cases o <;> rfl
theorem hit_ne_zero (o : Option Nat) : hit o ≠ some 0 := by cases o <;> simp [hit]

theorem val_eq_zero {o : Option Nat} : val o = 0 ↔ o = none := by cases o <;> simp [val]
theorem val_some {o : Option Nat} {n : Nat} (h : o = some n) : val o = n + 1 := by subst h; rfl

theorem val_pos {o : Option Nat} (h : 1 ≤ val o) : ∃ n, o = some n := by
  cases o with
  | none => exact absurd h (by decide)
  | some n => exact ⟨n, rfl⟩

theorem cnt_pos_of_ne_zero {o : Option Nat} (h : o ≠ some 0) (hs : o ≠ none) : 1 ≤ cnt o := by
  cases o with
  | none => exact absurd rfl hs
  | some c => cases c with
    | zero => exact absurd rfl h
    | succ c => simp [cnt]

theorem slot_incr {μ : Option Nat → Nat} {f : Option Nat → Option Nat} (hf : ∀ o, μ (f o) = μ o + 1) (t : Tbl) (k j : Id) :
    μ ((t.set k (f (t k))) j) = μ (t j) + (if k = j then 1 else 0) := by
  by_cases h : k = j
  · subst h; simp [hf]
  · simp [Tbl.set_other _ _ (Ne.symm h), h]

theorem val_add (t : Tbl) (k j : Id) : val ((t.add k) j) = val (t j) + (if k = j then 1 else 0) := slot_incr val_bump t k j

theorem cnt_recv (p : Tbl) (k j : Id) : cnt ((p.recv k) j) = cnt (p j) + (if k = j then 1 else 0) := slot_incr cnt_hit p k j

theorem count_cons_id (a k : Id) (ks : List Id) : (a :: ks).count k = (if a = k then 1 else 0) + ks.count k := by
  simp [List.count_cons, Nat.add_comm]

theorem foldl_incr {μ : Option Nat → Nat} {upd : Tbl → Id → Tbl}
    (h : ∀ t k j, μ ((upd t k) j) = μ (t j) + (if k = j then 1 else 0)) (ks : List Id) (t : Tbl) (j : Id) :
    μ ((ks.foldl upd t) j) = μ (t j) + ks.count j := by
  induction ks generalizing t with
  | nil => rfl
  | cons a ks ih => rw [List.foldl_cons, ih, h, count_cons_id]; omega

theorem val_addAll (ks : List Id) (t : Tbl) (j : Id) : val ((addAll t ks) j) = val (t j) + ks.count j := foldl_incr val_add ks t j

theorem cnt_recvAll (ks : List Id) (p : Tbl) (j : Id) : cnt ((recvAll p ks) j) = cnt (p j) + ks.count j := foldl_incr cnt_recv ks p j

theorem val_dropBy (m n : Nat) : val (dropBy m n) = m + 1 - n := by
  unfold dropBy
  split
  · simp [val]; omega
  · simp [val]; omega

theorem val_unbump (o : Option Nat) : val (unbump o) = val o - 1 := by
  cases o with
  | none => rfl
  | some m => exact val_dropBy m 1

theorem val_unadd (t : Tbl) (k j : Id) : val ((t.unadd k) j) = val (t j) - (if k = j then 1 else 0) := by
  by_cases h : k = j
  · subst h; simp [Tbl.unadd, val_unbump]
  · simp [Tbl.unadd, Tbl.set_other _ _ (Ne.symm h), h]

theorem val_unaddAll (ks : List Id) (t : Tbl) (j : Id) : val ((unaddAll t ks) j) = val (t j) - ks.count j := by
  induction ks generalizing t with
  | nil => rfl
  | cons a ks ih => rw [unaddAll, List.foldl_cons, ← unaddAll, ih, val_unadd, count_cons_id]; omega

theorem val_failedBox_released (t : Tbl) (ks : List Id) (j : Id) : val ((failedBox true t ks) j) = val (t j) := by
  simp only [failedBox, if_true, val_unaddAll, val_addAll]; omega

theorem recv_ne_zero (p : Tbl) (a : Id) (h : ∀ k, p k ≠ some 0) : ∀ k, (p.recv a) k ≠ some 0 := by
  intro k
  by_cases e : k = a
  · subst e; simp only [Tbl.recv, Tbl.set_same]; exact hit_ne_zero _
  · rw [Tbl.recv, Tbl.set_other _ _ e]; exact h k

theorem recvAll_ne_zero (ks : List Id) (p : Tbl) (h : ∀ k, p k ≠ some 0) : ∀ k, (recvAll p ks) k ≠ some 0 := by
  induction ks generalizing p with
  | nil => exact h
  | cons a ks ih => exact ih (p.recv a) (recv_ne_zero p a h)

theorem refsO_append (k : Id) (q r : List MsgO) : refsO k (q ++ r) = refsO k q + refsO k r := by
  induction q with
  | nil => simp [refsO]
  | cons m q ih => simp [refsO, ih]; omega

theorem delSum_append (k : Id) (q r : List MsgP) : delSum k (q ++ r) = delSum k q + delSum k r := by
  induction q with
  | nil => simp [delSum]
  | cons m q ih => simp [delSum, ih]; omega

theorem refsO_split (k : Id) (j : Nat) (ids : List Id) (isReq kept : Bool) (rest : List MsgO) :
    refsO k (.recvd (ids.take j) :: .unrecvd (ids.drop j) isReq kept :: rest) = ids.count k + refsO k rest := by
  simp only [refsO, MsgO.refs]
  rw [← Nat.add_assoc, ← List.count_append, List.take_append_drop]

theorem delPos_append {q r : List MsgP} (hq : delPos q) (hr : delPos r) : delPos (q ++ r) := by
  induction q with
  | nil => exact hr
  | cons m q ih =>
    cases m with
    | del k n => exact ⟨hq.1, ih hq.2⟩
    | _ => exact ih hq

/-- `hle`: whatever proxy count the peer gave up between `p` and `p'` went into a release notice of `r` -/
theorem backOk_append {p p' : Tbl} {q r : List MsgP} (h : backOk p q) (hr : backOk p' r)
    (hle : ∀ k, cnt (p k) ≤ cnt (p' k) + delSum k r) : backOk p' (q ++ r) := by
  induction q with
  | nil => exact hr
  | cons m q ih =>
    rw [List.cons_append]
    cases m with
    | back k e =>
      refine ⟨?_, ih h.2⟩
      have := h.1
      have := hle k
      rw [delSum_append]; omega
    | _ => exact ih h

theorem delSum_releasesFor (k : Id) (ks : List Id) : delSum k (releasesFor ks) = ks.count k := by
  induction ks with
  | nil => rfl
  | cons a ks ih =>
    simp only [releasesFor, List.map_cons, delSum, MsgP.dels] at ih ⊢
    rw [ih, count_cons_id]

theorem delSum_unreceivedTail (k : Id) (ks : List Id) (isReq : Bool) :
    delSum k (unreceivedTail true ks isReq) = ks.count k := by
  cases isReq <;> simp [unreceivedTail, delSum_append, delSum_releasesFor, delSum, MsgP.dels]

theorem unreceivedTail_delPos_backOk (p : Tbl) (ks : List Id) (isReq : Bool) :
    delPos (unreceivedTail true ks isReq) ∧ backOk p (unreceivedTail true ks isReq) := by
  induction ks with
  | nil => cases isReq <;> exact ⟨trivial, trivial⟩
  | cons a ks ih => exact ⟨⟨Nat.le_refl 1, ih.1⟩, ih.2⟩

theorem Inv.alive {s : St} (h : Inv s) (k : Id) (hk : 1 ≤ refsO k s.o2p + cnt (s.px k) + delSum k s.p2o) :
    ∃ n, s.tbl k = some n :=
  val_pos (by rw [h.count k]; exact hk)

theorem Inv.released {s : St} (h : Inv s) (k : Id) (hk : refsO k s.o2p + cnt (s.px k) + delSum k s.p2o = 0) :
    s.tbl k = none :=
  val_eq_zero.mp (by rw [h.count k]; exact hk)

theorem Inv.back_alive {s : St} (h : Inv s) {k : Id} {e : Bool} {rest : List MsgP} (hq : s.p2o = .back k e :: rest) :
    ∃ n, s.tbl k = some n := by
  have hb := h.backs
  rw [hq] at hb
  refine h.alive k ?_
  have := hb.1
  rw [hq]; simp only [delSum, MsgP.dels]; omega

/-- a move of the owner alone: it boxes objects into a message it queues (a request, an answer), or takes back the
registrations of one it could not send; `hc`: what the table gains in references, `o2p` gains in carried ones -/
theorem Inv.owner {s : St} (h : Inv s) (tbl' : Tbl) (o2p' : List MsgO)
    (hc : ∀ k, val (tbl' k) + refsO k s.o2p = val (s.tbl k) + refsO k o2p') : Inv { s with tbl := tbl', o2p := o2p' } := by
  refine ⟨fun k => ?_, h.pxPos, h.dels, h.backs⟩
  have := h.count k
  have := hc k
  dsimp only; omega

theorem Inv.answer {s : St} (h : Inv s) (tbl' : Tbl) (m : MsgO) (hc : ∀ k, val (tbl' k) = val (s.tbl k) + m.refs k) :
    Inv { s with tbl := tbl', o2p := s.o2p ++ [m] } :=
  h.owner _ _ fun k => by rw [refsO_append, hc k]; simp only [refsO]; omega

theorem Inv.echo {s : St} (h : Inv s) (k : Id) : Inv { s with tbl := s.tbl.add k, o2p := s.o2p ++ [.reply [k] true] } :=
  h.answer _ _ fun j => by simp [val_add, MsgO.refs, count_cons_id]

theorem Inv.noEcho {s : St} (h : Inv s) : Inv { s with o2p := s.o2p ++ [.reply [] false] } :=
  h.answer s.tbl _ fun _ => rfl

/-- the owner takes the head `m` of `p2o` off for dispatch; `hc`: the table gives up exactly the releases `m` carries
(`m.dels`, zero unless `m` is a release notice) -/
theorem Inv.pop {s : St} (h : Inv s) {m : MsgP} {rest : List MsgP} (hq : s.p2o = m :: rest) (tbl' : Tbl)
    (hc : ∀ k, val (tbl' k) + m.dels k = val (s.tbl k)) : Inv { s with tbl := tbl', p2o := rest } := by
  have hcount := h.count
  have hdels := h.dels
  have hbacks := h.backs
  rw [hq] at hcount hdels hbacks
  refine ⟨fun k => ?_, h.pxPos, ?_, ?_⟩
  · have h1 := hcount k
    have := hc k
    simp only [delSum] at h1
    dsimp only; omega
  · cases m with
    | del k n => exact hdels.2
    | _ => exact hdels
  · cases m with
    | back k e => exact hbacks.2
    | _ => exact hbacks

/-- a move of the peer: it takes the messages `pre` off the front of `o2p` (none when it acts unprompted), its proxy
table becomes `px'` and it queues `r`; `hc`: every reference received is now a proxy count or a release notice in `r`.
`p2o'` and `hp` are there so that the conclusion has the shape of the caller's goal: callers pass `rfl`. -/
theorem Inv.peer {s : St} (h : Inv s) {pre rest : List MsgO} (hq : s.o2p = pre ++ rest) (px' : Tbl) (r : List MsgP)
    {p2o' : List MsgP} (hp : p2o' = s.p2o ++ r)
    (hc : ∀ k, cnt (px' k) + delSum k r = refsO k pre + cnt (s.px k))
    (hpos : ∀ k, px' k ≠ some 0) (hd : delPos r) (hb : backOk px' r) :
    Inv { s with o2p := rest, px := px', p2o := p2o' } := by
  subst hp
  refine ⟨fun k => ?_, hpos, delPos_append h.dels hd, backOk_append (p' := px') h.backs hb fun k => by have := hc k; omega⟩
  have h1 := h.count k
  have := hc k
  rw [hq, refsO_append] at h1
  show val (s.tbl k) = refsO k rest + cnt (px' k) + delSum k (s.p2o ++ r)
  rw [delSum_append]; omega

theorem Inv.push {s : St} (h : Inv s) (m : MsgP) (hm : ∀ k, m.dels k = 0) (hd : delPos [m]) (hb : backOk s.px [m]) :
    Inv { s with p2o := s.p2o ++ [m] } :=
  h.peer (pre := []) rfl s.px [m] rfl (fun k => by simp [delSum, refsO, hm]) h.pxPos hd hb

theorem Inv.receive {s : St} (h : Inv s) {m : MsgO} {rest : List MsgO} (hq : s.o2p = m :: rest) (ids : List Id)
    (hm : ∀ k, m.refs k = ids.count k) : Inv { s with o2p := rest, px := recvAll s.px ids } :=
  h.peer (pre := [m]) hq _ [] (List.append_nil _).symm (fun k => by rw [cnt_recvAll]; simp only [refsO, delSum, hm]; omega)
    (recvAll_ne_zero ids s.px h.pxPos) trivial trivial

theorem inv_empty (closed : Bool) : Inv ⟨Tbl.empty, Tbl.empty, [], [], closed⟩ :=
  ⟨fun _ => rfl, fun _ => by simp [Tbl.empty], trivial, trivial⟩

theorem inv_init : Inv St.init := inv_empty false

/-- a message that was boxed and then could not be sent leaves nothing behind (the code takes the registrations back) -/
theorem inv_sendFail (s : St) (ks : List Id) (h : Inv s) :
    Inv { s with tbl := failedBox Gen.Box.failedSendReleases s.tbl ks } := by
  rw [failedSend_released]
  exact h.owner _ _ fun k => by rw [val_failedBox_released]

theorem inv_passBack (s : St) (k : Id) (e : Bool) (h : Inv s) : Inv (passBack s k e).2 := by
  unfold passBack
  cases hk : s.px k with
  | none => exact h
  | some c =>
    have := cnt_pos_of_ne_zero (h.pxPos k) (by simp [hk])
    exact h.push (.back k e) (fun _ => rfl) trivial ⟨by simp only [delSum]; omega, trivial⟩

theorem inv_finalize (s : St) (k : Id) (h : Inv s) : Inv (finalize s k).2 := by
  unfold finalize
  cases hk : s.px k with
  | none => exact h
  | some c =>
    have hc : 1 ≤ c := by simpa [hk, cnt] using cnt_pos_of_ne_zero (h.pxPos k) (by simp [hk])
    refine h.peer (pre := []) rfl (s.px.set k none) [.del k c] rfl (fun j => ?_) (fun j => ?_) ⟨hc, trivial⟩ trivial
    · -- the proxy's count moves into the release notice
      by_cases e : j = k
      · subst e; simp [delSum, MsgP.dels, refsO, hk, cnt]
      · simp [Tbl.set_other _ _ e, delSum, MsgP.dels, refsO, Ne.symm e]
    · by_cases e : j = k
      · subst e; simp
      · rw [Tbl.set_other _ _ e]; exact h.pxPos j

theorem inv_splitHead (s : St) (j : Nat) (h : Inv s) : Inv (splitHead s j).2 := by
  fun_cases splitHead s j
  next hq _ => exact h.owner s.tbl _ fun k => by rw [hq, refsO_split]; rfl
  next => exact h
  next hq _ => exact h.owner s.tbl _ fun k => by rw [hq, refsO_split]; rfl
  next => exact h
  next => exact h

theorem inv_deliverO2P (s : St) (h : Inv s) : Inv (deliverO2P s).2 := by
  unfold deliverO2P
  cases hq : s.o2p with
  | nil => exact h
  | cons m rest =>
    cases m with
    | req ids => exact (h.receive hq ids fun _ => rfl).push .reply (fun _ => rfl) trivial trivial
    | reply ids kept => exact h.receive hq ids fun _ => rfl
    | exc kept => exact h.receive hq [] fun _ => rfl
    | recvd ids => exact h.receive hq ids fun _ => rfl
    | unrecvd ids isReq kept =>
      simp only [handleO, failedUnbox_released]
      exact h.peer (pre := [_]) hq s.px _ rfl (fun k => by rw [delSum_unreceivedTail]; simp only [refsO, MsgO.refs]; omega) h.pxPos
        (unreceivedTail_delPos_backOk s.px ids isReq).1 (unreceivedTail_delPos_backOk s.px ids isReq).2

theorem deliverP2O_inv_no_keyError (s : St) (h : Inv s) : Inv (deliverP2O s).2 ∧ (deliverP2O s).1 ≠ .keyError := by
  unfold deliverP2O
  cases hq : s.p2o with
  | nil => exact ⟨h, nofun⟩
  | cons m rest =>
    cases m with
    | del k n =>
      -- the notice releases at least one reference and at most what the table holds for the key
      have hn := h.dels
      have hk : n ≤ val (s.tbl k) := by
        have := h.count k
        rw [hq] at this
        simp only [delSum, MsgP.dels, if_true] at this; omega
      rw [hq] at hn
      obtain ⟨c, hc⟩ := val_pos (Nat.le_trans hn.1 hk)
      simp only [handleP, Tbl.decref, hc]
      refine ⟨(h.pop hq (s.tbl.set k (dropBy c n)) fun j => ?_).noEcho, nofun⟩
      by_cases e : j = k
      · subst e; rw [Tbl.set_same, val_dropBy]; simp only [hc, val, MsgP.dels, if_true] at hk ⊢; omega
      · simp [Tbl.set_other _ _ e, MsgP.dels, Ne.symm e]
    | back k echo =>
      obtain ⟨c, hc⟩ := h.back_alive hq
      have h0 := h.pop hq s.tbl fun _ => rfl
      simp only [handleP, hc]
      cases echo with
      | true => exact ⟨h0.echo k, nofun⟩
      | false => exact ⟨h0.noEcho, nofun⟩
    | fetch ks => exact ⟨(h.pop hq s.tbl fun _ => rfl).answer _ _ fun j => val_addAll ks s.tbl j, nofun⟩
    | reply => exact ⟨h.pop hq s.tbl fun _ => rfl, nofun⟩
    | fetchBad ks =>
      simp only [handleP, failedSend_released]
      exact ⟨(h.pop hq s.tbl fun _ => rfl).answer _ _ fun j => val_failedBox_released s.tbl ks j, nofun⟩

theorem inv_step (s : St) (op : Op) (h : Inv s) : Inv (step s op).2 := by
  fun_cases step s op
  next => exact h
  next ks => exact h.answer _ (.req ks) fun k => val_addAll ks s.tbl k
  next ks => exact h.push (.fetch ks) (fun _ => rfl) trivial trivial
  next ks => exact inv_sendFail s ks h
  next ks => exact h.push (.fetchBad ks) (fun _ => rfl) trivial trivial
  next k e => exact inv_passBack s k e h
  next k => exact inv_finalize s k h
  next j => exact inv_splitHead s j h
  next => exact inv_deliverO2P s h
  next => exact (deliverP2O_inv_no_keyError s h).1
  next => exact inv_empty true

theorem inv_run (ops : List Op) (s : St) (h : Inv s) : Inv (run s ops) := by
  induction ops generalizing s with
  | nil => exact h
  | cons op ops ih => exact ih _ (inv_step s op h)

/-- under the invariant no `LOCAL_REF` fails to resolve and no `decref` meets an absent key: only the owner's dispatch
can answer KeyError at all -/
theorem step_no_keyError (s : St) (op : Op) (h : Inv s) : (step s op).1 ≠ .keyError := by
  unfold step
  split
  · nofun
  · cases op with
    | deliverP2O => exact (deliverP2O_inv_no_keyError s h).2
    | send ks | fetch ks | sendFail ks | fetchBad ks | close => nofun
    | back k e => simp only [passBack]; split <;> simp
    | finalize k => simp only [finalize]; split <;> simp
    | splitHead j => simp only [splitHead]; split <;> (try split) <;> simp
    | deliverO2P => simp only [deliverO2P, handleO]; split <;> (try split) <;> simp

/-! ### the application layer only ever performs operations of the machine below -/

theorem untouched_base (s : St) : ∃ ops, s = run s ops := ⟨[], rfl⟩

theorem lift_base (a : App) (op : Op) (held : List Id) (results : List (List Id)) (waiters : List Bool) :
    ∃ ops, (lift a op held results waiters).2.s = run a.s ops := ⟨[op], rfl⟩

theorem discard_base (a : App) (ids : List Id) (waiters : List Bool) : ∃ ops, (discard a ids waiters).2.s = run a.s ops :=
  ⟨.deliverO2P :: (dying ids a.held a.results).map .finalize, rfl⟩

theorem failDelivery_base (a : App) (taken : List Id) (results : List (List Id)) (waiters : List Bool) :
    ∃ ops, (failDelivery a taken results waiters).2.s = run a.s ops := ⟨_, rfl⟩

/-- every branch of `appStep` leaves the machine alone or ends in `lift`, `discard` or `failDelivery` -/
theorem appStep_base (a : App) (op : AOp) : ∃ ops, (appStep a op).2.s = run a.s ops := by
  fun_cases appStep a op <;> simp only [untouched_base, lift_base, discard_base, failDelivery_base]

theorem inv_appStep (a : App) (op : AOp) (h : Inv a.s) : Inv (appStep a op).2.s := by
  obtain ⟨ops, e⟩ := appStep_base a op
  rw [e]; exact inv_run ops a.s h

theorem inv_appRun (ops : List AOp) (a : App) (h : Inv a.s) : Inv (appRun a ops).s := by
  induction ops generalizing a with
  | nil => exact h
  | cons op ops ih => exact ih _ (inv_appStep a op h)

/-! ### dispatch that is not atomic (nested serve during `_unbox`) -/

/-- with the local references resolved first, a nested serve of any content keeps the invariant and the hand-back
always finds its object: the key is looked up while the hand-back still counts for it, and the handler's answer
registers the object again whatever the nested serve did to the entry -/
theorem deliverNested_inv_no_keyError (mid : List Op) (s : St) (h : Inv s) :
    Inv (deliverNested true mid s).2 ∧ (deliverNested true mid s).1 ≠ .keyError := by
  have served {k e rest} (hq : s.p2o = .back k e :: rest) := inv_run mid _ (h.pop hq s.tbl fun _ => rfl)
  fun_cases deliverNested true mid s
  next => exact ⟨h, nofun⟩
  next hq _ hn => obtain ⟨n, hn'⟩ := h.back_alive hq; cases hn.symm.trans hn'
  next hq _ _ _ _ => exact ⟨served hq, nofun⟩
  next k _ _ _ _ _ hq => exact ⟨(served hq).echo k, nofun⟩
  next hq _ _ _ _ _ => exact ⟨(served hq).noEcho, nofun⟩
  next ht _ => exact absurd rfl ht
  next ht _ => exact absurd rfl ht
  next => exact ⟨h, nofun⟩

end Rpyc.Box
