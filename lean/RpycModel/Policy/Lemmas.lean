import RpycModel.Policy.Model
/-
The vocabulary of C06 as propositions; `_check_attr` as one formula (`checkAttr_eq`) and `_access_attr` outcome by outcome
(`run_cases`); the configuration heap: what one good-mode event does to the world (`GoodEffect`), and the one induction over
histories, `hrun_keeps`.
-/
namespace Rpyc.Policy
open Rpyc

-- the counterexamples and examples of C06 compare outcomes (`Except Err _`) by `decide`
deriving instance DecidableEq for Except

/-- "the name is allowed (everything / exposed-prefix / safe-list / public, as enabled)" -/
def NameAllowed (c : Config) (name : PyStr) : Prop :=
  c.allowAll = true
  ∨ (c.allowExposed = true ∧ c.exposedPrefix <+: name)
  ∨ (c.allowSafe = true ∧ name ∈ c.safe)
  ∨ (c.allowPublic = true ∧ ¬ ([95] : PyStr) <+: name)

/-- "has an exposed-prefixed twin on the object": exposed attributes are on, the prefix is not empty and the
object has `prefix ++ name` -/
def HasTwin (c : Config) (has : PyStr → Bool) (name : PyStr) : Prop :=
  c.allowExposed = true ∧ c.exposedPrefix ≠ [] ∧ has (c.exposedPrefix ++ name) = true

/-- an object whose `hasattr` is pure: evaluating an attribute does nothing else -/
def PureProbes (o : Obj) : Prop := ∀ n, o.probeExtra n = []

/-- every event is a `hasattr` probe of `o`, or something that evaluating the probed attribute did -/
def OnlyProbes (o : Obj) (log : List Ev) : Prop :=
  ∀ ev ∈ log, ∃ n, ev = .probe o.id n ∨ ev ∈ o.probeExtra n

theorem plainAllowed_iff (c : Config) (name : PyStr) : plainAllowed c name = true ↔ NameAllowed c name := by
  simp [plainAllowed, NameAllowed, startsUnderscore, or_assoc, ← List.isPrefixOf_iff_prefix]

theorem hasExposed_iff (c : Config) (has : PyStr → Bool) (name : PyStr) :
    hasExposed c has name = true ↔ HasTwin c has name := by
  simp [hasExposed, HasTwin, prefixTruthy, twin, and_assoc]

theorem plainAllowed_eq_false (c : Config) (name : PyStr) : plainAllowed c name = false ↔ ¬ NameAllowed c name := by
  rw [← plainAllowed_iff, Bool.not_eq_true]

theorem hasExposed_eq_false (c : Config) (has : PyStr → Bool) (name : PyStr) :
    hasExposed c has name = false ↔ ¬ HasTwin c has name := by
  rw [← hasExposed_iff, Bool.not_eq_true]

theorem checkAttr_eq (c : Config) (has : PyStr → Bool) (name : PyStr) (op : Op) :
    checkAttr c has name op =
      if c.perm op && (plainAllowed c name || hasExposed c has name) then
        .ok (if hasExposed c has name && (!plainAllowed c name || !has name) then twin c name else name)
      else .error .attributeError := by
  unfold checkAttr
  generalize c.perm op = p
  generalize plainAllowed c name = pl
  generalize hasExposed c has name = he
  generalize has name = hn
  cases p <;> cases pl <;> cases he <;> cases hn <;> rfl

theorem checkAttr_plain {c : Config} {has : PyStr → Bool} {name : PyStr} {op : Op} (hp : c.perm op = true)
    (hpl : plainAllowed c name = true) (h : hasExposed c has name = false ∨ has name = true) :
    checkAttr c has name op = .ok name := by
  rw [checkAttr_eq]
  rcases h with h | h <;> simp [hp, hpl, h]

theorem checkAttr_twin {c : Config} {has : PyStr → Bool} {name : PyStr} {op : Op} (hp : c.perm op = true)
    (he : hasExposed c has name = true) (h : plainAllowed c name = false ∨ has name = false) :
    checkAttr c has name op = .ok (c.exposedPrefix ++ name) := by
  rw [checkAttr_eq]
  rcases h with h | h <;> simp [hp, he, h, twin]

theorem checkAttr_denied {c : Config} {has : PyStr → Bool} {name : PyStr} {op : Op}
    (h : c.perm op = false ∨ (plainAllowed c name = false ∧ hasExposed c has name = false)) :
    checkAttr c has name op = .error .attributeError := by
  rw [checkAttr_eq]
  rcases h with h | ⟨h1, h2⟩ <;> simp [*]

theorem checkProbes_eq (c : Config) (has : PyStr → Bool) (name : PyStr) (op : Op) :
    checkProbes c has name op =
      if c.perm op then
        (if prefixTruthy c then [twin c name] else [])
          ++ (if plainAllowed c name && hasExposed c has name then [name] else [])
      else [] := by
  unfold checkProbes
  cases c.perm op <;> rfl

theorem mem_checkProbes (c : Config) (has : PyStr → Bool) (name : PyStr) (op : Op) (n : PyStr)
    (h : n ∈ checkProbes c has name op) : n = name ∨ n = twin c name := by
  rw [checkProbes_eq] at h
  cases hp : c.perm op
  · simp [hp] at h
  · cases ht : prefixTruthy c <;> cases hq : (plainAllowed c name && hasExposed c has name) <;>
      simp [hp, ht, hq] at h
    · exact Or.inl h
    · exact Or.inr h
    · exact h.symm

theorem mem_probeEvs (o : Obj) (ns : List PyStr) (e : Ev) (h : e ∈ probeEvs o ns) :
    ∃ n ∈ ns, e = .probe o.id n ∨ e ∈ o.probeExtra n := by
  induction ns with
  | nil => simp [probeEvs] at h
  | cons n ns ih =>
    simp only [probeEvs, List.mem_cons, List.mem_append] at h
    rcases h with rfl | h | h
    · exact ⟨n, by simp, Or.inl rfl⟩
    · exact ⟨n, by simp, Or.inr h⟩
    · obtain ⟨n', hn', hh⟩ := ih h
      exact ⟨n', by simp [hn'], hh⟩

theorem probeEvs_congr (o o' : Obj) (hid : o.id = o'.id) (hpe : o.probeExtra = o'.probeExtra) (ns : List PyStr) :
    probeEvs o ns = probeEvs o' ns := by
  induction ns with
  | nil => rfl
  | cons n ns ih => simp [probeEvs, hid, hpe, ih]

theorem probeEvs_pure (o : Obj) (hp : PureProbes o) (ns : List PyStr) : probeEvs o ns = ns.map (Ev.probe o.id) := by
  induction ns with
  | nil => rfl
  | cons n ns ih => simp [probeEvs, hp n, ih]

theorem not_effect_of_mem_probeEvs (o : Obj) (hp : PureProbes o) (ns : List PyStr) (ev : Ev) (h : ev ∈ probeEvs o ns) :
    ev.isEffect = false := by
  rw [probeEvs_pure o hp] at h
  obtain ⟨n, _, rfl⟩ := List.mem_map.mp h
  rfl

theorem onlyProbes_probeEvs (o : Obj) (ns : List PyStr) : OnlyProbes o (probeEvs o ns) := by
  intro ev hev
  obtain ⟨n, _, h⟩ := mem_probeEvs o ns ev hev
  exact ⟨n, h⟩

theorem run_cases (c : Config) (o : Obj) (nm : Name) (op : Op) (hh : o.hook op = none) :
    (∃ e, decodeName nm = .error e ∧ run c o nm op = ⟨.error e, []⟩)
    ∨ (∃ name e, decodeName nm = .ok name ∧ checkAttr c o.has name op = .error e
        ∧ run c o nm op = ⟨.error e, probeEvs o (checkProbes c o.has name op)⟩)
    ∨ (∃ name n, decodeName nm = .ok name ∧ checkAttr c o.has name op = .ok n
        ∧ run c o nm op = ⟨.ok (.direct n), probeEvs o (checkProbes c o.has name op) ++ [.access o.id op n]⟩) := by
  unfold run
  cases hd : decodeName nm with
  | error e => exact Or.inl ⟨e, rfl, rfl⟩
  | ok name =>
    simp only [runNamed, hh, runDefault]
    cases hc : checkAttr c o.has name op with
    | error e => exact Or.inr (Or.inl ⟨name, e, rfl, hc, rfl⟩)
    | ok n => exact Or.inr (Or.inr ⟨name, n, rfl, hc, rfl⟩)

theorem mem_run_log (c : Config) (o : Obj) (nm : Name) (op : Op) (hh : o.hook op = none) (ev : Ev)
    (hev : ev ∈ (run c o nm op).log) :
    ∃ name, decodeName nm = .ok name ∧
      (ev ∈ probeEvs o (checkProbes c o.has name op)
        ∨ ∃ n, checkAttr c o.has name op = .ok n ∧ ev = .access o.id op n) := by
  rcases run_cases c o nm op hh with ⟨e, _, h⟩ | ⟨name, e, hd, _, h⟩ | ⟨name, n, hd, hc, h⟩ <;> rw [h] at hev
  · cases hev
  · exact ⟨name, hd, Or.inl hev⟩
  · rcases List.mem_append.mp hev with h | h
    · exact ⟨name, hd, Or.inl h⟩
    · exact ⟨name, hd, Or.inr ⟨n, hc, List.mem_singleton.mp h⟩⟩

theorem mem_probeEvs_restrictedView (id t : Nat) (attrs : List PyStr) (w : Option (List PyStr)) (vo th : PyStr → Bool)
    (ns : List PyStr) (ev : Ev) (h : ev ∈ probeEvs (restrictedView id t attrs w vo th) ns) :
    (∃ n, ev = .probe id n) ∨ ∃ n ∈ ns, attrs.contains n = true ∧ ev = .access t .get n := by
  obtain ⟨n, hn, h⟩ := mem_probeEvs _ ns ev h
  rcases h with rfl | h
  · exact Or.inl ⟨n, rfl⟩
  · simp only [restrictedView] at h
    split at h
    · rename_i hc
      exact Or.inr ⟨n, hn, (Bool.and_eq_true _ _ ▸ hc).2, List.mem_singleton.mp h⟩
    · cases h

theorem run_denied (c : Config) (o : Obj) (nm : Name) (op : Op) (e : Err)
    (hh : o.hook op = none) (h : (run c o nm op).out = .error e) :
    OnlyProbes o (run c o nm op).log ∧ (PureProbes o → (run c o nm op).log.filter Ev.isEffect = []) := by
  rcases run_cases c o nm op hh with ⟨_, _, hr⟩ | ⟨name, _, _, _, hr⟩ | ⟨_, _, _, _, hr⟩ <;> rw [hr] at h ⊢
  · exact ⟨fun _ hev => (nomatch hev), fun _ => rfl⟩
  · exact ⟨onlyProbes_probeEvs o _, fun hp =>
      List.filter_eq_nil_iff.mpr fun ev hev => by simp [not_effect_of_mem_probeEvs o hp _ ev hev]⟩
  · cases h

theorem run_hooked (c : Config) (o : Obj) (nm : Name) (op : Op) (h : Hook) (hh : o.hook op = some h) :
    run c o nm op = match decodeName nm with
      | .error e => ⟨.error e, []⟩
      | .ok name => runHook o h name op := by
  unfold run
  cases decodeName nm <;> simp [runNamed, hh]

theorem run_congr (c : Config) (o o' : Obj) (nm : Name) (op : Op) (hid : o.id = o'.id) (hhas : o.has = o'.has)
    (hpe : o.probeExtra = o'.probeExtra) (hh : o.hook op = o'.hook op) : run c o nm op = run c o' nm op := by
  unfold run runNamed runDefault runHook
  rw [hid, hhas, hh, funext (probeEvs_congr o o' hid hpe)]

theorem handleCmp_noHook (r : Bool) (c : Config) (o ty : Obj) (opName : Name) (ho : o.hook .get = none) :
    handleCmp r c o ty opName = thenCall ty (run c ty opName .get) := by
  cases r <;> simp [handleCmp, ho]

theorem thenCall_error (o : Obj) (r : Res) (e : Err) (h : (thenCall o r).out = .error e) :
    r.out = .error e ∧ (thenCall o r).log = r.log := by
  unfold thenCall at h ⊢
  cases hr : r.out with
  | ok a => cases a <;> simp [hr] at h
  | error e' => simp [hr] at h ⊢; exact h

/-- read-then-call is `callattr`, `ctxexit`, `cmp` and each stage of `oldslicing` -/
theorem getcall_denied (c : Config) (o : Obj) (nm : Name) (e : Err)
    (hh : o.hook .get = none) (h : (thenCall o (run c o nm .get)).out = .error e) :
    OnlyProbes o (thenCall o (run c o nm .get)).log
    ∧ (PureProbes o → (thenCall o (run c o nm .get)).log.filter Ev.isEffect = []) := by
  obtain ⟨hr, hl⟩ := thenCall_error o _ e h
  rw [hl]
  exact run_denied c o nm .get e hh hr

theorem getcall_effects (c : Config) (o : Obj) (nm : Name) (hh : o.hook .get = none) (hp : PureProbes o)
    (ev : Ev) (hev : ev ∈ (thenCall o (run c o nm .get)).log) (heff : ev.isEffect = true) :
    ∃ s n, decodeName nm = .ok s ∧ checkAttr c o.has s .get = .ok n
      ∧ (ev = .access o.id .get n ∨ ev = .call o.id n) := by
  have noProbe : ∀ ns, ev ∉ probeEvs o ns := fun ns h => by
    rw [not_effect_of_mem_probeEvs o hp ns ev h] at heff; cases heff
  rcases run_cases c o nm .get hh with ⟨_, _, hr⟩ | ⟨_, _, _, _, hr⟩ | ⟨s, n, hs, hc, hr⟩ <;> rw [hr] at hev
  · cases hev
  · exact absurd hev (noProbe _)
  · refine ⟨s, n, hs, hc, ?_⟩
    simp only [thenCall] at hev
    split at hev
    · simpa [noProbe] using hev
    · exact Or.inl (by simpa [noProbe] using hev)

@[simp] theorem upd_none {α} (a : α) : upd none a = a := rfl
@[simp] theorem upd_some {α} (a b : α) : upd (some b) a = b := rfl

theorem upd_idem {α} (o : Option α) (a : α) : upd o (upd o a) = upd o a := by
  cases o <;> rfl

theorem applyOverlay_idem (c : Config) (ov : Overlay) : applyOverlay (applyOverlay c ov) ov = applyOverlay c ov := by
  simp [applyOverlay, upd_idem]

theorem onConnectSlave_idem (c : Config) : onConnectSlave (onConnectSlave c) = onConnectSlave c :=
  applyOverlay_idem c slaveOverlay

@[simp] theorem setDict_dfltSet (w : HWorld) (r : Ref) (d : HDict) : (w.setDict r d).dfltSet = w.dfltSet := rfl
@[simp] theorem setDict_conns (w : HWorld) (r : Ref) (d : HDict) : (w.setDict r d).conns = w.conns := rfl
@[simp] theorem setDict_servers (w : HWorld) (r : Ref) (d : HDict) : (w.setDict r d).servers = w.servers := rfl
@[simp] theorem setDict_same (w : HWorld) (r : Ref) (d : HDict) : (w.setDict r d).dicts r = d := by
  simp [HWorld.setDict]
theorem setDict_other {w : HWorld} {r r' : Ref} {d : HDict} (h : r' ≠ r) : (w.setDict r d).dicts r' = w.dicts r' := by
  simp [HWorld.setDict, h]
@[simp] theorem hsetConn_dfltSet (w : HWorld) (i : Nat) (c : HConn) : (w.setConn i c).dfltSet = w.dfltSet := rfl
@[simp] theorem hsetConn_dicts (w : HWorld) (i : Nat) (c : HConn) : (w.setConn i c).dicts = w.dicts := rfl
@[simp] theorem hsetConn_servers (w : HWorld) (i : Nat) (c : HConn) : (w.setConn i c).servers = w.servers := rfl
@[simp] theorem hsetConn_same (w : HWorld) (i : Nat) (c : HConn) : (w.setConn i c).conns i = c := by
  simp [HWorld.setConn]
theorem hsetConn_other {w : HWorld} {i j : Nat} {c : HConn} (h : j ≠ i) : (w.setConn i c).conns j = w.conns j := by
  simp [HWorld.setConn, h]

@[simp] theorem addToSafe_nil (w : HWorld) (ch : List Ref) : addToSafe w ch [] = w := rfl

theorem setDict_setDict (w : HWorld) (r : Ref) (d d' : HDict) : (w.setDict r d).setDict r d' = w.setDict r d' := by
  unfold HWorld.setDict
  congr 1
  funext k
  by_cases h : k = r <;> simp [h]

/-- the dict object a good-mode open creates for connection `i` from the dict object `arg` -/
def goodOwnDict (cs : Bool) (w : HWorld) (arg : Ref) (classic : Bool) : HDict :=
  if classic then
    (if cs then ((w.dicts .dflt).update (w.dicts arg)).freezeSafe w.dfltSet
     else (w.dicts .dflt).update (w.dicts arg)).update slaveDict
  else (if cs then ((w.dicts .dflt).update (w.dicts arg)).freezeSafe w.dfltSet
        else (w.dicts .dflt).update (w.dicts arg))

theorem openConn_good (kp cs : Bool) (w : HWorld) (i : Nat) (arg : Ref) (classic : Bool) :
    openConn (Modes.good kp cs) w i arg classic
      = (w.setDict (.own i) (goodOwnDict cs w arg classic)).setConn i (.live [.own i]) := by
  cases classic
  · rfl
  · simp [openConn, Modes.good, initConn, headRef, goodOwnDict, setDict_setDict]

theorem lookB_congr (d d' : Ref → HDict) (ch : List Ref) (k : BKey) (h : ∀ r ∈ ch, d r = d' r) :
    lookB d ch k = lookB d' ch k := by
  induction ch with
  | nil => rfl
  | cons r rs ih => simp [lookB, h r (by simp), ih (fun x hx => h x (by simp [hx]))]

theorem lookP_congr (d d' : Ref → HDict) (ch : List Ref) (h : ∀ r ∈ ch, d r = d' r) : lookP d ch = lookP d' ch := by
  induction ch with
  | nil => rfl
  | cons r rs ih => simp [lookP, h r (by simp), ih (fun x hx => h x (by simp [hx]))]

theorem lookS_congr (d d' : Ref → HDict) (ch : List Ref) (h : ∀ r ∈ ch, d r = d' r) : lookS d ch = lookS d' ch := by
  induction ch with
  | nil => rfl
  | cons r rs ih => simp [lookS, h r (by simp), ih (fun x hx => h x (by simp [hx]))]

theorem cfgOfChain_congr (w w' : HWorld) (ch : List Ref) (h : ∀ r ∈ ch, w.dicts r = w'.dicts r)
    (hs : w.dfltSet = w'.dfltSet) : w.cfgOfChain ch = w'.cfgOfChain ch := by
  have hsc : w.safeContent = w'.safeContent := by
    funext v; cases v <;> simp [HWorld.safeContent, hs]
  simp only [HWorld.cfgOfChain, lookP_congr _ _ ch h, lookS_congr _ _ ch h, hsc,
    fun k => lookB_congr _ _ ch k h]

theorem hstep_open (m : Modes) (w : HWorld) (i d : Nat) (classic : Bool) :
    hstep m w (.open i d classic) = if w.conns i = .fresh then openConn m w i (.app d) classic else w := by
  simp only [hstep]
  cases w.conns i <;> rfl

theorem hstep_serverConn (m : Modes) (w : HWorld) (i k : Nat) (classic : Bool) :
    hstep m w (.serverConn i k classic)
      = match w.servers k with
        | some r => if w.conns i = .fresh then openConn m (w.setDict (.tmp i) (w.dicts r)) i (.tmp i) classic else w
        | none => w := by
  simp only [hstep]
  cases w.conns i <;> cases w.servers k <;> rfl

theorem hstep_newServer (m : Modes) (w : HWorld) (k : Nat) (d : Option Nat) :
    (hstep m w (.newServer k d)).conns = w.conns
    ∧ (hstep m w (.newServer k d)).dfltSet = w.dfltSet
    ∧ (∀ r, r ≠ .srv k → (hstep m w (.newServer k d)).dicts r = w.dicts r)
    ∧ ∀ x, (hstep m w (.newServer k d)).servers x
        = if x = k ∧ w.servers k = none then some (serverRef m k d) else w.servers x := by
  simp only [hstep]
  cases hs : w.servers k with
  | some r => exact ⟨rfl, rfl, fun _ _ => rfl, fun x => by simp⟩
  | none =>
    have hsrv : ∀ x, (if x = k then some (serverRef m k d) else w.servers x)
        = if x = k ∧ (none : Option Ref) = none then some (serverRef m k d) else w.servers x := by simp
    cases d with
    | none => exact ⟨rfl, rfl, fun _ _ => rfl, hsrv⟩
    | some n =>
      cases m.serverKeepsGiven
      · exact ⟨rfl, rfl, fun r hr => setDict_other hr, hsrv⟩
      · exact ⟨rfl, rfl, fun _ _ => rfl, hsrv⟩

@[simp] theorem initConn_conns (m : InitMode) (cs : Bool) (w : HWorld) (i : Nat) (arg : Ref) :
    (initConn m cs w i arg).1.conns = w.conns := by
  cases m <;> rfl

@[simp] theorem addToSafe_conns (w : HWorld) (ch : List Ref) (names : List PyStr) :
    (addToSafe w ch names).conns = w.conns := by
  unfold addToSafe
  cases names with
  | nil => rfl
  | cons n ns =>
    cases lookS w.dicts ch with
    | none => rfl
    | some v => cases v <;> rfl

theorem openConn_conns_other {m : Modes} {w : HWorld} {i : Nat} {arg : Ref} {classic : Bool} {j : Nat} (hj : j ≠ i) :
    (openConn m w i arg classic).conns j = w.conns j := by
  unfold openConn
  simp only [hsetConn_other hj]
  cases classic <;> cases m.classic.writesCallerDict <;> simp

theorem hstep_conns_other (m : Modes) (w : HWorld) (e : HEvent) (j : Nat) (h : e.conn ≠ some j) :
    (hstep m w e).conns j = w.conns j := by
  revert h
  -- only a connect of a fresh slot and a close of a live one write `conns`
  fun_cases hstep m w e <;> intro h
  any_goals rfl
  next => exact openConn_conns_other (fun x => h (x ▸ rfl))
  next => exact hsetConn_other (fun x => h (x ▸ rfl))
  next => rw [openConn_conns_other (fun (x : j = _) => h (x ▸ rfl)), setDict_conns]

/-- ownership: every established connection's `_config` is exactly the one dict object created for it -/
def OwnInv (w : HWorld) : Prop :=
  ∀ i ch, (w.conns i = .live ch ∨ w.conns i = .closed ch) → ch = [.own i]

theorem ownInv_init : OwnInv HWorld.init := by
  intro i ch h; simp [HWorld.init] at h

/-- every server holds either the caller's dict object it was given, or the one it made for itself -/
def SrvInv (w : HWorld) : Prop := ∀ k r, w.servers k = some r → r = .srv k ∨ ∃ d, r = .app d

theorem srvInv_init : SrvInv HWorld.init := by
  intro k r h; simp [HWorld.init] at h

/-- the dict objects event `e` writes in world `w`: a connect makes `own i` (a server's connect also its per-client
`tmp i`), an edit writes the object named or the one the server holds, constructing server `k` initialises `srv k` -/
def HEvent.writes (w : HWorld) (r : Ref) : HEvent → Prop
  | .open i _ _ => w.conns i = .fresh ∧ r = .own i
  | .serverConn i _ _ => w.conns i = .fresh ∧ (r = .own i ∨ r = .tmp i)
  | .editDict r' _ => r = r'
  | .editServer k _ => w.servers k = some r ∧ r.editable = true
  | .newServer k _ => r = .srv k
  | _ => False

/-- `w'` is `w` after the good-mode event `e`, component by component: a slot stays, or is newly established on its own
dict object, or is closed with its chain kept; only growing the default set in place changes it; only the dict objects
`e` writes change; a server entry stays or is filled by a construction -/
structure GoodEffect (kp cs : Bool) (w w' : HWorld) (e : HEvent) : Prop where
  conns : ∀ j, w'.conns j = w.conns j ∨ (w.conns j = .fresh ∧ w'.conns j = .live [.own j])
    ∨ ∃ ch, w.conns j = .live ch ∧ w'.conns j = .closed ch
  dfltSet : e.fair = true → w'.dfltSet = w.dfltSet
  dicts : ∀ r, ¬ e.writes w r → w'.dicts r = w.dicts r
  servers : ∀ k, w'.servers k = w.servers k ∨ ∃ d, w'.servers k = some (serverRef (Modes.good kp cs) k d)

theorem GoodEffect.refl (kp cs : Bool) (w : HWorld) (e : HEvent) : GoodEffect kp cs w w e :=
  ⟨fun _ => Or.inl rfl, fun _ => rfl, fun _ _ => rfl, fun _ => Or.inl rfl⟩

theorem GoodEffect.wrote (kp cs : Bool) (w : HWorld) (e : HEvent) (r : Ref) (d : HDict) (h : e.writes w r) :
    GoodEffect kp cs w (w.setDict r d) e :=
  ⟨fun _ => Or.inl rfl, fun _ => rfl, fun _ hr' => setDict_other (fun x => hr' (x ▸ h)), fun _ => Or.inl rfl⟩

/-- a connect of the fresh slot `i`, possibly after other dict objects (`w₀`) that `e` writes were prepared -/
theorem GoodEffect.opened (kp cs : Bool) (w w₀ : HWorld) (e : HEvent) (i : Nat) (arg : Ref) (classic : Bool)
    (hf : w.conns i = .fresh) (hc : w₀.conns = w.conns) (hs : w₀.dfltSet = w.dfltSet) (hv : w₀.servers = w.servers)
    (hd : ∀ r, ¬ e.writes w r → r ≠ .own i ∧ w₀.dicts r = w.dicts r) :
    GoodEffect kp cs w (openConn (Modes.good kp cs) w₀ i arg classic) e := by
  rw [openConn_good]
  refine ⟨fun j => ?_, fun _ => hs, fun r hr => ?_, fun k => Or.inl (by rw [hsetConn_servers, setDict_servers, hv])⟩
  · by_cases hji : j = i
    · subst hji; exact Or.inr (Or.inl ⟨hf, hsetConn_same _ _ _⟩)
    · exact Or.inl (by rw [hsetConn_other hji, setDict_conns, hc])
  · rw [hsetConn_dicts, setDict_other (hd r hr).1, (hd r hr).2]

theorem hstep_good_effect (kp cs : Bool) (w : HWorld) (e : HEvent) :
    GoodEffect kp cs w (hstep (Modes.good kp cs) w e) e := by
  cases e with
  | «open» i d classic =>
    rw [hstep_open]
    split
    · rename_i hf
      exact .opened kp cs w w _ i _ _ hf rfl rfl rfl (fun r hr => ⟨fun x => hr ⟨hf, x⟩, rfl⟩)
    · exact .refl kp cs w _
  | serverConn i k classic =>
    rw [hstep_serverConn]
    split
    · split
      · rename_i hf
        exact .opened kp cs w _ _ i _ _ hf rfl rfl rfl
          (fun r hr => ⟨fun x => hr ⟨hf, Or.inl x⟩, setDict_other (fun x => hr ⟨hf, Or.inr x⟩)⟩)
      · exact .refl kp cs w _
    · exact .refl kp cs w _
  | close i =>
    simp only [hstep]
    split
    · rename_i ch hl
      refine ⟨fun j => ?_, fun _ => rfl, fun _ _ => rfl, fun _ => Or.inl rfl⟩
      by_cases hji : j = i
      · subst hji; exact Or.inr (Or.inr ⟨ch, hl, hsetConn_same _ _ _⟩)
      · exact Or.inl (hsetConn_other hji)
    · exact .refl kp cs w _
  | access i => exact .refl kp cs w _
  | editDict r ov => exact .wrote kp cs w _ r _ rfl
  | editServer k ov =>
    simp only [hstep]
    split
    · split
      · rename_i hs hed; exact .wrote kp cs w _ _ _ ⟨hs, hed⟩
      · exact .refl kp cs w _
    · exact .refl kp cs w _
  | mutDfltSet names => exact ⟨fun _ => Or.inl rfl, fun hf => (nomatch hf), fun _ _ => rfl, fun _ => Or.inl rfl⟩
  | newServer k d =>
    obtain ⟨h1, h2, h3, h4⟩ := hstep_newServer (Modes.good kp cs) w k d
    refine ⟨fun j => Or.inl (by rw [h1]), fun _ => h2, h3, fun k' => ?_⟩
    rw [h4]
    split
    · rename_i h; exact Or.inr ⟨d, by rw [h.1]⟩
    · exact Or.inl rfl

theorem hstep_good_ownInv (kp cs : Bool) (w : HWorld) (e : HEvent) (h : OwnInv w) : OwnInv (hstep (Modes.good kp cs) w e) := by
  intro j ch hj
  rcases (hstep_good_effect kp cs w e).conns j with heq | ⟨_, hl⟩ | ⟨c, hlive, hc⟩
  · rw [heq] at hj; exact h j ch hj
  · rw [hl] at hj
    rcases hj with hj | hj
    · injection hj with hj; exact hj.symm
    · cases hj
  · rw [hc] at hj
    rcases hj with hj | hj
    · cases hj
    · injection hj with hj; subst hj; exact h j c (Or.inl hlive)

theorem hstep_good_srvInv (kp cs : Bool) (w : HWorld) (e : HEvent) (h : SrvInv w) : SrvInv (hstep (Modes.good kp cs) w e) := by
  intro k r hr
  rcases (hstep_good_effect kp cs w e).servers k with heq | ⟨d, hnew⟩
  · rw [heq] at hr; exact h k r hr
  · rw [hnew] at hr
    injection hr with hr
    subst hr
    cases d with
    | none => exact Or.inl rfl
    | some d => cases kp
                · exact Or.inl rfl
                · exact Or.inr ⟨d, rfl⟩

theorem hstep_good_ownDict (kp cs : Bool) (w : HWorld) (e : HEvent) (j : Nat) (hf : e.fair = true) (hj : w.conns j ≠ .fresh) :
    (hstep (Modes.good kp cs) w e).dicts (.own j) = w.dicts (.own j) := by
  refine (hstep_good_effect kp cs w e).dicts _ (fun hw => ?_)
  cases e with
  | «open» i d classic => exact hj (Ref.own.inj hw.2 ▸ hw.1)
  | serverConn i k classic =>
    rcases hw.2 with h | h
    · exact hj (Ref.own.inj h ▸ hw.1)
    · cases h
  | editDict r' ov => subst hw; cases hf
  | editServer k ov => cases hw.2
  | newServer k d => cases hw
  | _ => exact hw

/-- dict objects that belong to the application: the module defaults, its settings dicts, its servers' own dicts -/
def Ref.appOwned : Ref → Bool
  | .dflt => true
  | .app _ => true
  | .srv _ => true
  | .srvShared => true
  | _ => false

/-- may this event edit the application's dict object `r`?  A direct edit of `r`; an edit through a server, which
goes to whatever object that server holds — never the module defaults, and `srv k` only through server `k` (`SrvInv`);
the construction of server `k`, which initialises `srv k`. -/
def HEvent.mayEdit (r : Ref) : HEvent → Bool
  | .editDict r' _ => r' == r
  | .editServer k _ =>
    match r with
    | .dflt => false
    | .srv k' => k == k'
    | .srvShared => false
    | _ => true
  | .newServer k _ => r == .srv k
  | _ => false

/-- rpyc itself (connects, per-client dicts of a server, closes, requests, server construction) never writes a dict
object of the application: only the application's own edits do -/
theorem hstep_good_sharedDicts (kp cs : Bool) (w : HWorld) (e : HEvent) (r : Ref) (hr : r.appOwned = true)
    (hsrv : SrvInv w) (he : e.mayEdit r = false) : (hstep (Modes.good kp cs) w e).dicts r = w.dicts r := by
  refine (hstep_good_effect kp cs w e).dicts r (fun hw => ?_)
  cases e with
  | «open» i d classic => rw [hw.2] at hr; cases hr
  | serverConn i k classic => rcases hw.2 with h | h <;> (rw [h] at hr; cases hr)
  | editDict r' ov => subst hw; simp [HEvent.mayEdit] at he
  | newServer k d => subst hw; simp [HEvent.mayEdit] at he
  | editServer k ov =>
    rcases hsrv k r hw.1 with rfl | ⟨d, rfl⟩ <;> simp [HEvent.mayEdit] at he
  | _ => exact hw

theorem mayEdit_srv (k : Nat) (e : HEvent) (h1 : ∀ ov, e ≠ .editDict (.srv k) ov) (h2 : ∀ ov, e ≠ .editServer k ov)
    (h3 : ∀ d, e ≠ .newServer k d) : e.mayEdit (.srv k) = false := by
  cases e with
  | editDict r ov =>
    cases hr : r == Ref.srv k
    · exact hr
    · exact absurd (by rw [eq_of_beq hr]) (h1 ov)
  | editServer k' ov =>
    cases hk : k' == k
    · exact hk
    · exact absurd (by rw [eq_of_beq hk]) (h2 ov)
  | newServer k' d =>
    cases hk : Ref.srv k == Ref.srv k'
    · exact hk
    · exact absurd (by rw [Ref.srv.inj (eq_of_beq hk)]) (h3 d)
  | _ => rfl

theorem hstep_good_frozen (kp cs : Bool) (w : HWorld) (e : HEvent) (j : Nat) (hinv : OwnInv w) (hf : e.fair = true)
    (hj : w.conns j ≠ .fresh) : (hstep (Modes.good kp cs) w e).cfgOf j = w.cfgOf j ∧ (hstep (Modes.good kp cs) w e).conns j ≠ .fresh := by
  have key : (hstep (Modes.good kp cs) w e).cfgOfChain [Ref.own j] = w.cfgOfChain [Ref.own j] :=
    cfgOfChain_congr _ _ _ (fun r hr => List.mem_singleton.mp hr ▸ hstep_good_ownDict kp cs w e j hf hj)
      ((hstep_good_effect kp cs w e).dfltSet hf)
  rcases (hstep_good_effect kp cs w e).conns j with heq | ⟨hfresh, _⟩ | ⟨c, hlive, hc⟩
  · refine ⟨?_, by rw [heq]; exact hj⟩
    simp only [HWorld.cfgOf, heq]
    cases hw : w.conns j with
    | fresh => exact absurd hw hj
    | live c => rw [hinv j c (Or.inl hw)]; exact key
    | closed c => rw [hinv j c (Or.inr hw)]; exact key
  · exact absurd hfresh hj
  · refine ⟨?_, by rw [hc]; simp⟩
    simp only [HWorld.cfgOf, hc, hlive, hinv j c (Or.inl hlive)]
    exact key

/-- `C` is the restriction on the events of the history, `I` an invariant of such steps, `f` a reading of the world
that such steps leave as it is where `I` holds; a caller that needs only one of `I`, `f` passes a trivial other. -/
theorem hrun_keeps (m : Modes) (f : HWorld → α) (I : HWorld → Prop) (C : HEvent → Prop)
    (hI : ∀ w e, I w → C e → I (hstep m w e)) (hf : ∀ w e, I w → C e → f (hstep m w e) = f w) :
    ∀ (evs : List HEvent) (w : HWorld), I w → (∀ e ∈ evs, C e) → I (hrun m w evs) ∧ f (hrun m w evs) = f w
  | [], _, h, _ => ⟨h, rfl⟩
  | e :: es, w, h, hC => by
    have he := hC e (List.mem_cons_self ..)
    obtain ⟨h1, h2⟩ := hrun_keeps m f I C hI hf es _ (hI w e h he) (fun x hx => hC x (List.mem_cons_of_mem _ hx))
    exact ⟨h1, h2.trans (hf w e h he)⟩

theorem hrun_good_ownInv (kp cs : Bool) (evs : List HEvent) (w : HWorld) (h : OwnInv w) : OwnInv (hrun (Modes.good kp cs) w evs) :=
  (hrun_keeps _ (fun _ => ()) OwnInv (fun _ => True) (fun w e h _ => hstep_good_ownInv kp cs w e h) (fun _ _ _ _ => rfl)
    evs w h (fun _ _ => trivial)).1

theorem hrun_good_srvInv (kp cs : Bool) (evs : List HEvent) (w : HWorld) (h : SrvInv w) : SrvInv (hrun (Modes.good kp cs) w evs) :=
  (hrun_keeps _ (fun _ => ()) SrvInv (fun _ => True) (fun w e h _ => hstep_good_srvInv kp cs w e h) (fun _ _ _ _ => rfl)
    evs w h (fun _ _ => trivial)).1

theorem hrun_good_frozen (kp cs : Bool) (evs : List HEvent) (w : HWorld) (j : Nat) (hinv : OwnInv w)
    (hf : ∀ e ∈ evs, e.fair = true) (hj : w.conns j ≠ .fresh) : (hrun (Modes.good kp cs) w evs).cfgOf j = w.cfgOf j :=
  (hrun_keeps _ (fun w => w.cfgOf j) (fun w => OwnInv w ∧ w.conns j ≠ .fresh) (fun e => e.fair = true)
    (fun w e h he => ⟨hstep_good_ownInv kp cs w e h.1, (hstep_good_frozen kp cs w e j h.1 he h.2).2⟩)
    (fun w e h he => (hstep_good_frozen kp cs w e j h.1 he h.2).1) evs w ⟨hinv, hj⟩ hf).2

theorem hrun_conns_other (m : Modes) (evs : List HEvent) (w : HWorld) (j : Nat) (h : ∀ e ∈ evs, e.conn ≠ some j) :
    (hrun m w evs).conns j = w.conns j :=
  (hrun_keeps m (fun w => w.conns j) (fun _ => True) (fun e => e.conn ≠ some j) (fun _ _ _ _ => trivial)
    (fun w e _ he => hstep_conns_other m w e j he) evs w trivial h).2

theorem hrun_good_sharedDicts (kp cs : Bool) (evs : List HEvent) (w : HWorld) (r : Ref) (hr : r.appOwned = true)
    (hsrv : SrvInv w) (he : ∀ e ∈ evs, e.mayEdit r = false) :
    (hrun (Modes.good kp cs) w evs).dicts r = w.dicts r :=
  (hrun_keeps _ (fun w => w.dicts r) SrvInv (fun e => e.mayEdit r = false) (fun w e h _ => hstep_good_srvInv kp cs w e h)
    (fun w e h he => hstep_good_sharedDicts kp cs w e r hr h he) evs w hsrv he).2

theorem hrun_good_dfltSet (kp cs : Bool) (evs : List HEvent) (w : HWorld) (hf : ∀ e ∈ evs, e.fair = true) :
    (hrun (Modes.good kp cs) w evs).dfltSet = w.dfltSet :=
  (hrun_keeps _ (fun w => w.dfltSet) (fun _ => True) (fun e => e.fair = true) (fun _ _ _ _ => trivial)
    (fun w e _ he => (hstep_good_effect kp cs w e).dfltSet he) evs w trivial hf).2

end Rpyc.Policy
