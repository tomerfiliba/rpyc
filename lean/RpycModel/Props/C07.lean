import RpycModel.Proto.HandlersLemmas
import RpycModel.Proto.HandlersBridge
/-
C07 — a hostile peer cannot step outside what the service exposes.

The model is Proto/Handlers.lean.

Every theorem quantifies over
  * `b : Ctx` — the connection's configuration, the service root, and the environment: what every primitive operation
    on a Python object answers (any value, any exception, any number of callbacks into the peer, stateful), plus
    `str()` of plain values and the bounds `maxCb`, `depth`;
  * `bursts : List (List Wire)` — any finite sequence of well-framed messages (each an arbitrary decoded value, an
    undecodable payload, or an empty frame), grouped in any way into bursts (what is in the inbox at once);
  * `fuel : Nat` — how many messages a burst may serve and how deep waits may nest; where it runs out a burst is left
    unserved (`serveBurst 0`) and a wait raises `notModelled` (`awaitF 0`), so every theorem holds of every such cut-off run.
`run b fuel {} bursts` is the state of a fresh connection after serving them (`serve_all`, nested dispatch while
a handler waits for the peer included).  The numbers (1) to (6) in the doc comments are those of the list of theorems that
DESIGN.md gives for C07.
-/
namespace Rpyc.Props.C07
open Rpyc Rpyc.Handlers

theorem reachable_inv (b : Ctx) (fuel : Nat) (bursts : List (List Wire)) :
    Inv b.cfg b.root (run b fuel {} bursts) :=
  (run_ok b fuel bursts {} (Inv.init _ _)).1

/-- **(1)**, any configuration: every `getattr/setattr/delattr` the protocol performs through the
default accessor has its operation kind enabled and a name the configuration allows (`_check_attr` let it through),
and every `hasattr` probe of `_check_attr` is on an allowed name.  This covers the operator name of `HANDLE_CMP`
(the CVE-2019-16328 shape), `__exit__` in `HANDLE_CTXEXIT`, both names of `HANDLE_OLDSLICING`, `HANDLE_CALLATTR`. -/
theorem touch_policy (b : Ctx) (fuel : Nat) (bursts : List (List Wire)) (t : Touch)
    (ht : Ev.touch t ∈ (run b fuel {} bursts).log) :
    (∀ op, t.kind = .attr op → b.cfg.perm op = true ∧ plainAllowed b.cfg t.name = true) ∧
    (t.kind = .probe → plainAllowed b.cfg t.name = true) := by
  have := (reachable_inv b fuel bursts).touch_good ht
  unfold Touch.good at this
  constructor
  · intro op hk
    rw [hk] at this
    simpa using this
  · intro hk
    rw [hk] at this
    exact this

/-- (1) under the generated default configuration, in the statement's words: only reads, and only of names that
carry the exposed prefix or are on the safe list -/
theorem touch_policy_default (b : Ctx) (hcfg : b.cfg = defaultConfig) (fuel : Nat) (bursts : List (List Wire))
    (t : Touch) (ht : Ev.touch t ∈ (run b fuel {} bursts).log) (op : Op) (hk : t.kind = .attr op) :
    op = .get ∧ (Gen.Handlers.cfgExposedPrefix.isPrefixOf t.name = true ∨ Gen.Handlers.cfgSafe.contains t.name = true) := by
  obtain ⟨hp, hn⟩ := (touch_policy b fuel bursts t ht).1 op hk
  rw [hcfg] at hp hn
  constructor
  · cases op with
    | get => rfl
    | set => exact absurd hp (by decide)
    | del => exact absurd hp (by decide)
  · have e1 : defaultConfig.allowAll = false := by decide
    have e2 : defaultConfig.allowPublic = false := by decide
    have e3 : defaultConfig.exposedPrefix = Gen.Handlers.cfgExposedPrefix := rfl
    have e4 : defaultConfig.safe = Gen.Handlers.cfgSafe := rfl
    simp only [plainAllowed, e1, e2, e3, e4, Bool.false_or, Bool.false_and, Bool.or_false, Bool.or_eq_true,
      Bool.and_eq_true] at hn
    rcases hn with h | h
    · exact Or.inl h.2
    · exact Or.inr h.2

/-- **(3)**: no `pickle.dumps` unless `allow_pickle` -/
theorem no_pickle (b : Ctx) (hcfg : b.cfg.allowPickle = false) (fuel : Nat) (bursts : List (List Wire)) (t : Touch)
    (ht : Ev.touch t ∈ (run b fuel {} bursts).log) : t.kind ≠ .pickle := by
  intro hk
  have := (reachable_inv b fuel bursts).touch_good ht
  simp [Touch.good, hk, hcfg] at this

/-- **(4)**: no `__import__` unless `import_custom_exceptions`; no lookup in `sys.modules` unless one of the
two exception switches is on — whatever exception payload arrives.  (A class is read out of a present module's namespace
as data; there is no attribute access on a module in the model at all.) -/
theorem no_import (b : Ctx) (hi : b.cfg.importCustomExc = false) (fuel : Nat) (bursts : List (List Wire)) (t : Touch)
    (ht : Ev.touch t ∈ (run b fuel {} bursts).log) :
    t.kind ≠ .import_ ∧ (b.cfg.instantiateCustomExc = false → t.kind ≠ .modPresent) := by
  have := (reachable_inv b fuel bursts).touch_good ht
  constructor
  · intro hk
    simp [Touch.good, hk, hi] at this
  · intro hj hk
    simp [Touch.good, hk, hi, hj] at this

/-- obligation on the interpreter: `hash(slice(...))` works (CPython >= 3.12; measured by the generator on the interpreter
the checks run under), so every decoded value is hashable and looking an arbitrary peer-sent identifier up in the table
(`tableGet`, `decref`) fails with `KeyError`, never `TypeError`, as the model has it -/
theorem interpreter_hashes_slices : Gen.sliceHashable = true := by decide

/-- (3)+(4) for the generated default configuration -/
theorem default_gates_closed :
    defaultConfig.allowPickle = false ∧ defaultConfig.importCustomExc = false ∧ defaultConfig.instantiateCustomExc = false := by
  decide

/-- **(2)**: at every point of every history, every object that is an operand of a primitive operation
(subject or argument, at any tuple depth) is the service root or was handed to the protocol code by the environment
earlier in this connection's log (the result of an earlier permitted operation, or an argument the service itself
chose to send) — the protocol never conjures a reference. -/
theorem touch_caps (b : Ctx) (fuel : Nat) (bursts : List (List Wire)) (pre post : List Ev) (t : Touch)
    (h : (run b fuel {} bursts).log = pre ++ .touch t :: post) : ∀ o ∈ t.needs, o ∈ known b.root pre := by
  have hj := (reachable_inv b fuel bursts).just
  rw [h] at hj
  intro o ho
  have := justifiedFrom_split [b.root] pre post t hj o ho
  simpa [known] using this

/-- (2) **the table only holds such objects**: it grows only by boxing results of performed operations, callback
arguments of the service, or the root (`getroot`) -/
theorem table_growth (b : Ctx) (fuel : Nat) (bursts : List (List Wire)) (s : Slot)
    (hs : s ∈ (run b fuel {} bursts).table) : s.o ∈ known b.root (run b fuel {} bursts).log :=
  (reachable_inv b fuel bursts).tbl s hs

/-- (2) **what the peer holds is what was boxed for it**: every entry of the table was put there by `_box`
(`_local_objects.add`) under that very id pack - the `lent` events of the log are exactly the objects passed by
reference in frames written to this peer (results, callback arguments, the root) -/
theorem table_only_lent (b : Ctx) (fuel : Nat) (bursts : List (List Wire)) (s : Slot)
    (hs : s ∈ (run b fuel {} bursts).table) : Ev.lent s.key s.o ∈ (run b fuel {} bursts).log :=
  (reachable_inv b fuel bursts).lent s hs

/-- (2) **a LOCAL_REF yields only an object that was lent to this peer on this connection**: in every reachable state, an
identifier the table knows unboxes to the object stored under it, and that object was boxed for this peer under the
stored id pack; the objects the environment merely returned to the protocol (`known`: modules looked up, `type(obj)`,
attribute values not yet sent) are not reachable by identifier unless and until they are boxed -/
theorem local_ref_only_lent (b : Ctx) (fuel : Nat) (bursts : List (List Wire)) (c : Ctx) (fut : List Wire) (f : Nat)
    (key : Val) (s : Slot) (h : lookupSlot (run b fuel {} bursts).table key = some s) :
    unbox (f + 1) (.tuple [.int Gen.Handlers.labelLocalRef, key]) c (run b fuel {} bursts) fut
        = ⟨.ok (.obj s.o), run b fuel {} bursts, fut⟩
      ∧ Ev.lent s.key s.o ∈ (run b fuel {} bursts).log := by
  refine ⟨?_, table_only_lent b fuel bursts s (List.mem_of_find?_eq_some h)⟩
  rw [unbox_localRef, h]

/-- (2) **only lent objects are nameable, at any tuple depth**: whatever package arrives, if its first pass
(`_resolve_local_refs`) succeeds in a reachable state, then every object of the resolved package is the object of an
entry of this connection's table, and that entry was put there by `_box` under that very identifier (`lent` event) -/
theorem nested_local_refs_only_lent (b : Ctx) (fuel : Nat) (bursts : List (List Wire)) (c : Ctx) (fut : List Wire)
    (f : Nat) (pkg : Val) (p : Pkg) (h : (resolve f pkg c (run b fuel {} bursts) fut).r = .ok p) :
    ∀ o ∈ p.objs, ∃ s ∈ (run b fuel {} bursts).table, s.o = o ∧ Ev.lent s.key o ∈ (run b fuel {} bursts).log := by
  intro o ho
  obtain ⟨s, hs, e⟩ := (resolve_table c _ f pkg fut).2.2 p h o ho
  exact ⟨s, hs, e, e ▸ (reachable_inv b fuel bursts).lent s hs⟩

/-- (2) the same for `_unbox` as a whole: every local object in the value `_unbox` builds from any package, at any
depth, is a lent table object — the second pass adds proxies for the peer's own objects and nothing else -/
theorem unbox_only_lent (b : Ctx) (fuel : Nat) (bursts : List (List Wire)) (c : Ctx) (fut : List Wire)
    (f : Nat) (pkg : Val) (v : PV) (h : (unbox f pkg c (run b fuel {} bursts) fut).r = .ok v) :
    ∀ o ∈ v.objs, ∃ s ∈ (run b fuel {} bursts).table, s.o = o ∧ Ev.lent s.key o ∈ (run b fuel {} bursts).log := by
  intro o ho
  obtain ⟨s, hs, e⟩ := unbox_table c _ f pkg fut v h o ho
  exact ⟨s, hs, e, e ▸ (reachable_inv b fuel bursts).lent s hs⟩

/-- (2) whatever was lent had been handed to the protocol code by the environment (a result of a performed operation,
an argument the service chose to send) or is the root: `lent ⊆ known`, and only `lent` is nameable by the peer -/
theorem lent_known (b : Ctx) (fuel : Nat) (bursts : List (List Wire)) (k : Val) (o : Nat)
    (h : Ev.lent k o ∈ (run b fuel {} bursts).log) : o ∈ known b.root (run b fuel {} bursts).log :=
  (reachable_inv b fuel bursts).lentK k o h

/-- (2) **LOCAL_REF resolves only through this connection's table**: in any state, an identifier that is not a key
of the table (forged, stale, harvested from another connection) makes `_unbox` raise `KeyError` and changes nothing;
an identifier that is a key yields exactly the object stored under it. -/
theorem local_ref_only_table (c : Ctx) (st : St) (fut : List Wire) (f : Nat) (key : Val) :
    (lookupSlot st.table key = none →
      unbox (f + 1) (.tuple [.int Gen.Handlers.labelLocalRef, key]) c st fut = ⟨.error (Exc.ofErr .keyError), st, fut⟩) ∧
    (∀ s, lookupSlot st.table key = some s →
      unbox (f + 1) (.tuple [.int Gen.Handlers.labelLocalRef, key]) c st fut = ⟨.ok (.obj s.o), st, fut⟩) := by
  constructor
  · intro h
    rw [unbox_localRef, h]
  · intro s h
    rw [unbox_localRef, h]

/-- (2) **every identifier of a package is resolved before anything else happens**: the first pass of `_unbox`
(`_resolve_local_refs`) reads the table and changes nothing — no proxy is created and no request goes to the peer
(`HANDLE_INSPECT`) until every LOCAL_REF of the package, at any tuple depth, has been found in the table -/
theorem local_refs_resolved_first (c : Ctx) (f : Nat) (pkg : Val) (st : St) (fut : List Wire) :
    (resolve f pkg c st fut).st = st ∧ (resolve f pkg c st fut).fut = fut :=
  resolve_quiet c f pkg st fut

/-- **(5) outcome_total**, per request: whatever the payload, `_dispatch_request` logs the request, then balanced
activity (the handler's touches; nested requests, each with its own answer), then exactly one answer carrying this
request's sequence value: a reply, an exception reply, or an abort record (the exception is re-raised in the
serving thread — `KeyboardInterrupt` under the default configuration — or nothing can be written any more). -/
theorem outcome_total_request (c : Ctx) (hA : AwaitOK c) (seq raw : Val) (st : St) (fut : List Wire)
    (hI : Inv c.cfg c.root st) :
    ∃ l e, (dispatchRequest seq raw c st fut).st.log = st.log ++ [.request seq] ++ l ++ [e] ∧ balL l = 0 ∧
      e.answers seq :=
  let ⟨_, l, e, h1, h2, _, h4⟩ := dispatchRequest_step c hA seq raw st fut hI
  ⟨l, e, h1, h2, h4⟩

/-- **(5)**, per history: after any message sequence the number of requests dispatched equals the number
of replies + exception replies + abort records; replies / exceptions from the peer and garbage never produce a frame
with a request's answer (they are delivered, dropped, ignored, or end the connection) -/
theorem outcome_total (b : Ctx) (fuel : Nat) (bursts : List (List Wire)) : balL (run b fuel {} bursts).log = 0 := by
  obtain ⟨l, e, hb⟩ := (run_ok b fuel bursts {} (Inv.init _ _)).2.ext
  have : ({} : St).log = [] := rfl
  rw [e, this, List.nil_append]; exact hb

/-- an exception that leaves `serve()` at the top level (an undecodable or malformed message, a hostile reply whose
payload does not unbox, an abort) ends this one connection: `serve_all` records it and closes -/
theorem top_level_error_ends (b : Ctx) (f : Nat) (st : St) (w : Wire) (rest : List Wire) (x : Exc) (st' : St)
    (fut' : List Wire) (hI : Inv b.cfg b.root st) (hc : st.closed = false)
    (h : dispatch w (b.tie f) st rest = ⟨.error x, st', fut'⟩) :
    Ev.ended x.cls ∈ (serveBurst b (f + 1) st (w :: rest)).log := by
  have hA : AwaitOK (b.tie f) := awaitF_ok b f
  have h1 := ((Sat.dispatch hA w).reach hI rest).1
  rw [h] at h1
  have hI2 : Inv b.cfg b.root { st' with log := st'.log ++ [.ended x.cls] } := h1.note _ rfl rfl rfl rfl
  obtain ⟨l, e, _⟩ := (closeConn_ok (b.tie f) hA _ hI2).2.ext
  unfold serveBurst
  simp only [hc, Bool.false_eq_true, if_false, h]
  rw [e]
  simp

/-- the decision function these theorems are about is the one C06 characterises (`Rpyc.Policy.checkAttr`), and the
import gate is the one C09 characterises (`Rpyc.Vinegar.importAttempted`): the layers are tied, not copies drifting apart -/
theorem policy_and_loader_gates_are_the_layers (c : Config) (o : Bool) (has : PyStr → Bool) (n : PyStr) (op : Op)
    (env : Vinegar.Env) (m : Val) :
    checkAttr c has n op = Policy.checkAttr (Bridge.toPolicy c o) has n (Bridge.toOp op) ∧
    (c.importCustomExc && !env.loaded m) = Vinegar.importAttempted (Bridge.toRecv c o) env m ∧
    Bridge.toPolicy defaultConfig Gen.Policy.cfgInstantiateOldstyleExceptions = Policy.defaultConfig :=
  ⟨Bridge.checkAttr_eq c o has n op, Bridge.importGate_eq c o env m, Bridge.defaultConfig_eq⟩

/-- **(6)**: the handler table of the source is exactly the one the model dispatches on -/
theorem closed_world : Gen.Handlers.handlerTable = modelledHandlers := rfl

/-- the numbers of positional arguments the handlers accept are the ones the model binds argument lists against -/
theorem closed_world_params : Gen.Handlers.handlerArity = modelledArity := rfl

/-- the primitive touches in the handler bodies are the ones the model was transcribed from -/
theorem closed_world_touches : Gen.Handlers.handlerTouches = modelledTouches := rfl

/-- building the class of a proxy after the peer's HANDLE_INSPECT answer resolves the peer-chosen dotted name by lookups in
`sys.modules` and a read of the module's namespace (`classLookup`): the calls of `netref.class_factory` are the modelled
ones — no `getattr` on a module (which would run a module-level `__getattr__`), nothing that imports -/
theorem closed_world_class_factory : Gen.Handlers.classFactoryCalls = modelledClassFactoryCalls := rfl

/-- `classLookup` tries the whole name, then every dotted prefix from the right, e.g. for `a.b.C` -/
example : dotCuts [97, 46, 98, 46, 67] = [([97, 46, 98, 46, 67], []), ([97, 46, 98], [67]), ([97], [98, 46, 67])] := by decide

/-! ### non-vacuity: concrete histories, evaluated by the kernel -/

/-- an environment: the root's id pack (for GETROOT), "the type has no hook", "no exposed twin" (for `secret`), then for
`val`: no hook, `hasattr(root, "exposed_val")` is true, `getattr` returns 7; finally `on_disconnect` returns -/
def sampleEnv : Nat → Move
  | 0 => .done (.ret (.imm (.tuple [.str [115, 118, 99], .int 10, .int 20])))
  | 1 => .done (.ret (.imm .none))
  | 2 => .done (.ret (.imm (.bool false)))
  | 3 => .done (.ret (.imm .none))
  | 4 => .done (.ret (.imm (.bool true)))
  | 5 => .done (.ret (.imm (.int 7)))
  | 6 => .done (.ret (.imm .none))
  | _ => .done (.raise { cls := "Unexpected" })

def sampleCtx : Ctx :=
  { cfg := defaultConfig, root := 0, env := sampleEnv, strOf := fun _ => [], maxCb := 3, depth := 10,
    await := fun st _ fut => (.raise (Exc.ofErr .notModelled), st, fut) }

def rootId : Val := .tuple [.str [115, 118, 99], .int 10, .int 20]
def getattrMsg (seq : Int) (idp : Val) (name : List Nat) : Wire :=
  .val (.tuple [.int 1, .int seq, .tuple [.int 4, .tuple [.int 2, .tuple [.tuple [.int 3, idp], .tuple [.int 1, .str name]]]]])

/-- GETROOT; GETATTR(root, "secret"); GETATTR with a forged id (instance id + 8); GETATTR(root, "val");
a reply nobody asked for; a value that is not a message (ends the connection) -/
def sampleMsgs : List (List Wire) :=
  [[.val (.tuple [.int 1, .int 7, .tuple [.int 3, .tuple [.int 1, .tuple []]]])],
   [getattrMsg 8 rootId [115, 101, 99, 114, 101, 116],
    getattrMsg 9 (.tuple [.str [115, 118, 99], .int 10, .int 28]) [115, 101, 99, 114, 101, 116],
    getattrMsg 10 rootId [118, 97, 108]],
   [.val (.tuple [.int 2, .int 0, .tuple [.int 1, .int 5]]), .val (.int 5)]]

def evTag : Ev → String
  | .request _ => "request" | .touch t => (if t.kind == .probe then "probe" else if t.kind == .hookLookup then "hook?"
      else if t.kind == .attr .get then "getattr" else if t.kind == .idpack then "idpack" else if t.kind == .cleanup then "cleanup" else "touch")
  | .answer _ => "answer" | .reply _ _ => "reply" | .exc _ cls => "exc:" ++ cls | .ignored _ => "ignored"
  | .ended cls => "ended:" ++ cls | .outReq _ _ _ => "req" | .cleaned => "cleaned" | .lent _ _ => "lent" | _ => "other"

/-- the whole history, event by event: `secret` is refused after one probe and no access; the forged id is refused with
KeyError before anything is touched; `val` is served through its exposed twin; the stray reply is ignored; the
non-message ends the connection (HANDLE_CLOSE to the peer, cleanup, `on_disconnect`) -/
example : (run sampleCtx 20 {} sampleMsgs).log.map evTag =
    ["request", "idpack", "answer", "lent", "reply",
     "request", "hook?", "answer", "probe", "answer", "exc:AttributeError",
     "request", "exc:KeyError",
     "request", "hook?", "answer", "probe", "answer", "getattr", "answer", "reply",
     "ignored", "ended:TypeError", "req", "cleaned", "cleanup", "answer"] := by decide +kernel

/-- so the hypotheses of (1) are met by a real access: the one `getattr` of that history is on `exposed_val` -/
example : (run sampleCtx 20 {} sampleMsgs).log.any (fun e => match e with
    | .touch t => t.kind == .attr .get && t.name == [101, 120, 112, 111, 115, 101, 100, 95, 118, 97, 108]
    | _ => false) = true := by decide +kernel

/-- after the first two bursts the table holds exactly the root (count 0); the closed connection holds nothing -/
example : (run sampleCtx 20 {} (sampleMsgs.take 2)).table.map (fun s => s.o) = [0]
    ∧ (run sampleCtx 20 {} sampleMsgs).table.length = 0 := by decide +kernel

/-- and every request of it was answered exactly once -/
example : balL (run sampleCtx 20 {} sampleMsgs).log = 0 := outcome_total _ _ _

/-- `AwaitOK`, the hypothesis of the per-request theorem, holds for the waiting function the runs use -/
example (b : Ctx) (f : Nat) : AwaitOK (b.tie f) := awaitF_ok b f

/-- cross-type equality in lookups is modelled: label `3.0`, handler `True`, message type `1+0j` -/
example : pyEqNat (.float 0x4008000000000000) 3 = true ∧ pyEqNat (.bool true) 1 = true
    ∧ pyEqNat (.complex 0x3FF0000000000000 0) 1 = true ∧ pyEqNat (.float 0x3FF8000000000000) 1 = false := by decide +kernel

end Rpyc.Props.C07
