import RpycModel.Proto.CallsSim
/-
C01 — remote calls compute what a local call would, at any nesting depth.

The model is Proto/Calls.lean: the call-tree language and its two semantics.

What the language covers: programs over two peers whose functions call each other (directly, through callables
handed over as positional or keyword arguments, through functions returned as results), nest to any depth in both
directions, build and return tuples mixing immutable values and references, raise built-in exceptions with any
arguments and catch them (`except cls` / `except Exception`) at any level.  Hypotheses: the program's
constants are serializable values inside brine's domain (C04) and references the owning side may hold; keyword names
of one call are distinct; `repr` (the parameter) yields serializable text.  Not covered: mutation of objects,
exception attributes / tracebacks (C09), release of references during the computation (C10), sequence numbers (C08).
-/
namespace Rpyc.Props.C01
open Rpyc Rpyc.Calls

/-- **A computation spread over the two peers gives the same answer as the same computation in one process.**
For every well-formed program, every entry call (made by code at side `s` that may hold its arguments), and every
fuel: `evalDist` and `evalLocal` end with the same outcome — the same value, or an exception of the same class whose
arguments are equal after the normalisation a crossing applies (`dumpable ? itself : repr`), or both are out of fuel —
and with the same invocation counter of every function: each call ran its target exactly as often as the local run. -/
theorem evalDist_eq_evalLocal (R : Params) (hR : ReprOk R) (P : Prog) (st0 : St) (hP : Prog.wf P st0 = true)
    (s : Side) (callee : PyVal) (args : List PyVal) (kws : List (Name × PyVal))
    (hentry : CallOk st0 s callee args kws) (fuel : Nat) :
    ((evalDist R P fuel s callee args kws st0).1.normalize R = (evalLocal R P fuel s callee args kws st0).1.normalize R)
    ∧ (evalDist R P fuel s callee args kws st0).2.count = (evalLocal R P fuel s callee args kws st0).2.count := by
  have h := (sim_all R P st0 hR hP fuel).2.2 s callee args kws st0 st0 hentry (St.le_refl _) rfl
  exact ⟨h.out, h.cnt⟩

/-- the value part: whatever the one-process run returns, the distributed run returns — equal brine value, the same
object for a reference, member by member for a mixed tuple -/
theorem same_value (R : Params) (hR : ReprOk R) (P : Prog) (st0 : St) (hP : Prog.wf P st0 = true)
    (s : Side) (callee : PyVal) (args : List PyVal) (kws : List (Name × PyVal))
    (hentry : CallOk st0 s callee args kws) (fuel : Nat) (v : PyVal) :
    (evalLocal R P fuel s callee args kws st0).1 = .ret v ↔ (evalDist R P fuel s callee args kws st0).1 = .ret v := by
  have h := (evalDist_eq_evalLocal R hR P st0 hP s callee args kws hentry fuel).1
  rcases normalize_cases R _ _ h with ⟨w, hd, hl⟩ | ⟨w, hd, hl⟩ | ⟨e, e', hd, hl, _⟩ | ⟨x, hd, hl⟩ <;> simp [hd, hl]

/-- the exception part: the distributed run raises iff the one-process run raises, with the same class and the same
normalised arguments -/
theorem same_exception (R : Params) (hR : ReprOk R) (P : Prog) (st0 : St) (hP : Prog.wf P st0 = true)
    (s : Side) (callee : PyVal) (args : List PyVal) (kws : List (Name × PyVal))
    (hentry : CallOk st0 s callee args kws) (fuel : Nat) (e : Exc) :
    (evalLocal R P fuel s callee args kws st0).1 = .exc e →
      ∃ e', (evalDist R P fuel s callee args kws st0).1 = .exc e' ∧ e'.cls = e.cls ∧ e'.normalize R = e.normalize R := by
  intro hl
  have h := (evalDist_eq_evalLocal R hR P st0 hP s callee args kws hentry fuel).1
  rcases normalize_cases R _ _ h with ⟨w, hd, hl'⟩ | ⟨w, hd, hl'⟩ | ⟨e1, e2, hd, hl', hee⟩ | ⟨x, hd, hl'⟩
  all_goals rw [hl] at hl'
  all_goals try (cases hl')
  exact ⟨e1, hd, cls_of_normalize hee, hee⟩

/-- **exactly once**: entering a function, locally or through the connection, bumps its counter by one and runs its
body once on the counters so bumped (the one-process semantics; the distributed one has equal counters by the main
theorem) -/
theorem local_call_runs_once (R : Params) (P : Prog) (f : Nat) (s o : Side) (fid : Nat) (fn : Fn)
    (args : List PyVal) (kws : List (Name × PyVal)) (st : St) (h : P[fid]? = some fn) (ho : fn.owner = o) :
    evalLocal R P (f + 1) s (.ref o fid) args kws st
      = finish (evalBlock .loc R P f fn.owner fn.body ⟨args, kws, []⟩ (st.bump fid)) := by
  simp [evalLocal, callFn, target, h, ho]

/-- **positional and keyword arguments arrive as supplied.**  A request built by `__call__` at side `s`
(`args`, `tuple(kwargs.items())`), boxed, serialized, deserialized and dispatched by the peer enters the callee with
the very argument list and keyword dictionary (names, values, order) the caller supplied; values by value, everything
else as a reference to the same object. -/
theorem kwargs_preserved (P : Prog) (s : Side) (st : St) (callee : PyVal) (args : List PyVal)
    (kws : List (Name × PyVal)) (fid : Nat) (fn : Fn)
    (hok : CallOk st s callee args kws) (ht : target P callee = some (fid, fn)) (ho : fn.owner = s.other) :
    sendRequest P s st callee args kws
      = .dispatch fid fn args kws (st.lend s (lent s (requestArgs callee args kws))) :=
  sendRequest_ok P s st callee args kws fid fn hok ht ho

/-- `dict(tuple(kwargs.items())) == kwargs` for the distinct keys of a `**kwargs` dictionary, order included -/
theorem kwargs_dict_roundtrip (kws : List (Name × PyVal)) (h : (kws.map (·.1)).Nodup) :
    dictOf (kwTuple kws) = .ok kws := dictOf_kwTuple kws h

/-- **the marshalling lemma**: box at one side, brine dump, brine load, unbox at the other side is the identity on
every well-formed value whose references to the receiver's objects the receiver still holds -/
theorem marshal_identity (s : Side) (tbl : List Nat) (x : PyVal) (hg : x.good = true) (hv : x.valid s tbl = true) :
    ∃ bs, Rpyc.Brine.dump (box s x) = .ok bs ∧ Rpyc.Brine.load bs = .ok (box s x)
      ∧ unbox s.other tbl (box s x) = .ok x := by
  obtain ⟨bs, hd, hl⟩ := wire _ (box_ok s x hg)
  exact ⟨bs, hd, hl, unbox_box s tbl x hg hv⟩

/-- a result travels back unchanged; what it lends enters the callee's table -/
theorem reply_arrives (R : Params) (o : Side) (v : PyVal) (st : St) (hg : v.good = true)
    (hv : v.valid o (st.tbl o.other) = true) :
    deliverReply R o o.other (.ret v, st) = (.ret v, st.lend o (lent o v)) :=
  deliverReply_ret R o o.other rfl v st hg hv

/-- an exception travels back as its class and normalised arguments -/
theorem exception_arrives (R : Params) (hR : ReprOk R) (e : Exc) (he : GoodExc e) (st : St) :
    deliverExc R e st = (.exc (e.normalize R), st) := deliverExc_ok R hR e he st

/-- **raised at one level, caught at another: the same control flow.**  Whatever the nesting below a `try` (calls
into the peer and back, to any depth), the distributed run enters the handler iff the one-process run does. -/
theorem caught_same_branch (R : Params) (hR : ReprOk R) (P : Prog) (st0 : St) (hP : Prog.wf P st0 = true)
    (s : Side) (body : List Stmt) (pat : Option Name) (env : Env) (sd sl : St)
    (hw : wfBlock s (st0.tbl s.other) body = true) (hm : st0.le sd) (he : EnvOk sd s env) (hc : sd.count = sl.count)
    (fuel : Nat) :
    (∃ e sd', evalBlock .dist R P fuel s body env sd = (.exc e, sd') ∧ catches pat e.cls = true)
    ↔ (∃ e sl', evalBlock .loc R P fuel s body env sl = (.exc e, sl') ∧ catches pat e.cls = true) := by
  have h := (sim_all R P st0 hR hP fuel).1 s body env sd sl hw hm he hc
  rcases hd : evalBlock .dist R P fuel s body env sd with ⟨od, sd'⟩
  rcases hl : evalBlock .loc R P fuel s body env sl with ⟨ol, sl'⟩
  rw [hd, hl] at h
  rcases normalize_cases R od ol h.out with ⟨v, rfl, rfl⟩ | ⟨v, rfl, rfl⟩ | ⟨e, e', rfl, rfl, hee⟩ | ⟨x, rfl, rfl⟩
  · simp
  · simp
  · simp [cls_of_normalize hee]
  · simp

/-! ### generated facts the model rests on -/

/-- the labels `_box` writes are pairwise distinct and are the ones `_unbox` tests for; likewise the message types -/
theorem labels_and_message_types_distinct :
    [lblValue, lblTuple, lblLocalRef, lblRemoteRef].Nodup ∧ [msgRequest, msgReply, msgException].Nodup := by decide

/-- `HANDLE_CALL` is routed to `_handle_call`, which accepts `(obj, args)` and `(obj, args, kwargs)` -/
theorem handle_call_routed :
    Gen.Netref.handlerTable.lookup Gen.Netref.handleCall = some "_handle_call"
    ∧ Gen.Netref.handlerArity.lookup Gen.Netref.handleCall = some (2, 3) := ⟨rfl, rfl⟩

/-- the proxy's `__call__` issues `HANDLE_CALL` with `(args, tuple(kwargs.items()))` (observed by running the method `_make_method` makes against a recording connection) -/
theorem call_shape :
    Gen.Netref.makeMethodShapes.lookup "__call__" = some ("(*,**)", "syncreq", "self", "HANDLE_CALL", ["$*", "tuple(items($**))"]) := by
  rfl

/-- the proxy's `__call__` takes no keyword name for itself (observed on the real made method for every parameter name
of its own signature - the only names it could capture - and for `self`, `_self`, `args`, `kwargs`, ...; `call_shape`'s
`(*,**)` says the same: no leading named parameter): whatever keyword arguments the caller supplies are the ones `kwargs_preserved` is about -/
theorem call_reserves_no_keyword : Gen.Netref.reservedKeywords = [] := by decide

/-! ### non-vacuity: a concrete program meets the hypotheses and computes across the connection -/

namespace Example
def R0 : Params := { reprOf := fun _ => [63] }
def valueError : Name := nameOf "ValueError"
def kName : Name := nameOf "k"

/-- `f0` lives on B: it calls back `f1` on A inside a `try`, handing over its own argument and a keyword argument;
`f1` raises `ValueError(k, arg)`; `f0` catches it and returns a tuple mixing a value and the reference it received -/
def prog : Prog :=
  [ ⟨.B, [ .try_ [ .call 0 (.const (.ref .A 1)) [.arg 0] [(kName, .const (.imm (.int 7)))] ] (some valueError)
             [ .ret (.tuple [.const (.imm (.int 1)), .arg 0]) ],
           .ret (.const (.imm (.int 2))) ]⟩,
    ⟨.A, [ .raise valueError [.kw kName, .arg 0] ]⟩ ]

/-- A holds a proxy of `f0` (B lent key 0), B holds a proxy of `f1` (A lent key 1) -/
def st0 : St := { count := fun _ => 0, tblA := [1], tblB := [0] }

theorem reprOk : ReprOk R0 := ⟨fun _ => (by decide : nameOk [63] = true)⟩
theorem prog_wf : Prog.wf prog st0 = true := by decide +kernel
theorem entry_ok : CallOk st0 .A (.ref .B 0) [.ref .A 5] [] :=
  ⟨⟨by decide, by decide⟩, fun a ha => by simp at ha; subst ha; exact ⟨by decide, by decide⟩, by simp,
   fun kv hkv => by simp at hkv, by simp, by simp⟩

/-- the hypotheses of the main theorem hold for it, so the two runs agree for every fuel -/
example (fuel : Nat) :
    (evalDist R0 prog fuel .A (.ref .B 0) [.ref .A 5] [] st0).2.count
      = (evalLocal R0 prog fuel .A (.ref .B 0) [.ref .A 5] [] st0).2.count :=
  (evalDist_eq_evalLocal R0 reprOk prog st0 prog_wf .A _ _ _ entry_ok fuel).2

/-- and the one-process run really computes something: the exception raised two levels down on the other side is
caught, the handler's tuple `(1, <the object A supplied>)` is the result, and each function ran once -/
example : (match evalLocal R0 prog 10 .A (.ref .B 0) [.ref .A 5] [] st0 with
    | (.ret (.tup [.imm (.int 1), .ref .A 5]), st) => st.count 0 == 1 && st.count 1 == 1
    | _ => false) = true := by decide +kernel

theorem local_result : (evalLocal R0 prog 10 .A (.ref .B 0) [.ref .A 5] [] st0).1 = .ret (.tup [.imm (.int 1), .ref .A 5]) := by
  rfl

/-- so does the distributed run — through box, brine, unbox, dispatch, the exception payload and the reply —
by the main theorem -/
example : (evalDist R0 prog 10 .A (.ref .B 0) [.ref .A 5] [] st0).1 = .ret (.tup [.imm (.int 1), .ref .A 5])
    ∧ (evalDist R0 prog 10 .A (.ref .B 0) [.ref .A 5] [] st0).2.count 0 = 1
    ∧ (evalDist R0 prog 10 .A (.ref .B 0) [.ref .A 5] [] st0).2.count 1 = 1 := by
  have hc := (evalDist_eq_evalLocal R0 reprOk prog st0 prog_wf .A _ _ _ entry_ok 10).2
  refine ⟨(same_value R0 reprOk prog st0 prog_wf .A _ _ _ entry_ok 10 _).1 local_result, ?_, ?_⟩
  · rw [hc]; rfl
  · rw [hc]; rfl
end Example

end Rpyc.Props.C01
