import RpycModel.Proto.DataModel
/-
C02 — operating on a proxy is indistinguishable from operating on the target.

The model is Proto/Forward.lean.

The theorems are about forwarding: for every object semantics (`ObjSem`, universally quantified), the request a proxy
operation issues makes the peer's handler apply to the target exactly what the operation is when applied to the
target directly.  That an operator on an object is a call of the special method of its type is CPython's data model;
it is not modelled and is tied to the code by the twin runs of the correspondence only.  Marshalling of operands and
results is C01's `marshal_identity` (values by value, objects of the target's side by reference).
-/
namespace Rpyc.Props.C02
open Rpyc Rpyc.Calls Rpyc.Forward

/-! ### the model's request table is the source's (generated: observed by running the real methods of netref.py / helpers.py against a recording connection) -/

/-- `BaseNetref` has no `__getattr__`: Python would call it after every `__getattribute__` that raised AttributeError, and
a forwarding `__getattr__` evaluates a failing attribute read on the target a second time.  Observed as well: one
`getattr(proxy, name)` through the interpreter, on a connection that answers AttributeError, costs exactly one
`HANDLE_GETATTR` request - a retry anywhere would show as a second row -/
theorem no_second_attribute_request :
    Gen.Netref.baseMethods.contains "__getattr__" = false
    ∧ Gen.Netref.failingReadRequests = ["syncreq HANDLE_GETATTR self $1"] := ⟨by decide +kernel, rfl⟩

/-- every request a `BaseNetref` method issues: handler and argument pattern (`$k` = k-th argument) -/
theorem base_requests_are_modelled :
    Gen.Netref.baseRequests =
      [("__del__", "asyncreq", "self", "HANDLE_DEL", ["self.____refcount__"]),
       ("__getattribute__", "syncreq", "self", "HANDLE_GETATTR", ["$1"]),
       ("__delattr__", "syncreq", "self", "HANDLE_DELATTR", ["$1"]),
       ("__setattr__", "syncreq", "self", "HANDLE_SETATTR", ["$1", "$2"]),
       ("__dir__", "syncreq", "self", "HANDLE_DIR", []),
       ("__hash__", "syncreq", "self", "HANDLE_HASH", []),
       ("__cmp__", "syncreq", "self", "HANDLE_CMP", ["$1", "'__cmp__'"]),
       ("__eq__", "syncreq", "self", "HANDLE_CMP", ["$1", "'__eq__'"]),
       ("__ne__", "syncreq", "self", "HANDLE_CMP", ["$1", "'__ne__'"]),
       ("__lt__", "syncreq", "self", "HANDLE_CMP", ["$1", "'__lt__'"]),
       ("__gt__", "syncreq", "self", "HANDLE_CMP", ["$1", "'__gt__'"]),
       ("__le__", "syncreq", "self", "HANDLE_CMP", ["$1", "'__le__'"]),
       ("__ge__", "syncreq", "self", "HANDLE_CMP", ["$1", "'__ge__'"]),
       ("__repr__", "syncreq", "self", "HANDLE_REPR", []),
       ("__str__", "syncreq", "self", "HANDLE_STR", []),
       ("__exit__", "syncreq", "self", "HANDLE_CTXEXIT", ["$1"]),
       ("__reduce_ex__", "syncreq", "self", "HANDLE_PICKLE", ["$1"]),
       ("__instancecheck__", "syncreq", "self", "HANDLE_INSTANCECHECK", ["$1.____id_pack__"])] := rfl

/-- the four shapes of `_make_method`, and the request of `helpers.buffiter`.  In a signature `self` stands for a leading
named parameter that receives the proxy (whatever it is called): the two shapes that forward `**kwargs` have none, so no
keyword name is kept from the target -/
theorem made_methods_are_modelled :
    Gen.Netref.makeMethodShapes =
      [("__call__", "(*,**)", "syncreq", "self", "HANDLE_CALL", ["$*", "tuple(items($**))"]),
       ("<slicers>", "(self,$1,$2,*)", "syncreq", "self", "HANDLE_OLDSLICING", ["slicers[$name]", "$name", "$1", "$2", "$*"]),
       ("__array__", "(self)", "syncreq", "self", "HANDLE_PICKLE", ["-1"]),
       ("<other>", "(*,**)", "syncreq", "self", "HANDLE_CALLATTR", ["$name", "$*", "tuple(items($**))"])]
    ∧ Gen.Netref.buffiterRequest = ("syncreq", "iter($1)", "HANDLE_BUFFITER", ["$2"]) := by
  exact ⟨rfl, rfl⟩

/-- a made `__call__` / method forwards every keyword argument: no candidate name - every parameter name of the made
functions' own signatures (a keyword is captured exactly when it names a parameter), plus `self`, `_self`, `args`,
`kwargs`, `name`, `cls`, ... - is taken by the made function for itself (observed by calling the real made methods
with each of them) — the model's `wireOf (.call args kwargs)` / `(.method n args kwargs)` forwards all of `kwargs` -/
theorem made_methods_reserve_no_keyword : Gen.Netref.reservedKeywords = [] := by decide

/-- the handler ids `wireOf` uses are the `HANDLE_*` constants of those names, and the handler table routes each of
them to the `_handle_*` method `serve` implements, with the arity the model assumes (defaults: `kwargs=()`,
`op='__cmp__'`) -/
theorem handlers_are_modelled :
    (Gen.Netref.handleIds.lookup "HANDLE_GETATTR" = some Gen.Netref.handleGetattr
      ∧ Gen.Netref.handleIds.lookup "HANDLE_SETATTR" = some Gen.Netref.handleSetattr
      ∧ Gen.Netref.handleIds.lookup "HANDLE_DELATTR" = some Gen.Netref.handleDelattr
      ∧ Gen.Netref.handleIds.lookup "HANDLE_CALL" = some Gen.Netref.handleCall
      ∧ Gen.Netref.handleIds.lookup "HANDLE_CALLATTR" = some Gen.Netref.handleCallattr
      ∧ Gen.Netref.handleIds.lookup "HANDLE_CMP" = some Gen.Netref.handleCmp
      ∧ Gen.Netref.handleIds.lookup "HANDLE_BUFFITER" = some Gen.Netref.handleBuffiter
      ∧ Gen.Netref.handleIds.lookup "HANDLE_CTXEXIT" = some Gen.Netref.handleCtxexit)
    ∧ Gen.Netref.handlerTable.map (·.2) =
        ["_handle_ping", "_handle_close", "_handle_getroot", "_handle_getattr", "_handle_delattr", "_handle_setattr",
         "_handle_call", "_handle_callattr", "_handle_repr", "_handle_str", "_handle_cmp", "_handle_hash",
         "_handle_dir", "_handle_pickle", "_handle_del", "_handle_inspect", "_handle_buffiter",
         "_handle_oldslicing", "_handle_ctxexit", "_handle_instancecheck"]
    ∧ (Gen.Netref.handlerTable.map (·.1)).Nodup
    ∧ Gen.Netref.handlerArity.lookup Gen.Netref.handleGetattr = some (2, 2)
    ∧ Gen.Netref.handlerArity.lookup Gen.Netref.handleSetattr = some (3, 3)
    ∧ Gen.Netref.handlerArity.lookup Gen.Netref.handleDelattr = some (2, 2)
    ∧ Gen.Netref.handlerArity.lookup Gen.Netref.handleCall = some (2, 3)
    ∧ Gen.Netref.handlerArity.lookup Gen.Netref.handleCallattr = some (3, 4)
    ∧ Gen.Netref.handlerArity.lookup Gen.Netref.handleCmp = some (2, 3)
    ∧ Gen.Netref.handlerArity.lookup Gen.Netref.handleBuffiter = some (2, 2)
    ∧ Gen.Netref.handlerArity.lookup Gen.Netref.handleCtxexit = some (2, 2) :=
  ⟨by decide +kernel, rfl, by decide +kernel⟩

/-- does the model treat one row `(name, get, set, del)` of the observed table the way the code was seen to -/
def localRowAgrees (row : String × String × String × String) : Bool :=
  let n := nameOf row.1
  (match row.2.1 with
   | "local" => attrClass n == .localHeld
   | "local-unless-class-unknown" => attrClass n == .klass
   | "raises" => attrClass n == .deleted
   | "remote" => attrClass n == .doc
   | "local-then-remote" => attrClass n == .localMissing
   | _ => false)
  && (match row.2.1, wireOf (.getattr n) with
   | "local", .local_ .objectAttr => true
   | "local-unless-class-unknown", .local_ .classDescriptor => true
   | "raises", .local_ .attributeError => true
   | "remote", .request h [.imm (.str m)] => h == Gen.Netref.handleGetattr && m == n
   | "local-then-remote", .request h [.imm (.str m)] => h == Gen.Netref.handleGetattr && m == n
   | _, _ => false)
  && row.2.2.1 == "local" && row.2.2.2 == "local" && Forward.localAttrs.contains n

/-- **names the netref object keeps to itself, as observed.**  `Gen.Netref.localAttrBehaviour` lists, for every name of
`LOCAL_ATTRS`, what reading / writing / deleting it on a real proxy did against a recording connection; the model agrees
row by row: read locally (the netref object holds the name), `__class__` by the class descriptor, `DELETED_ATTRS` raise,
`__doc__` always forwarded, and the names the netref object does not hold (`__dict__`, `__methods__`, `__metaclass__`,
`__getattr__`) forwarded as one `HANDLE_GETATTR` of that name - the try-local-then-remote branch; writing and deleting any
of them never leaves the proxy.  (`__class__` of a class that cannot be imported on the proxy's side is asked remotely:
`class_query`.) -/
theorem local_names_behave_as_observed :
    Gen.Netref.localAttrBehaviour.all localRowAgrees = true
    ∧ Gen.Netref.localAttrBehaviour.map (·.1) = Gen.Netref.localAttrs
    ∧ (∀ n v, Forward.localAttrs.contains n = true → wireOf (.setattr n v) = .local_ .objectAttr)
    ∧ (∀ n, Forward.localAttrs.contains n = true → wireOf (.delattr n) = .local_ .objectAttr) := by
  refine ⟨by decide +kernel, rfl, ?_, ?_⟩
  · intro n v h; simp only [wireOf, h]; rfl
  · intro n h; simp only [wireOf, h]; rfl

/-- **forwarding is faithful.**  For every object semantics, heap, target and operation that is forwarded: if the
policy lets the operation's attribute name through unchanged and keyword names are distinct, the handler applies to
the target exactly the primitive steps of the operation applied directly — same result or exception, same heap. -/
theorem forwarding_faithful {H : Type} (S : ObjSem H) (pol : Policy) (allowPickle : Bool) (target : PyVal)
    (op : ProxyOp) (hpol : ∀ perm obj n, (perm, n) ∈ policyNames op → pol perm obj n = .ok n) (hkw : kwNodup op)
    (hin : inScope op)
    (handler : Nat) (args : List PyVal) (hw : wireOf op = .request handler args) :
    serve S pol allowPickle handler (target :: args) = direct S allowPickle target op := by
  revert hw
  fun_cases wireOf op <;> intro hw <;> cases hw
  -- the seven branches answered locally are gone (`hw`); `getattr n` is sent when `attrClass n` is localMissing / doc / remote
  iterate 3 next n _ => simp [direct, hGetattr_ok S pol target n (hpol .get target n (by simp [policyNames]))]
  next n v _ => funext x; simp [direct, accessAttr, nameOfVal, hpol .set target n (by simp [policyNames])]
  next n _ => funext x; simp [direct, accessAttr, nameOfVal, hpol .del target n (by simp [policyNames])]
  next => simp [direct]  -- dir
  next => simp [direct]  -- hash
  next o other =>
    have hp : ∀ t, pol .get t (nameOf o.method) = .ok (nameOf o.method) := fun t => hpol .get t _ (by simp [policyNames])
    simp [direct, strVal, fun t => hGetattr_ok S pol t _ (hp t), andThen_apply]
  next => simp [direct]  -- repr
  next => simp [direct]  -- str
  next exc typ tb =>
    obtain ⟨⟨v, rfl, hv⟩, rfl, rfl⟩ := hin
    have hp : pol .get target (nameOf "__exit__") = .ok (nameOf "__exit__") := hpol .get target _ (by simp [policyNames])
    simp [hCtxexit, hv, exitPlain, direct, strVal, hGetattr_ok S pol target _ hp, andThen_apply]
  next => simp [direct]  -- reduceEx
  next => simp [direct]  -- instancecheck
  next a kw => simp [direct, hCall_ok S target a kw hkw]
  next n a kw =>
    simp [direct, hGetattr_ok S pol target n (hpol .get target n (by simp [policyNames])), andThen_apply, fun f => hCall_ok S f a kw hkw]
  next => simp [direct]  -- array
  next => simp [direct]  -- buffiterFetch

/-- **a denied attribute operation touches nothing.**  If the policy refuses the name, the handler returns the
policy's exception and the target's heap is unchanged (no accessor, no call ran). -/
theorem denied_no_effect {H : Type} (S : ObjSem H) (pol : Policy) (allowPickle : Bool) (target : PyVal)
    (n : Name) (e : Exc) (x : H) :
    (pol .get target n = .error e →
      serve S pol allowPickle Gen.Netref.handleGetattr [target, .imm (.str n)] x = (.error e, x)
      ∧ ∀ a kw, serve S pol allowPickle Gen.Netref.handleCallattr [target, .imm (.str n), a, kw] x = (.error e, x))
    ∧ (pol .set target n = .error e →
      ∀ v, serve S pol allowPickle Gen.Netref.handleSetattr [target, .imm (.str n), v] x = (.error e, x))
    ∧ (pol .del target n = .error e →
      serve S pol allowPickle Gen.Netref.handleDelattr [target, .imm (.str n)] x = (.error e, x)) := by
  refine ⟨fun h => ⟨?_, fun a kw => ?_⟩, fun h v => ?_, fun h => ?_⟩
  · simp [hGetattr, accessAttr_denied pol .get target n e _ h]
  · simp [andThen, hGetattr, accessAttr_denied pol .get target n e _ h]
  · simp [accessAttr_denied pol .set target n e _ h]
  · simp [accessAttr_denied pol .del target n e _ h]

/-- **any finite sequence of operations.**  If every operation of the sequence is permitted (its name passes the
policy unchanged; distinct keyword names), the results the proxy user sees and the final heap of the target are those
of the same sequence applied to the target itself. -/
theorem sequence_equiv {H : Type} (S : ObjSem H) (pol : Policy) (allowPickle : Bool) (target : PyVal) :
    ∀ (ops : List ProxyOp) (h : H),
      (∀ op ∈ ops, (∀ perm obj n, (perm, n) ∈ policyNames op → pol perm obj n = .ok n) ∧ kwNodup op ∧ inScope op
        ∧ isForwarded op) →
      runProxy S pol allowPickle target ops h = runDirect S allowPickle target ops h
  | [], _, _ => rfl
  | op :: ops, h, hall => by
    obtain ⟨hpol, hkw, hin, handler, args, hw⟩ := hall op (by simp)
    have ih := fun h' => sequence_equiv S pol allowPickle target ops h' (fun o ho => hall o (by simp [ho]))
    simp only [runProxy, runDirect, throughProxy, hw,
      forwarding_faithful S pol allowPickle target op hpol hkw hin handler args hw, ih]

/-! ### the interpreter's own algorithms over proxies: an independent data-model layer (Proto/DataModel.lean) -/

/-- a made special method of a proxy is the target type's method: for every object semantics in which special methods
are looked up on the type (`SpecialBound`) and a policy that passes the name -/
theorem proxy_method_is_type_method {H : Type} (S : ObjSem H) (pol : Policy) (ap defines : Bool) (x : PyVal) (name : Name)
    (hpol : ∀ obj, pol .get obj name = .ok name) (hb : SpecialBound S x name) :
    proxyMeth S pol ap defines x name = directMeth S defines x name := by
  unfold proxyMeth directMeth
  cases defines
  · rfl
  · simp only [if_true, Option.some.injEq]
    funext o
    have := forwarding_faithful S pol ap x (.method name [o] []) (policy_passes rfl hpol) List.nodup_nil trivial _ _ rfl
    simp only [wireOf] at this ⊢
    rw [this]
    simpa [direct] using hb o

/-- a comparison method of a proxy is the target type's comparison method (HANDLE_CMP looks it up on the type itself) -/
theorem proxy_cmp_is_type_method {H : Type} (S : ObjSem H) (pol : Policy) (ap : Bool) (x : PyVal) (op : CmpOp)
    (hpol : ∀ obj, pol .get obj (nameOf op.method) = .ok (nameOf op.method)) :
    proxyCmp S pol ap x op = directMeth S true x (nameOf op.method) := by
  unfold proxyCmp directMeth
  simp only [if_true, Option.some.injEq]
  funext o
  have := forwarding_faithful S pol ap x (.cmp op o) (policy_passes rfl hpol) trivial trivial _ _ rfl
  simp only [wireOf] at this ⊢
  rw [this]
  simp [direct]

/-- **a binary operator between proxies (or a proxy and a value) is the operator between the targets**: the
interpreter's dispatch — left method, `NotImplemented` / absence, reflected method of the right operand, TypeError —
runs on the same methods, so a `NotImplemented` answered by the target reaches the caller's interpreter unchanged and
the reflected attempt is made exactly as it would be locally -/
theorem binary_operator_through_proxies {H : Type} (S : ObjSem H) (pol : Policy) (ap dl dr : Bool) (a b : PyVal)
    (name rname : Name) (hpl : ∀ obj, pol .get obj name = .ok name) (hpr : ∀ obj, pol .get obj rname = .ok rname)
    (hbl : SpecialBound S a name) (hbr : SpecialBound S b rname) (h : H) :
    binaryOp (proxyMeth S pol ap dl a name) (proxyMeth S pol ap dr b rname) a b h
      = binaryOp (directMeth S dl a name) (directMeth S dr b rname) a b h := by
  rw [proxy_method_is_type_method S pol ap dl a name hpl hbl, proxy_method_is_type_method S pol ap dr b rname hpr hbr]

/-- the same with an immutable right operand, whose reflected method is the caller's own (`5 + proxy`, `proxy + 5`) -/
theorem binary_operator_with_value {H : Type} (S : ObjSem H) (pol : Policy) (ap dl : Bool) (a b : PyVal) (name : Name)
    (valueMeth : Meth H) (hpl : ∀ obj, pol .get obj name = .ok name) (hbl : SpecialBound S a name) (h : H) :
    binaryOp (proxyMeth S pol ap dl a name) valueMeth a b h = binaryOp (directMeth S dl a name) valueMeth a b h := by
  rw [proxy_method_is_type_method S pol ap dl a name hpl hbl]

/-- **`==`, `!=`, `<`, `<=`, `>`, `>=` between two proxies are the comparisons between the targets**, including the
case where the left type answers `NotImplemented` and only the right operand's reflected method decides, and the
identity fallback of `==` / `!=` -/
theorem comparison_through_proxies {H : Type} (S : ObjSem H) (pol : Policy) (ap : Bool) (op rop : CmpOp) (a b : PyVal)
    (identical : Bool) (hpl : ∀ obj, pol .get obj (nameOf op.method) = .ok (nameOf op.method))
    (hpr : ∀ obj, pol .get obj (nameOf rop.method) = .ok (nameOf rop.method)) (h : H) :
    richCompare op (proxyCmp S pol ap a op) (proxyCmp S pol ap b rop) identical a b h
      = richCompare op (directMeth S true a (nameOf op.method)) (directMeth S true b (nameOf rop.method)) identical a b h := by
  rw [proxy_cmp_is_type_method S pol ap a op hpl, proxy_cmp_is_type_method S pol ap b rop hpr]

/-- **`with proxy:` left without an exception is `with target:`** — `__enter__` through the made method, `__exit__`
through HANDLE_CTXEXIT with `None` -/
theorem with_block_through_proxy {H : Type} (S : ObjSem H) (pol : Policy) (ap : Bool) (target : PyVal)
    (hpe : ∀ obj, pol .get obj (nameOf "__enter__") = .ok (nameOf "__enter__"))
    (hpx : ∀ obj, pol .get obj (nameOf "__exit__") = .ok (nameOf "__exit__"))
    (body : PyVal → H → H) (h : H) :
    withBlock (serve S pol ap Gen.Netref.handleCallattr [target, .imm (.str (nameOf "__enter__")), mkTup [], kwTuple []])
        (serve S pol ap Gen.Netref.handleCtxexit [target, pyNone]) body h
      = withBlock (direct S ap target (.method (nameOf "__enter__") [] []))
          (direct S ap target (.ctxExit pyNone pyNone pyNone)) body h := by
  have h1 := forwarding_faithful S pol ap target (.method (nameOf "__enter__") [] []) (policy_passes rfl hpe)
    List.nodup_nil trivial _ _ rfl
  have h2 := forwarding_faithful S pol ap target (.ctxExit pyNone pyNone pyNone) (policy_passes rfl hpx) trivial
    ⟨⟨.none, rfl, rfl⟩, rfl, rfl⟩ _ _ rfl
  rw [h1, h2]

/-- `proxy.__class__`: answered by the caller's own class of that name when the descriptor resolved it, otherwise one
request for the attribute `__class__` (forwarded like any attribute read); `NetrefClass.__get__` names the class for a
proxy of an instance and the class's class for a proxy of a class -/
theorem class_query :
    classQuery true = .local_ .classDescriptor
    ∧ classQuery false = .request Gen.Netref.handleGetattr [.imm (.str (nameOf "__class__"))]
    ∧ (∀ inst, inst ≠ 0 → netrefClassGet inst = .theClass) ∧ netrefClassGet 0 = .theMetaclass := by
  refine ⟨rfl, rfl, fun inst h => by simp [netrefClassGet, h], rfl⟩

/-- `isinstance(other_proxy, class_proxy)` decided at the caller: only a proxy of a class can be asked; a proxy whose
class id is that class is an instance iff it is not the class object itself; any other class id is forwarded to the
peer (HANDLE_INSTANCECHECK) -/
theorem instancecheck_local (c i oc oi : Nat) :
    (i ≠ 0 → instanceCheck c i oc oi = .typeError)
    ∧ (i = 0 → c = oc → instanceCheck c i oc oi = .answer (decide (oi ≠ 0)))
    ∧ (i = 0 → c ≠ oc → instanceCheck c i oc oi = .forwarded) := by
  refine ⟨fun h => by simp [instanceCheck, h], fun h1 h2 => by simp [instanceCheck, h1, h2], fun h1 h2 => by simp [instanceCheck, h1, h2]⟩

/-- **operands and the target reference travel unchanged** (the operand discipline of the property): the argument
tuple of a request — the proxy itself first — whose members are immutable values or objects living on the target's
side that the caller holds proxies of, boxed at the caller, carried by brine and unboxed at the target's side, is the
tuple that was supplied: values equal, each reference the very object (C01's marshalling lemma) -/
theorem request_operands_arrive (s : Side) (tbl : List Nat) (target : PyVal) (args : List PyVal)
    (hg : goodL (target :: args) = true) (hlen : (target :: args).length < 2 ^ 32)
    (hv : validL s tbl (target :: args) = true) :
    ∃ bs, Rpyc.Brine.dump (box s (mkTup (target :: args))) = .ok bs
      ∧ Rpyc.Brine.load bs = .ok (box s (mkTup (target :: args)))
      ∧ unbox s.other tbl (box s (mkTup (target :: args))) = .ok (mkTup (target :: args))
      ∧ itemsOf (mkTup (target :: args)) = .ok (target :: args) := by
  have hgood := mkTup_good _ hg hlen
  obtain ⟨bs, hd, hl⟩ := wire _ (box_ok s _ hgood)
  exact ⟨bs, hd, hl, unbox_box s tbl _ hgood ((valid_mkTup ..).trans hv), itemsOf_mkTup _⟩

/-- classic mode (the switches of a connection established through the live `SlaveService`, generated): every name
passes unchanged for get, set and delete, whatever attributes the object has - the `exposed_` prefix is off, so no
`exposed_` namesake is ever consulted -/
theorem classic_permits_all (has : Name → Bool) (perm : Perm) (name : Name) :
    checkAttr classicConfig has perm name = .ok name :=
  checkAttr_plain_noprefix _ _ _ _ (by cases perm <;> rfl) rfl rfl

/-- the harness's all-attributes configuration (every name allowed, `exposed_` prefix on; not a mode of rpyc's): every
name passes unchanged unless the object has an `exposed_` twin of the name but not the name itself, in which case the
twin is used — by design -/
theorem all_attrs_permits (has : Name → Bool) (perm : Perm) (name : Name)
    (h : has name = true ∨ has (allAttrsConfig.exposedPrefix ++ name) = false) :
    checkAttr allAttrsConfig has perm name = .ok name :=
  checkAttr_plain _ _ _ _ (by cases perm <;> rfl) rfl h

/-- public-attribute mode: a name that does not start with an underscore, and every name on the safe list, passes
unchanged for get, set and delete -/
theorem public_permits (has : Name → Bool) (perm : Perm) (name : Name)
    (hn : (nameOf "_").isPrefixOf name = false ∨ publicConfig.safeAttrs.contains name = true)
    (h : has name = true ∨ has (publicConfig.exposedPrefix ++ name) = false) :
    checkAttr publicConfig has perm name = .ok name := by
  apply checkAttr_plain _ _ _ _ (by cases perm <;> rfl) _ h
  have hs : publicConfig.allowSafe = true := rfl
  have hpb : publicConfig.allowPublic = true := rfl
  rcases hn with hn | hn
  · simp [Config.plain, hn, hpb]
  · simp only [Config.plain, hn, hs, Bool.and_self, Bool.or_true, Bool.true_or]

/-- the default configuration, for an object without `exposed_` twins: reading a name passes iff the name starts with
the exposed prefix or is on the safe list; writing and deleting never pass -/
theorem default_permits (has : Name → Bool) (name : Name)
    (hno : has (defaultConfig.exposedPrefix ++ name) = false) :
    (checkAttr defaultConfig has .get name = .ok name ↔
      (defaultConfig.exposedPrefix.isPrefixOf name = true ∨ defaultConfig.safeAttrs.contains name = true))
    ∧ checkAttr defaultConfig has .set name = .error attributeError
    ∧ checkAttr defaultConfig has .del name = .error attributeError := by
  have hg : defaultConfig.perm .get = true := rfl
  have hsw : defaultConfig.allowAll = false ∧ defaultConfig.allowExposed = true ∧ defaultConfig.allowSafe = true
      ∧ defaultConfig.allowPublic = false := ⟨rfl, rfl, rfl, rfl⟩
  refine ⟨?_, checkAttr_noperm _ _ _ _ rfl, checkAttr_noperm _ _ _ _ rfl⟩
  rw [checkAttr_notwin _ _ _ _ hno, hg]
  simp only [Config.plain, hsw.1, hsw.2.1, hsw.2.2.1, hsw.2.2.2]
  cases defaultConfig.exposedPrefix.isPrefixOf name <;> cases defaultConfig.safeAttrs.contains name <;>
    simp [attributeError]

/-- the special methods behind the operations the property lists: arithmetic / bitwise operators (plain, reflected,
in-place), unary operators, comparisons, indexing and slicing (`__getitem__` with a slice), containment, `len`, `iter`,
`next`, `bool`, `hash`, `str`, `repr`, `int`/`float`/`index`, `format`, context manager enter/exit, `__length_hint__` -/
def operatorMethods : List String :=
  ["__add__", "__sub__", "__mul__", "__truediv__", "__floordiv__", "__mod__", "__divmod__", "__pow__",
   "__lshift__", "__rshift__", "__and__", "__or__", "__xor__",
   "__radd__", "__rsub__", "__rmul__", "__rtruediv__", "__rfloordiv__", "__rmod__", "__rdivmod__", "__rpow__",
   "__rlshift__", "__rrshift__", "__rand__", "__ror__", "__rxor__",
   "__iadd__", "__isub__", "__imul__", "__itruediv__", "__ifloordiv__", "__imod__", "__ipow__",
   "__ilshift__", "__irshift__", "__iand__", "__ior__", "__ixor__",
   "__neg__", "__pos__", "__abs__", "__invert__",
   "__eq__", "__ne__", "__lt__", "__le__", "__gt__", "__ge__",
   "__getitem__", "__setitem__", "__delitem__", "__contains__", "__len__", "__iter__", "__next__", "__bool__",
   "__hash__", "__str__", "__repr__", "__int__", "__float__", "__index__", "__format__",
   "__enter__", "__exit__", "__length_hint__"]

/-- ... are all on the default configuration's safe list, so the default configuration permits every one of those
operations on any object (only `__matmul__`, `__reversed__`, `__round__` and friends, added to Python after the list
was written, and every ordinary method or attribute name are not) -/
theorem default_permits_operators :
    operatorMethods.all (fun m => Gen.Netref.safeAttrs.contains m) = true
    ∧ ["__matmul__", "__rmatmul__", "__imatmul__", "__reversed__", "__round__", "__trunc__", "__floor__", "__ceil__",
       "__dir__", "__class__", "append", "__dict__"].all (fun m => !Gen.Netref.safeAttrs.contains m) = true := by
  decide +kernel

/-- **`buffiter` yields exactly what plain iteration yields**, for every finite iterable, every `chunk ≥ 1`,
`max_chunk ≥ 1` and integer `factor ≥ 1` -/
theorem buffiter_all (chunk maxChunk factor : Int) (hc : 1 ≤ chunk) (hm : 1 ≤ maxChunk) (hf : 1 ≤ factor)
    (items : List PyVal) :
    buffiter chunk maxChunk factor ⟨items, none⟩ = .ok (plainIter ⟨items, none⟩) := by
  have h1 : ¬ factor < 1 := by omega
  have h2 : ¬ (chunk < 1 ∨ maxChunk < 1) := by omega
  simp only [buffiter, h1, h2, if_false, plainIter]
  rw [buffLoop_all maxChunk.toNat factor.toNat (by omega) (by omega) _ items chunk.toNat [] (by omega) (by omega)]
  simp

/-- for an iterator that raises: the same exception ends the buffered iteration, what was yielded before it is a prefix
of what plain iteration yields, and fewer than `max(chunk, max_chunk)` items are missing: exactly those of the chunk in
which the exception struck (the request of that chunk fails as a whole) -/
theorem buffiter_raising (chunk maxChunk factor : Int) (hc : 1 ≤ chunk) (hm : 1 ≤ maxChunk) (hf : 1 ≤ factor)
    (items : List PyVal) (e : Exc) :
    ∃ k, buffiter chunk maxChunk factor ⟨items, some e⟩ = .ok (items.take k, some e)
      ∧ (plainIter ⟨items, some e⟩).2 = some e
      ∧ k ≤ items.length ∧ items.length - k < max chunk.toNat maxChunk.toNat := by
  have h1 : ¬ factor < 1 := by omega
  have h2 : ¬ (chunk < 1 ∨ maxChunk < 1) := by omega
  obtain ⟨k, hk, hk1, hk2⟩ := buffLoop_raising maxChunk.toNat factor.toNat (by omega) (by omega) e (items.length + 2) items
    chunk.toNat [] (by omega) (by omega)
  exact ⟨k, by simp [buffiter, h1, h2, hk], rfl, hk1, hk2⟩

/-- every other parameter choice is refused with `ValueError` -/
theorem buffiter_rejects (chunk maxChunk factor : Int) (h : factor < 1 ∨ chunk < 1 ∨ maxChunk < 1) (it : Iter) :
    buffiter chunk maxChunk factor it = .error valueError := by
  unfold buffiter
  by_cases hf : factor < 1
  · simp [hf]
  · have : chunk < 1 ∨ maxChunk < 1 := by omega
    simp [hf, this]

/-- the guard is needed: without it `chunk = 0` yields nothing of a non-empty list, and `max_chunk = 0` truncates
after the first chunk (the behaviour of the code before its repair) -/
theorem unguarded_truncates :
    buffiterUnguarded 0 1000 2 ⟨[pyNone], none⟩ = .ok ([], none)
    ∧ buffiterUnguarded 1 0 2 ⟨[pyNone, pyNone, pyNone], none⟩ = .ok ([pyNone], none) := by
  constructor <;> rfl

/-! ### non-vacuity -/

/-- a policy that lets everything through, and a toy object semantics in which `getattr` and `call` answer and every
other primitive fails: the theorems' hypotheses are satisfiable and `serve` really reaches `apply` -/
example : ∃ (S : ObjSem Nat), serve S (fun _ _ n => .ok n) false Gen.Netref.handleCallattr
    [.ref .B 0, .imm (.str (nameOf "append")), mkTup [.imm (.int 1)], kwTuple []] 0
    = (.ok (.imm (.int 7)), 2) :=
  ⟨⟨fun p h => match p with
      | .getattr _ _ => (.ok (.ref .B 1), h + 1)
      | .call _ _ _ => (.ok (.imm (.int 7)), h + 1)
      | _ => (.error typeErrorExc, h)⟩, by
    rw [forwarding_faithful _ _ false (.ref .B 0) (.method (nameOf "append") [.imm (.int 1)] [])
      (fun _ _ _ _ => rfl) List.nodup_nil trivial _ _ rfl]
    rfl⟩

example : buffiter 3 4 2 ⟨[pyNone, pyNone, pyNone, pyNone, pyNone, pyNone, pyNone, pyNone], none⟩
    = .ok ([pyNone, pyNone, pyNone, pyNone, pyNone, pyNone, pyNone, pyNone], none) :=
  buffiter_all 3 4 2 (by decide) (by decide) (by decide) _

example : checkAttr defaultConfig (fun _ => false) .get (nameOf "__add__") = .ok (nameOf "__add__")
    ∧ checkAttr defaultConfig (fun _ => false) .get (nameOf "append") = .error attributeError
    ∧ checkAttr publicConfig (fun _ => false) .set (nameOf "value") = .ok (nameOf "value")
    ∧ checkAttr classicConfig (fun _ => false) .del (nameOf "_private") = .ok (nameOf "_private") := by
  -- the safe list is searched as text: `__add__` is the first of `operatorMethods`, `append` among the names kept out
  have hsafe : ∀ s, defaultConfig.safeAttrs.contains (nameOf s) = Gen.Netref.safeAttrs.contains s :=
    contains_map_nameOf _
  have hadd := List.all_eq_true.1 default_permits_operators.1 "__add__" (.head _)
  have happend := List.all_eq_true.1 default_permits_operators.2 "append" (by simp)
  refine ⟨(default_permits _ _ rfl).1.2 (.inr ((hsafe _).trans hadd)), ?_,
    public_permits _ _ _ (.inl (by decide +kernel)) (.inr rfl), classic_permits_all _ _ _⟩
  have hpre : defaultConfig.exposedPrefix.isPrefixOf (nameOf "append") = false := by decide +kernel
  have hno : ¬ checkAttr defaultConfig (fun _ => false) .get (nameOf "append") = .ok (nameOf "append") := by
    rw [(default_permits _ _ rfl).1, hpre, hsafe]
    simpa using happend
  rw [checkAttr_notwin _ _ _ _ rfl] at hno ⊢
  split
  · rename_i h; rw [if_pos h] at hno; exact absurd rfl hno
  · rfl

end Rpyc.Props.C02
