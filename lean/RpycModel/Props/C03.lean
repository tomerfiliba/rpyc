import RpycModel.Box.Values
import RpycModel.Props.C04
import RpycModel.Props.C10
/-
C03 — immutable plain values travel by copy with their exact type, everything else by reference; a reference
handed back to its owner is the original object; a remote object received again while its proxy is alive is that
same proxy.

`PyVal` is any value: plain values of any size and nesting, tuples mixing values and references to any depth,
objects with identity, instances of subclasses of the plain types, proxies.  Nothing is bounded.
-/
namespace Rpyc.Props.C03
open Rpyc Rpyc.Box Rpyc.Brine

/-- Whatever value `x` one end boxes, the other end's `_unbox` accepts the result and yields
what `Arrives x ·` describes: an equal plain value of exactly the same type tree, a proxy of the same key for every
object (subclass instances included), the original object for a proxy handed back, component by component through
tuples of any shape — provided the objects behind the proxies in `x` are still in the receiver's table, which C10
(`alive_while_held`) guarantees while those proxies live.  The receiver's table is not touched. -/
theorem unbox_box (x : PyVal) (t t' : Tbl) (l : Label) (s : Side)
    (hb : box t x = .ok (l, t')) (hres : ∀ id ∈ x.proxies, s.tbl id ≠ none) :
    ∃ y s', unbox s l = .ok (y, s') ∧ Arrives x y ∧ s'.tbl = s.tbl :=
  let ⟨y, s', hu, ha, ht⟩ := unbox_box_aux1 x t t' l s hb hres
  ⟨y, s', (unbox_iff_onePass s s' l y).mpr hu, ha, ht⟩

/-- **The same through the wire.**  The label tree is serialised by brine as a nested tuple; C04's round trip
(`load_dump`) returns exactly that tuple, reading it back gives the label tree `_box` produced, and `_unbox`
then yields what `Arrives` describes.  `pack`/`unpack` stand for `get_id_pack` (any injective encodable key). -/
theorem value_transfer (pack : Id → Val) (unpack : Val → Option Id) (hp : ∀ k, unpack (pack k) = some k)
    (x : PyVal) (t t' : Tbl) (l : Label) (s : Side) (bs : Bytes)
    (hb : box t x = .ok (l, t')) (hwf : (l.toVal pack).wf = true) (hd : dump (l.toVal pack) = .ok bs)
    (hres : ∀ id ∈ x.proxies, s.tbl id ≠ none) :
    load bs = .ok (l.toVal pack) ∧ parseLabel unpack l.depth (l.toVal pack) = .ok l
    ∧ ∃ y s', unbox s l = .ok (y, s') ∧ Arrives x y :=
  ⟨Rpyc.Props.C04.load_dump _ bs hwf hd,
   parse_toVal pack unpack hp l l.depth (box_known x t t' l hb) (Nat.le_refl _),
   let ⟨y, s', hu, ha, _⟩ := unbox_box x t t' l s hb hres; ⟨y, s', hu, ha⟩⟩

/-- **Plain values arrive as equal values of exactly the same type**: same constructor tree — ints stay ints, bools
bools, floats keep their bits, text stays text, tuples/frozensets/slices keep their structure — and neither table
changes. -/
theorem plain_by_value (v : Val) (hd : dumpable v = true) (t : Tbl) (s : Side) :
    box t (.imm v) = .ok (.value v, t) ∧ unbox s (.value v) = .ok (.imm v, s) := by
  simp [box, unbox, resolve, create, hd]

/-- `_box` answers `VALUE` iff the value is built only from the immutable
plain types (exact types); otherwise the label is a tuple of labels or a reference. -/
theorem by_value_iff_plain (x : PyVal) (t t' : Tbl) (l : Label) (hb : box t x = .ok (l, t')) :
    (∃ v, l = .value v) ↔ x.dumpable = true := by
  cases x with
  | imm v => obtain ⟨hd, rfl, _⟩ := box_imm_ok hb; simp [PyVal.dumpable, hd]
  | tup xs => rcases box_tup_ok hb with ⟨hd, rfl, _⟩ | ⟨hd, ls, _, rfl⟩ <;> simp [PyVal.dumpable, hd]
  | obj id => cases hb; simp [PyVal.dumpable]
  | sub v id => cases hb; simp [PyVal.dumpable]
  | proxy id pid => cases hb; simp [PyVal.dumpable]

/-- **Instances of subclasses go by reference**, whatever plain value they wrap (an enum member, a namedtuple, a
`class MyInt(int)` instance equal to a dumpable int): `REMOTE_REF`, one more box in the owner's table. -/
theorem subclass_by_ref (v : Val) (id : Id) (t : Tbl) : box t (.sub v id) = .ok (.remoteRef id, t.add id) := rfl

/-- ... and so does every other object -/
theorem object_by_ref (id : Id) (t : Tbl) : box t (.obj id) = .ok (.remoteRef id, t.add id) := rfl

/-- a tuple holding anything that is not plain — at any depth — is never sent as one value -/
theorem tuple_with_reference_not_value (xs : List PyVal) (t t' : Tbl) (l : Label) (hnd : PyVal.dumpableL xs = false)
    (hb : box t (.tup xs) = .ok (l, t')) : ∃ ls, l = .tuple ls ∧ boxL t xs = .ok (ls, t') := by
  rcases box_tup_ok hb with ⟨hd, _⟩ | ⟨_, ls, hl, rfl⟩
  · rw [hd] at hnd; cases hnd
  · exact ⟨ls, rfl, hl⟩

/-- A proxy boxed by its holder is `LOCAL_REF key` (nothing is added anywhere); the owner's
`_unbox` returns the object stored under that key — the original itself — and changes nothing. -/
theorem echo_identity (id : Id) (pid : Nat) (tHolder : Tbl) (owner : Side) (n : Nat) (h : owner.tbl id = some n) :
    box tHolder (.proxy id pid) = .ok (.localRef id, tHolder)
    ∧ unbox owner (.localRef id) = .ok (.obj id, owner) :=
  ⟨rfl, unbox_localRef h⟩

/-- ... and while the peer holds a live proxy the entry is there: in every state the C10 machine can reach
(any interleaving of sends, drops, hand-backs and deliveries), a live proxy's `LOCAL_REF` resolves to the object. -/
theorem echo_identity_reachable (ops : List Op) (k : Id) (hlive : (run St.init ops).px k ≠ none)
    (owner : Side) (hs : owner.tbl = (run St.init ops).tbl) :
    unbox owner (.localRef k) = .ok (.obj k, owner) := by
  obtain ⟨n, hn⟩ := Rpyc.Props.C10.alive_while_held ops k (Or.inl hlive)
  exact unbox_localRef (hs ▸ hn)

/-- a `LOCAL_REF` for a key the table does not hold is refused with KeyError, an unknown label with ValueError -/
theorem unbox_refuses (s : Side) (id : Id) (tag : Nat) (h : s.tbl id = none) :
    unbox s (.localRef id) = .error .keyError ∧ unbox s (.other tag) = .error .valueError := by
  simp [unbox, resolve, create, h]

/-- `_unbox` in two passes (`_resolve_local_refs`, then proxy creation) accepts exactly the packages the
one-pass walk accepts, with the same values and the same counts — the order matters only for errors and for what a
nested serve() can do in between (C10: `never_keyError_nested`, `onePass_order_counterexample`). -/
theorem unbox_two_pass_agrees (s s' : Side) (l : Label) (y : PyVal) :
    unbox s l = .ok (y, s') ↔ unboxOnePass s l = .ok (y, s') := unbox_iff_onePass s s' l y

/-- **KeyError first.**  A package that refers to a key the receiver's table does not hold is refused with KeyError in
the first pass: wherever the reference sits, whatever else the package carries (fresh references, unknown labels),
and before any proxy is created or counted. -/
theorem missing_local_ref_refused_first (s : Side) (l : Label) (h : ∃ id ∈ l.localRefs, s.tbl id = none) :
    unbox s l = .error .keyError := by
  simp [unbox, resolve_keyError_of_missing l s.tbl h]

/-- where the two orders differ: an unknown label in front of a missing local reference (ValueError before, KeyError
now), and a fresh reference in front of it (before: the proxy was created and counted first) -/
example : unbox Side.init (.tuple [.other 9, .localRef 5]) = .error .keyError
    ∧ unboxOnePass Side.init (.tuple [.other 9, .localRef 5]) = .error .valueError
    ∧ unbox Side.init (.tuple [.remoteRef 1, .tuple [.localRef 5]]) = .error .keyError := ⟨rfl, rfl, rfl⟩

/-- Receiving a key whose proxy is alive returns that very proxy object (and counts the
reference); the identity of every live proxy is untouched. -/
theorem proxy_unique (s : Side) (id : Id) (h : s.px id ≠ none) :
    ∃ s', unbox s (.remoteRef id) = .ok (.proxy id (s.pid id), s') ∧ s'.pid = s.pid
      ∧ s'.px = s.px.recv id ∧ s'.next = s.next :=
  ⟨{ s with px := s.px.recv id }, by rw [unbox_remoteRef, unboxRef_hit h], rfl, rfl, rfl⟩

/-- the same remote object received twice in a row is one proxy, whether or not one existed before -/
theorem same_proxy_twice (s s1 s2 : Side) (id : Id) (y1 y2 : PyVal)
    (h1 : unbox s (.remoteRef id) = .ok (y1, s1)) (h2 : unbox s1 (.remoteRef id) = .ok (y2, s2)) : y1 = y2 := by
  have e1 : unboxRef s id = (y1, s1) := Except.ok.inj h1
  have e2 : unboxRef s1 id = (y2, s2) := Except.ok.inj h2
  have h := unboxRef_again s id
  rw [e1, e2] at h
  exact h.symm

/-- ... and any traffic in between — any message, any label tree — leaves every live proxy alive and the same
object, so a key received again later while its proxy lives is still that proxy -/
theorem proxy_survives_traffic (l : Label) (s s' : Side) (y : PyVal) (hu : unbox s l = .ok (y, s')) (hinv : PxInv s) :
    PxInv s' ∧ ∀ k, s.px k ≠ none → s'.pid k = s.pid k ∧ s'.px k ≠ none :=
  let ⟨a, _, c⟩ := unbox_keeps l s s' y hu hinv; ⟨a, c⟩

/-- after the proxy died, the next receipt creates a new proxy object, different from every live one, counting from 1 -/
theorem fresh_proxy_is_new (s : Side) (id : Id) (hinv : PxInv s) (hdead : s.px id = none) :
    ∃ s', unbox s (.remoteRef id) = .ok (.proxy id s.next, s') ∧ s'.px id = some 1
      ∧ ∀ k, s.px k ≠ none → s.pid k ≠ s.next := by
  refine ⟨(unboxRef s id).2, by rw [unbox_remoteRef, unboxRef_miss hdead], by rw [unboxRef_px]; simp [Tbl.recv, hdead, hit], ?_⟩
  intro k hk e
  have := hinv.below k hk
  omega

theorem proxy_invariant_init : PxInv Side.init := pxInv_init

/-! ### all orders of sending, echoing back, handing out, keeping and forgetting

`Conv.run Conv.init ops` is the state after any finite sequence of conversation steps (`send` kept or not, `echo`,
`make`, `forget`, with any values).  Between steps nothing is in flight, so the C10 counts balance directly. -/

/-- **In every reachable state of a conversation** both lending directions are balanced (an end's table holds for a key
exactly what the other end's live proxy counts), no proxy counts zero, and at each end live proxies are distinct
objects with serial numbers below `next`. -/
theorem conv_invariant (ops : List ConvOp) : ConvInv (Conv.run Conv.init ops) := convInv_run ops _ convInv_init

/-- hence proxy identity holds in every reachable state: the hypothesis of `fresh_proxy_is_new` and
`proxy_survives_traffic` is always met, at both ends -/
theorem conv_proxies_identified (ops : List ConvOp) :
    PxInv (Conv.run Conv.init ops).a ∧ PxInv (Conv.run Conv.init ops).b :=
  ⟨(conv_invariant ops).2.px, (conv_invariant ops).1.px⟩

/-- ... and echo identity needs no side condition: whenever an end holds a live proxy, the owner's table holds the
key, so handing the proxy back yields the original object (in both directions) -/
theorem conv_echo_identity (ops : List ConvOp) (k : Id) :
    ((Conv.run Conv.init ops).b.px k ≠ none →
        unbox (Conv.run Conv.init ops).a (.localRef k) = .ok (.obj k, (Conv.run Conv.init ops).a))
    ∧ ((Conv.run Conv.init ops).a.px k ≠ none →
        unbox (Conv.run Conv.init ops).b (.localRef k) = .ok (.obj k, (Conv.run Conv.init ops).b)) := by
  have h := conv_invariant ops
  exact ⟨fun hl => let ⟨_, hn⟩ := h.1.alive hl; unbox_localRef hn,
         fun hl => let ⟨_, hn⟩ := h.2.alive hl; unbox_localRef hn⟩

/-- when every proxy has been let go the tables are empty again (nothing is in flight between steps) -/
theorem conv_no_leak (ops : List ConvOp) (k : Id) (h : (Conv.run Conv.init ops).b.px k = none) :
    (Conv.run Conv.init ops).a.tbl k = none :=
  (conv_invariant ops).1.released h

/-! ### one proxy although receiving it needs a round trip

Creating the first proxy of an object whose class the receiver has not seen performs a `HANDLE_INSPECT` round trip from
inside `_unbox`; a message dispatched by its nested serve() may carry the same object. -/

/-- **Still one proxy** (generated constant `oneProxyAcrossInspect`, observed on the live `_unbox`): the nested
dispatch and the outer `_unbox` end up with the same proxy object, counted twice. -/
theorem one_proxy_across_inspect (s : Side) (id : Id) (h : s.px id = none) :
    (unboxRefAcrossInspect Gen.Box.oneProxyAcrossInspect s id).1 = (unboxRefAcrossInspect Gen.Box.oneProxyAcrossInspect s id).2.1
    ∧ (unboxRefAcrossInspect Gen.Box.oneProxyAcrossInspect s id).2.2.px id = some 2 := by
  rw [oneProxy_acrossInspect]
  exact unboxRefAcrossInspect_recheck s id h

/-- **Counterexample for the check-then-insert order** (`_unbox` looking the cache up only before the round trip): two
different proxy objects for one remote object, both alive -/
theorem stale_miss_makes_two_proxies :
    (unboxRefAcrossInspect false Side.init 3).1 = .proxy 3 0 ∧ (unboxRefAcrossInspect false Side.init 3).2.1 = .proxy 3 1 := by
  constructor <;> rfl

/-- **Boxing and unboxing move the counts of C10 and nothing else**: `_box` adds exactly the by-reference keys of
the label tree it returns, in order; `_unbox` counts exactly those keys at the receiver.  (This is what a
`send ks` / `deliver` of the C10 machine abstracts: `ks = l.remoteRefs`.) -/
theorem box_unbox_counts (x : PyVal) (t t' : Tbl) (l : Label) (s s' : Side) (y : PyVal)
    (hb : box t x = .ok (l, t')) (hu : unbox s l = .ok (y, s')) :
    t' = addAll t l.remoteRefs ∧ s'.px = recvAll s.px l.remoteRefs ∧ s'.tbl = s.tbl :=
  ⟨box_adds x t t' l hb, unbox_counts l s s' y hu⟩

/-- the four label numbers of `consts.py` are distinct and select the four branches (generated constants) -/
theorem labels_distinct : labelKind Gen.Box.labelValue = .value ∧ labelKind Gen.Box.labelTuple = .tuple
    ∧ labelKind Gen.Box.labelLocalRef = .localRef ∧ labelKind Gen.Box.labelRemoteRef = .remoteRef := labelKind_table

/-! ### non-vacuity -/

/-- `(1, <list #3>, (<MyInt(5) #4>, <proxy of the peer's #9>, "a"), <list #3> again, (2, 3))` -/
def sample : PyVal :=
  .tup [.imm (.int 1), .obj 3, .tup [.sub (.int 5) 4, .proxy 9 0, .imm (.str [97])], .obj 3, .tup [.imm (.int 2), .imm (.int 3)]]

def sampleLabel : Label :=
  .tuple [.value (.int 1), .remoteRef 3, .tuple [.remoteRef 4, .localRef 9, .value (.str [97])], .remoteRef 3,
          .value (.tuple [.int 2, .int 3])]

/-- the receiver lent its object 9 earlier -/
def receiver : Side := { Side.init with tbl := Tbl.empty.add 9 }

example : ∃ t', box Tbl.empty sample = .ok (sampleLabel, t') ∧ t' 3 = some 1 ∧ t' 4 = some 0 ∧ t' 9 = none := by
  refine ⟨_, rfl, ?_, ?_, ?_⟩ <;> decide

/-- the list arrives twice as one proxy (count 2), the subclass instance as a proxy, the handed-back proxy as the
receiver's own object 9, the plain parts as values -/
example : ∃ s', unbox receiver sampleLabel = .ok (.tup [.imm (.int 1), .proxy 3 0,
      .tup [.proxy 4 1, .obj 9, .imm (.str [97])], .proxy 3 0, .imm (.tuple [.int 2, .int 3])], s')
    ∧ s'.px 3 = some 2 ∧ s'.px 4 = some 1 ∧ s'.next = 2 := by
  refine ⟨_, rfl, ?_, ?_, ?_⟩ <;> decide

/-- the hypotheses of `value_transfer` are satisfiable: an id pack shaped like rpyc's `(name, class id, instance id)` -/
def pack (k : Id) : Val := .tuple [.str [98, 46, 108], .int (1000 + k), .int k]
def unpack : Val → Option Id
  | .tuple [.str _, .int _, .int (.ofNat k)] => some k
  | _ => none

example : ∀ k, unpack (pack k) = some k := fun _ => rfl
example : (sampleLabel.toVal pack).wf = true ∧ dumpable (sampleLabel.toVal pack) = true := by decide +kernel
example : ∃ bs, dump (sampleLabel.toVal pack) = .ok bs ∧ load bs = .ok (sampleLabel.toVal pack) := by
  obtain ⟨bs, h⟩ := Rpyc.Props.C04.dump_total (sampleLabel.toVal pack) (by decide +kernel) (by decide +kernel)
  exact ⟨bs, h, Rpyc.Props.C04.load_dump _ bs (by decide +kernel) h⟩

/-- a `MyInt(5)` is by reference although `5` is by value -/
example : box Tbl.empty (.imm (.int 5)) = .ok (.value (.int 5), Tbl.empty)
    ∧ (∃ t, box Tbl.empty (.sub (.int 5) 0) = .ok (.remoteRef 0, t)) := ⟨rfl, _, rfl⟩

end Rpyc.Props.C03
