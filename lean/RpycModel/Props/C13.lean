import RpycModel.Conc.Serve
/-
C13 — when several threads issue requests on, and serve, the same connection concurrently, every request
completes at most once with the reply to that very request, each incoming message is dispatched exactly
once, sequence numbers are never reused, and the threads never deadlock or sleep through a wake-up while
data is pending.

Machine: `RpycModel/Conc/Serve/Model.lean` (any number of client threads, background serving threads and
polling threads (`poll_all` / `AsyncResult.ready`, i.e. `serve(timeout, wait_for_lock=False)`),
any interleaving at source-line granularity, a peer answering outstanding requests in any order, time
passing at any moment).  Every theorem is over `Reachable`, i.e. all interleavings, unbounded threads,
calls and steps.
-/
namespace Rpyc.Props.C13
open Rpyc.Conc.Serve

/-- The list of all seqs ever handed out has no duplicates, all lie
below the counter, and two threads that are inside calls at the same time own different seqs. -/
theorem seq_unique {s : St} (h : Reachable s) :
    s.issued.Nodup ∧ (∀ q ∈ s.issued, q < s.seqCounter) ∧
    (∀ t u, (s.loc t).hasSeq = true → (s.loc u).hasSeq = true → (s.loc t).seq = (s.loc u).seq → t = u) ∧
    (∀ t, (s.loc t).hasSeq = true → (s.loc t).seq ∈ s.issued) :=
  let i := invS_of_reachable h
  ⟨i.issued_nodup, i.issued_lt, i.seq_inj, i.seq_issued⟩

/-- the same, dynamically: the seq a new call receives was never handed out before, and nothing about it
exists yet (no callback, no answer, no result) -/
theorem seq_fresh_on_call {s s' : St} (h : Reachable s) (t : Tid) (tmo : Option Nat)
    (hs : step s (.call t tmo) = some s') :
    (s'.loc t).seq ∉ s.issued ∧ freshSeq s (s'.loc t).seq ∧ s'.issued = (s'.loc t).seq :: s.issued := by
  simp only [step, Option.ite_none_right_eq_some, Option.some.injEq] at hs
  obtain ⟨_, rfl⟩ := hs
  have i := invS_of_reachable h
  -- the new seq is the counter: everything issued is below it, and nothing at or above it has been touched
  have e : ((doCall s t (s.loc t) tmo).loc t).seq = s.seqCounter := congrArg Loc.seq (setLoc_loc_self _ _ _)
  rw [e]
  exact ⟨fun hm => Nat.lt_irrefl _ (i.issued_lt _ hm), i.fresh _ (Nat.le_refl _), rfl⟩

/-- For the k-th frame the peer ever sent: it is still in the channel, or in the hand of a thread that has not
yet dispatched it, or it has been dispatched — and then exactly once.  Never more than once. -/
theorem dispatch_once {s : St} (h : Reachable s) :
    (∀ k, s.dcount k ≤ 1) ∧
    (∀ k, k < s.nsent →
      (∃ f ∈ s.chan, f.id = k ∧ s.dcount k = 0) ∨
      (∃ t f, (s.loc t).data = some f ∧ f.id = k ∧ (s.loc t).pc.holding = true ∧ s.dcount k = 0) ∨
      (s.fstat k = .dispatched ∧ s.dcount k = 1)) := by
  have hi := invF_of_reachable h
  refine ⟨fun k => ?_, fun k hk => ?_⟩
  · rw [hi.dcount_eq k]
    split <;> omega
  cases hst : s.fstat k with
  | unsent =>
    have := (hi.unsent_iff k).1 hst
    omega
  | inChan =>
    obtain ⟨f, hf, hid⟩ := hi.stat_chan k hst
    exact .inl ⟨f, hf, hid, hi.dcount_zero (by rw [hst]; nofun)⟩
  | held t =>
    obtain ⟨f, hf, hid, hp⟩ := hi.held_data k t hst
    exact .inr (.inl ⟨t, f, hf, hid, hp, hi.dcount_zero (by rw [hst]; nofun)⟩)
  | dispatched =>
    refine .inr (.inr ⟨rfl, ?_⟩)
    rw [hi.dcount_eq k, hst]; rfl

/-- no frame is in two hands -/
theorem one_receiver {s : St} (h : Reachable s) (t u : Tid) (f g : Frame)
    (ht : (s.loc t).data = some f) (hu : (s.loc u).data = some g)
    (hpt : (s.loc t).pc.holding = true) (hpu : (s.loc u).pc.holding = true) (hid : f.id = g.id) : t = u := by
  have hi := invF_of_reachable h
  have h1 := hi.holding_stat t f ht hpt
  rw [hid, hi.holding_stat u g hu hpu] at h1
  cases h1; rfl

/-- **The two reads of one packet are never split between threads**: receiving (`poll` + `recv`, i.e. both
reads of a frame) happens only between taking and releasing the receive lock, and at most one thread is in
that region; frames leave the channel in the order the peer sent them. -/
theorem receive_exclusive {s : St} (h : Reachable s) :
    (∀ t u, (s.loc t).pc.holdsRecv = true → (s.loc u).pc.holdsRecv = true → t = u) ∧
    (∀ t, (s.loc t).pc = .p0 → s.recvLock = some t) ∧
    (s.chan.map (·.id)).Pairwise (· < ·) :=
  ⟨fun t u => recv_exclusive h t u,
   fun t hp => ((invL_of_reachable h).recv_iff t).1 (by rw [hp]; rfl),
   (invF_of_reachable h).chan_sorted⟩

/-- **A request completes at most once, with the payload of the response bearing its seq.**
`completions q` counts executions of `_is_ready = True` for the result of request `q`; whatever the result
cell holds is what the peer answered to *that* seq; a callback is popped by at most one thread.
(`answer q` is what came back for request `q`: the peer's reply, or — when the connection was closed while the
request was still pending — the end-of-connection marker with which `_cleanup` completes it.) -/
theorem own_reply {s : St} (h : Reachable s) (q : Seq) :
    s.completions q ≤ 1 ∧
    (∀ v, (s.cells q).obj = some v → ∃ e, s.answer q = some (e, v)) ∧
    (∀ e, (s.cells q).isExc = some e → ∃ v, s.answer q = some (e, v)) ∧
    (∀ t u, (s.loc t).pc.completing = true → (s.loc u).pc.completing = true →
        (s.loc t).cb = some q → (s.loc u).cb = some q → t = u) := by
  have i := invS_of_reachable h
  refine ⟨i.compl_le q, i.obj_answer q, i.exc_answer q, ?_⟩
  intro t u ht hu hcbt hcbu
  obtain ⟨q1, _, h1, _, _, hp1, _⟩ := i.completing t ht
  obtain ⟨q2, _, h2, _, _, hp2, _⟩ := i.completing u hu
  rw [hcbt] at h1; rw [hcbu] at h2
  cases h1; cases h2
  rw [hp1] at hp2
  exact Option.some.inj hp2

/-- what a finished call hands to its caller is the peer's answer to that very call -/
theorem caller_gets_own_reply {s : St} (h : Reachable s) (t : Tid) (e : Option Bool) (o : Option Nat)
    (hb : (s.loc t).bg = false) (hr : (s.loc t).result = some (.value e o)) :
    ∃ e' v, s.answer (s.loc t).seq = some (e', v) ∧ e = some e' ∧ o = some v :=
  (invS_of_reachable h).result_ok t e o hb hr

/-- frames in the channel and in threads' hands are answers the peer really gave — unless the request was
meanwhile completed by `Connection._cleanup` with the end of the connection (`eofed`: the ghost `answer` of that
seq is then the end-of-connection marker `(true, eofVal)`, its callback is gone, and the frame will be dropped) —
and the peer answers only requests that were sent and not yet answered -/
theorem frames_are_answers {s : St} (h : Reachable s) :
    (∀ f ∈ s.chan, s.answer f.seq = some (f.exc, f.val) ∨ (s.cells f.seq).eofed = true) ∧
    (∀ t f, (s.loc t).data = some f → s.answer f.seq = some (f.exc, f.val) ∨ (s.cells f.seq).eofed = true) ∧
    (∀ q ∈ s.outstanding, s.answer q = none ∧ q < s.seqCounter) :=
  let i := invS_of_reachable h
  ⟨i.chan_answer, i.data_answer, i.out_unanswered⟩

/-- A thread in the condition's wait-set implies that the receive lock is held (by a
thread inside the receive region, which will release and notify) or that a thread that released it has not
yet called `notify_all`. -/
theorem no_lost_wakeup {s : St} (h : Reachable s) (t : Tid) (ht : t ∈ s.waiters) :
    (∃ v, s.recvLock = some v ∧ (s.loc v).pc.holdsRecv = true) ∨
    ∃ u, (s.loc u).pc = .n0 ∨ (s.loc u).pc = .n1 :=
  Rpyc.Conc.Serve.no_lost_wakeup h t ht

/-- Weak form.  If the channel holds unread data and some thread is inside a
call or a serving loop, then some thread other than a sleeping background thread has an enabled step (nobody
needs a timeout to get going).  On its own this is weak: a polling thread between two polls, or a background
thread at its loop test, satisfies it trivially.  The content is `waiter_woken_with_data` below: for a thread
asleep on the condition the enabled thread is one that is on its way to wake it. -/
theorem no_deadlock_with_data {s : St} (h : Reachable s) (hc : s.chan ≠ []) (t : Tid)
    (ht : (s.loc t).pc ≠ .idle) (hb : (s.loc t).pc ≠ .bS) :
    ∃ u, enabled s u = true ∧ (s.loc u).pc ≠ .bS :=
  no_deadlock_with_data_strong h hc t ht hb

/-- **No thread sleeps through a wake-up while data is pending.**  If data is unread (or the stream has ended, or
the connection is closed) and thread `t` is in the condition's wait-set, then an enabled thread exists that holds
the receive lock (it is in the receive region, will read — `poll` returns at once — release and notify), or is a
pending notifier at `n0`/`n1`, or holds the condition's lock that this notifier is waiting for.  Spinning pollers and
idle background threads do not count. -/
theorem waiter_woken_with_data {s : St} (h : Reachable s) (hc : s.chan ≠ [] ∨ s.eof = true ∨ s.closed = true)
    (t : Tid) (ht : t ∈ s.waiters) :
    ∃ u, enabled s u = true ∧ ((s.loc u).pc.holdsRecv = true ∨ (s.loc u).pc = .n0 ∨ (s.loc u).pc = .n1 ∨
      (s.loc u).pc.holdsCond = true) := by
  have hL := invL_of_reachable h
  have hD := invD_of_reachable h
  rcases hL.wake (.inl ⟨t, ht⟩) with h1 | ⟨u, hu | hu⟩
  · obtain ⟨v, hr⟩ := Option.ne_none_iff_exists'.1 h1
    exact ⟨v, (enabled_recvHolder hL hD hc hr).1, .inl ((hL.recv_iff v).mpr hr)⟩
  · cases hcl : s.condLock with
    | none => exact ⟨u, enabled_of_condFree hcl (.inr (.inr hu)), .inr (.inl hu)⟩
    | some v =>
      have hv := (hL.cond_iff v).mpr hcl
      exact ⟨v, enabled_of_free hD (free_of_holdsCond hv), .inr (.inr (.inr hv))⟩
  · exact ⟨u, enabled_of_free hD (by rw [hu]; rfl), .inr (.inr (.inl hu))⟩

/-- Once the peer has closed the stream (or the connection
has been closed), a thread inside a call or a serving loop is never stuck: some thread other than a sleeping
background thread has an enabled step, and needs no timeout for it.  (The receiver that meets the EOF runs
`self.close(); raise` and still goes through `finally: release; notify_all`, so the threads parked in
`serve`'s wait-for-lock branch are woken, find the closed channel and leave with `EOFError` themselves.) -/
theorem no_parking_after_eof {s : St} (h : Reachable s) (he : s.eof = true ∨ s.closed = true) (t : Tid)
    (ht : (s.loc t).pc ≠ .idle) (hb : (s.loc t).pc ≠ .bS) :
    ∃ u, enabled s u = true ∧ (s.loc u).pc ≠ .bS :=
  Rpyc.Conc.Serve.no_parking_after_eof h he t ht hb

/-- on a closed connection a thread in the wait-set always has its wake-up on the way: an enabled thread that
holds the receive lock (it will release and notify), or is about to notify, or holds the condition's lock the
notifier is waiting for -/
theorem waiter_woken_after_close {s : St} (h : Reachable s) (hc : s.closed = true) (t : Tid) (ht : t ∈ s.waiters) :
    ∃ u, enabled s u = true ∧ ((s.loc u).pc.holdsRecv = true ∨ (s.loc u).pc = .n0 ∨ (s.loc u).pc = .n1 ∨
      (s.loc u).pc.holdsCond = true) :=
  waiter_woken_with_data h (.inr (.inr hc)) t ht

/-- A reader that sees `ready` sees the value: `ready` implies the result was
stored, exactly once, and it is the peer's answer to this seq. -/
theorem publication_order {s : St} (h : Reachable s) (q : Seq) (hr : (s.cells q).ready = true) :
    s.completions q = 1 ∧ ∃ e v, (s.cells q).isExc = some e ∧ (s.cells q).obj = some v ∧ s.answer q = some (e, v) := by
  have g := (invS'_of_reachable h).glob
  exact ⟨(g.ready_compl q hr).1, g.ready_answer hr⟩

/-- a client that has passed the final readiness test reads a published result -/
theorem reader_sees_value {s : St} (h : Reachable s) (t : Tid) (hs : (s.loc t).hasSeq = true)
    (hp : (s.loc t).pc = .w10) : (s.cells (s.loc t).seq).ready = true :=
  (invS_of_reachable h).at_w10 t hs hp

/-! ### non-vacuity: concrete reachable states in which the hypotheses hold non-trivially -/

private def r (t : Tid) (n : Nat) : List Actor := List.replicate n (.run t)

/-- two clients, the second fails the try-lock and sleeps on the condition while the first holds the
receive lock in `poll`; the peer has answered the *second* client's request: data pending, a waiter asleep -/
def contended : List Actor :=
  [.call 1 none, .call 2 (some 9)] ++ r 1 2 ++ r 2 3 ++ r 1 5 ++ r 2 5 ++ [.peer 1 false 77]

example : ∃ s, run init contended = some s ∧ s.waiters = [2] ∧ s.recvLock = some 1 ∧ s.chan ≠ [] ∧
    (s.loc 1).pc = .p0 ∧ (s.loc 2).pc = .zz ∧ s.issued = [1, 0] :=
  run_ends (by decide +kernel)

/-- continuing: client 1 receives client 2's reply, releases, notifies, dispatches it; client 2 wakes up,
sees its result and returns it; the frame was dispatched once, the request completed once -/
def crossed : List Actor := contended ++ r 1 11 ++ r 2 5

example : ∃ s, run init crossed = some s ∧ (s.loc 2).result = some (.value (some false) (some 77)) ∧
    s.dcount 0 = 1 ∧ s.completions 1 = 1 ∧ s.popper 1 = some 1 ∧ (s.loc 2).pc = .idle :=
  run_ends (by decide +kernel)

/-- end of stream while client 1 is in `poll` and client 2 (no expiry) sleeps on the condition: client 1 meets the
EOF, closes — which completes client 2's still-pending request with `EOFError("connection closed")` —, releases,
notifies and leaves with `EOFError`; client 2 wakes up, finds its result ready and gets that error from `value`;
nobody is left inside a call -/
def eofWhileParked : List Actor :=
  [.call 1 (some 9), .call 2 none] ++ r 1 3 ++ r 2 2 ++ r 1 5 ++ r 2 5 ++ [.peerEof]

example : ∃ s, run init eofWhileParked = some s ∧ s.eof = true ∧ s.closed = false ∧ s.waiters = [2] ∧
    (s.loc 1).pc = .p0 ∧ (s.loc 2).pc = .zz ∧ (s.loc 2).wdl = none ∧ enabled s 1 = true :=
  run_ends (by decide +kernel)

example : ∃ s, run init (eofWhileParked ++ r 1 7 ++ r 2 5) = some s ∧ s.closed = true ∧ s.waiters = [] ∧
    (s.loc 1).pc = .idle ∧ (s.loc 1).result = some .eof ∧ (s.loc 2).pc = .idle ∧
    (s.loc 2).result = some (.value (some true) (some eofVal)) ∧ s.popper 1 = some 1 :=
  run_ends (by decide +kernel)

/-- a polling thread (`conn.poll_all(0)` = `serve(0, wait_for_lock=False)`, thread 2) is the receiver: it holds the
receive lock while caller 1 (no expiry) fails the try-lock and parks on the condition; when its poll times out it
releases the lock — at that moment the wake-up is still owed (`n0`) — then notifies, and the caller is off the
wait-set.  A second poller (thread 3) that finds the lock taken returns at once (`s2f`, then `q1`). -/
def pollerReceives : List Actor :=
  [.pollAll 2 0] ++ r 2 4 ++ [.call 1 none] ++ r 1 7 ++ [.pollAll 3 0] ++ r 3 4

example : ∃ s, run init pollerReceives = some s ∧ s.recvLock = some 2 ∧ s.waiters = [1] ∧ (s.loc 2).pc = .p0 ∧
    (s.loc 2).nowait = true ∧ (s.loc 3).pc = .q1 ∧ (s.loc 1).wdl = none :=
  run_ends (by decide +kernel)

example : ∃ s, run init (pollerReceives ++ r 2 2) = some s ∧ s.recvLock = none ∧ s.waiters = [1] ∧ (s.loc 2).pc = .n0 :=
  run_ends (by decide +kernel)

example : ∃ s, run init (pollerReceives ++ r 2 4) = some s ∧ s.waiters = [] ∧ (s.loc 1).pc = .zz ∧ enabled s 1 = true :=
  run_ends (by decide +kernel)

example : ∃ s, Reachable s ∧ s.waiters ≠ [] ∧ s.chan ≠ [] :=
  let ⟨s, e, h⟩ := run_ends (as := contended) (P := fun s => s.waiters ≠ [] ∧ s.chan ≠ []) (by decide +kernel)
  ⟨s, reachable_run .init contended e, h⟩

end Rpyc.Props.C13
