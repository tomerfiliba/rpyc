import RpycModel.Conc.SendQ
import RpycModel.Gen.Sendq
/-
C12 — concurrent senders never interleave, lose or strand a message.

Model: `RpycModel/Conc/SendQ/Model.lean` (`Connection._send` line by line, any number of threads and
messages, re-entrant sends as nested activations, transport failure).  `Reachable n prog s`: `s` is reached
from the initial state with threads `0 … n-1` running the programs `prog t` by any interleaving of lines,
any nested sends started at any point, and a transport failure at any moment.  `ReachableR`: the same with
nested sends started only while the parent is inside `_send` past its append (e.g. wherever it holds the
lock, in particular inside the transport write).

Scope of the statement.  C12 quantifies over schedules.  While the transport works (`dead = false`) clauses
(1)–(5) hold at full strength and (6) in its obstruction-free form.  When a stream write fails the popped message cannot be transmitted
by anybody (every rpyc stream closes itself on a failed write), `_send` leaves through its `finally` and
does not look at the queue again: theorem `after_transport_failure` says exactly what is then true — the
lock is not leaked, nothing is duplicated or reordered, the transmitted messages are a prefix of the
append order, and what is lost or left queued is the rest of that order; `stranding_needs_dead_transport`
says it happens in no other case.  What the owner of a stranded request observes is C11's subject.
-/
namespace Rpyc.Props.C12
open Rpyc.Conc.SendQ

variable {n : Nat} {prog : Tid → List Msg} {s : St}

/-- (1) The lock is held iff some thread is between the successful
`acquire(False)` and the `release()` (on the normal and on the exceptional path), and at most one thread
ever is.  In particular the lock is never leaked: it is held only by a thread that still has its
`finally: release()` in front of it. -/
theorem mutex (h : Reachable n prog s) :
    (s.lock = true ↔ ∃ t, inCS (s.pc t) = true)
    ∧ (∀ t u, inCS (s.pc t) = true → inCS (s.pc u) = true → t = u) := by
  have hI := (reachable_inv h).1
  refine ⟨⟨fun hl => ?_, fun ⟨t, ht⟩ => (hI.holder_of_cs rfl ht).2⟩, fun t u ht hu => ?_⟩
  · rw [hI.lock_holder] at hl
    cases hh : s.holder with
    | none => rw [hh] at hl; cases hl
    | some v => exact ⟨v, (hI.cs_iff v).2 hh⟩
  · exact hI.cs_unique (hI.holder_of_cs rfl hu).1 ht

/-- (1b) A line that changes the wire is executed by the one thread that
holds the lock, from inside `Channel.send`. -/
theorem only_holder_writes (h : Reachable n prog s) {t : Tid} {s' : St} (hs : step s t = some s')
    (hw : s'.wire ≠ s.wire) :
    s.pc t = .write ∧ s.lock = true ∧ ∀ u, inCS (s.pc u) = true → u = t := by
  have hI := (reachable_inv h).1
  rcases (Line.of_step hs).wire with he | hpc
  · exact absurd he hw
  · exact ⟨hpc, (hI.holder_of_cs hpc rfl).2, fun u hu => hI.cs_unique (hI.holder_of_cs hpc rfl).1 hu⟩

/-- (2) Nothing duplicated, global order = append order.  The items completely transmitted, then
those dropped by a failed write, then the one in the holder's hand, then the queue, are exactly the items
appended so far, in the order they were appended; and nothing is ever dropped while the transport works. -/
theorem conserve_order (h : Reachable n prog s) :
    s.out ++ s.lost ++ s.hand.toList ++ s.queue = s.appended ∧ (s.dead = false → s.lost = []) :=
  ⟨(reachable_inv h).1.conserve, fun hd => ((reachable_inv h).1.alive hd).1⟩

/-- (2b) For every thread `t` given the program `prog t`: the messages of `t` that
have left the thread (transmitted, dropped, in hand, queued — in that order), followed by those it has
still to issue, are `prog t`.  So on the wire the messages of one thread appear in the order the thread
issued them. -/
theorem per_thread_order (h : Reachable n prog s) (t : Tid) (ht : t < n) :
    ((s.out ++ s.lost ++ s.hand.toList ++ s.queue).filter (fun it => it.1 == t)).map (·.2) ++ pending s t
      = prog t := by
  rw [(conserve_order h).1, ← (reachable_prog h).2 t ht]
  exact (reachable_inv h).2.order t

/-- the same for the nested activations (their program is the one message they were started with) -/
theorem per_thread_order_all (h : Reachable n prog s) (t : Tid) :
    ((s.out ++ s.lost ++ s.hand.toList ++ s.queue).filter (fun it => it.1 == t)).map (·.2) ++ pending s t
      = s.prog t := by
  rw [(conserve_order h).1]
  exact (reachable_inv h).2.order t

/-- (2c) If nested sends start only while their parent is
inside `_send` past its append — wherever it holds the lock, in particular inside the transport write,
which is where finalizers run "during transmission" — then the messages of one OS thread `r` (the thread
and every activation nested on it) are appended, hence transmitted, in the order in which its `_send`
calls started; at most the one call that has started and not yet appended is missing. -/
theorem os_thread_order (h : ReachableR n prog s) (r : Tid) :
    (∃ tail, onThread s r s.started = onThread s r (s.out ++ s.lost ++ s.hand.toList ++ s.queue) ++ tail
      ∧ tail.length ≤ 1)
    ∧ ((∀ u, s.root u = r → ∀ m, s.pc u ≠ .append m) →
        onThread s r (s.out ++ s.lost ++ s.hand.toList ++ s.queue) = onThread s r s.started) := by
  have hO := reachableR_os h
  rw [(conserve_order h.toReachable).1]
  refine ⟨?_, fun hno => (hO.none_pending r hno).symm⟩
  by_cases hex : ∃ u m, s.root u = r ∧ s.pc u = .append m
  · obtain ⟨u, m, hu, hpc⟩ := hex
    subst hu
    exact ⟨[(u, m)], hO.one_pending u m hpc, Nat.le_refl _⟩
  · refine ⟨[], ?_, Nat.zero_le _⟩
    rw [List.append_nil]
    exact hO.none_pending r (fun u hu m hpc => hex ⟨u, m, hu, hpc⟩)

/-- (3) The wire is the concatenation of the complete packets of the transmitted
items, each as its adjacent pieces in order, followed by at most one unfinished packet: a prefix of the
pieces of the item in hand or — only after the transport has failed — of the packet the failure cut. -/
theorem contiguous (h : Reachable n prog s) :
    s.wire = s.out.flatMap pieces ++ s.stub ++ partialPkt s
    ∧ (partialPkt s = [] ∨ ∃ x, s.hand = some x ∧ partialPkt s = (pieces x).take s.nw)
    ∧ (s.dead = false → s.stub = [])
    ∧ (s.stub = [] ∨ (partialPkt s = [] ∧ ∃ x k, s.stub = (pieces x).take k)) := by
  have hI := (reachable_inv h).1
  refine ⟨hI.contig, ?_, fun hd => (hI.alive hd).2, ?_⟩
  · fun_cases partialPkt s
    next x hh => exact Or.inr ⟨x, hh, rfl⟩
    next => exact Or.inl rfl
  · rcases hI.cut with hc | ⟨hnw, hc⟩
    · exact Or.inl hc
    · refine Or.inr ⟨?_, hc⟩
      unfold partialPkt
      cases s.hand <;> simp [hnw]

/-- the liveness-carrying invariant behind (4): while the transport works a non-empty queue always has
someone responsible for it -/
theorem queue_has_a_taker (h : Reachable n prog s) (hq : s.queue ≠ []) (hd : s.dead = false) :
    s.lock = true ∨ ∃ t, s.pc t = .check ∨ s.pc t = .tryLock := by
  rcases (reachable_inv h).1.live hq with h1 | h2
  · rw [hd] at h1; cases h1
  · exact h2

/-- what holds once every sender has returned, whatever happened -/
theorem after_transport_failure (h : Reachable n prog s) (hd : ∀ t, isDone s t) :
    s.lock = false ∧ s.hand = none
    ∧ s.out ++ s.lost ++ s.queue = s.appended
    ∧ s.wire = s.out.flatMap pieces ++ s.stub
    ∧ (s.queue ≠ [] ∨ s.lost ≠ [] ∨ s.stub ≠ [] → s.dead = true) := by
  have hI := (reachable_inv h).1
  have hidle : ∀ t, s.pc t = .idle := fun t => (hd t).1
  have hlock : s.lock = false := by
    cases hl : s.lock with
    | false => rfl
    | true =>
      obtain ⟨t, ht⟩ := (mutex h).1.1 hl
      rw [hidle t] at ht; cases ht
  have hh : s.hand = none := by
    rcases hI.hand_n with hn | ⟨t, _, ht⟩
    · exact hn
    · rw [hidle t] at ht; cases ht
  refine ⟨hlock, hh, ?_, ?_, ?_⟩
  · have hc := hI.conserve
    rw [hh] at hc
    simpa using hc
  · have hw := hI.contig
    simp only [partialPkt, hh, List.append_nil] at hw
    exact hw
  · intro hne
    cases hdead : s.dead with
    | true => rfl
    | false =>
      obtain ⟨hl, hs⟩ := hI.alive hdead
      rcases hne with hq | hl' | hs'
      · rcases hI.live hq with h1 | h1 | ⟨t, ht⟩
        · rw [hdead] at h1; cases h1
        · rw [hlock] at h1; cases h1
        · rw [hidle t] at ht; rcases ht with ht | ht <;> cases ht
      · exact absurd hl hl'
      · exact absurd hs hs'

/-- (4) Once every sender has returned and the transport has not failed, nothing is
queued, in hand or dropped, the lock is free, and the wire is exactly every appended message, once, as one
contiguous packet, in append order. -/
theorem no_stranding (h : Reachable n prog s) (hd : ∀ t, isDone s t) (halive : s.dead = false) :
    s.queue = [] ∧ s.hand = none ∧ s.lock = false ∧ s.lost = [] ∧ s.wire = s.appended.flatMap pieces := by
  obtain ⟨hl, hh, hc, hw, hdead⟩ := after_transport_failure h hd
  have hI := (reachable_inv h).1
  obtain ⟨hlost, hstub⟩ := hI.alive halive
  have hq : s.queue = [] := Classical.not_not.1 fun hne => Bool.false_ne_true (halive.symm.trans (hdead (.inl hne)))
  refine ⟨hq, hh, hl, hlost, ?_⟩
  rw [hlost, hq] at hc
  rw [hstub] at hw
  simp only [List.append_nil] at hc hw
  rw [hw, hc]

/-- a message is left queued with every sender returned only if the transport has failed -/
theorem stranding_needs_dead_transport (h : Reachable n prog s) (hd : ∀ t, isDone s t) (hq : s.queue ≠ []) :
    s.dead = true :=
  (after_transport_failure h hd).2.2.2.2 (Or.inl hq)

/-- (4b) at quiescence each thread's packets are on the wire in exactly the order it issued them -/
theorem quiescent_order (h : Reachable n prog s) (hd : ∀ t, isDone s t) (halive : s.dead = false) :
    s.wire = s.out.flatMap pieces ∧ ∀ t, t < n → (s.out.filter (fun it => it.1 == t)).map (·.2) = prog t := by
  obtain ⟨hq, hh, _, hlost, hw⟩ := no_stranding h hd halive
  have hc := (conserve_order h).1
  rw [hh, hq, hlost] at hc
  simp only [Option.toList_none, List.append_nil] at hc
  refine ⟨by rw [hw, hc], fun t ht => ?_⟩
  have := per_thread_order h t ht
  rw [hh, hq, hlost] at this
  have hp : pending s t = [] := by unfold pending; rw [(hd t).1]; exact (hd t).2
  rw [hp] at this
  simpa using this

/-- (5a) A thread that has not returned always has
a defined next line (every line is non-blocking), and `_send` never raises `IndexError` (`pop(0)` never
finds the queue empty) or `RuntimeError` (`release()` never finds the lock free).  (The only exception that
can leave `_send` is the transport's, see `after_transport_failure`.) -/
theorem never_blocks_never_raises (h : Reachable n prog s) (t : Tid) (hd : ¬ isDone s t) :
    (∃ s', step s t = some s') ∧ ∀ u, s.pc u ≠ .crash := by
  have hI := (reachable_inv h).1
  exact ⟨hI.enabled hd, hI.nocrash⟩

/-- (5) While some sender has not returned, some thread can
take a step: the innermost nested activation above it is never suspended and its next line is enabled.
(`blocked` is the only way a logical thread can be unable to run: its own nested call has not returned.) -/
theorem no_deadlock (h : Reachable n prog s) (t : Tid) (hd : ¬ isDone s t) :
    ∃ u s', t ≤ u ∧ ¬ blocked s u ∧ step s u = some s' ∧ Reachable n prog s' := by
  obtain ⟨hI, hN⟩ := reachable_inv h
  obtain ⟨u, s', htu, hb, hs⟩ := exists_enabled hI hN (s.next - t) t (Nat.le_refl _) hd
  exact ⟨u, s', htu, hb, hs, .step u h hb hs⟩

/-- a suspended parent waits for a younger activation -/
theorem nesting (h : Reachable n prog s) (p c : Tid) (hw : s.wait p = some c) : p < c ∧ c < s.next :=
  (reachable_inv h).2.wait_lt p c hw

/-- (5b) Wait-freedom of a sender that does not get the lock.  From the moment thread `t` is about to
append, whatever the rest of the system does in between (`Others`: any lines of other threads, nested sends,
transport failure — none of which moves `t`), after three lines of its own — append, queue test, try-lock —
`t` has returned (already after the second if the queue was drained meanwhile) or has become the lock holder.
Holds from every state, reachable ones in particular. -/
theorem non_holder_gone_after_three_own_lines {t : Tid} {m : Msg} {s0 s1 s2 s3 s4 s5 s6 : St}
    (hpc : s0.pc t = .append m)
    (o1 : Others t s0 s1) (l1 : step s1 t = some s2)
    (o2 : Others t s2 s3) (l2 : step s3 t = some s4)
    (o3 : Others t s4 s5) (l3 : step s5 t = some s6) :
    s4.pc t = .idle ∨ (s6.pc t = .idle ∧ s5.lock = true)
    ∨ (s6.pc t = .recheck ∧ s6.lock = true ∧ s6.holder = some t) := by
  have h1 : s1.pc t = .append m := by rw [o1.pc_eq]; exact hpc
  have h2 : s2.pc t = .check := line_append h1 l1
  have h3 : s3.pc t = .check := by rw [o2.pc_eq]; exact h2
  rcases line_check h3 l2 with h4 | h4
  · exact Or.inl h4
  · have h5 : s5.pc t = .tryLock := by rw [o3.pc_eq]; exact h4
    exact Or.inr (line_tryLock h5 l3)

/-- (6, obstruction-free form) From any reachable state, a sender that is not suspended
under a nested send and is left undisturbed has returned from all its calls after at most `soloFuel s t`
of its own lines (`9·|queue| + 25·|calls still to start| +` at most 14 for the call it is in); that run is
a real execution, and every single line strictly decreases the bound.  (Under interference no bound in
terms of the thread's own program exists: other threads can keep the queue non-empty; each wasted
iteration is then paid for by another thread's pop.) -/
theorem returns_when_undisturbed (h : Reachable n prog s) (t : Tid) (hb : ¬ blocked s t) :
    Reachable n prog (runSolo s t (soloFuel s t))
    ∧ isDone (runSolo s t (soloFuel s t)) t
    ∧ (¬ isDone s t → ∃ s', step s t = some s' ∧ soloFuel s' t < soloFuel s t) :=
  ⟨runSolo_reachable t _ s h hb, solo_returns_aux t _ s (reachable_inv h).1 (Nat.le_refl _),
   fun hd => solo_step (reachable_inv h).1 hd⟩

/-- (6b) a nested (re-entrant) send, which runs while its parent stands still, returns within
`9·|queue| + 25` lines; so the parent is suspended only for a bounded time -/
theorem nested_send_returns (h : Reachable n prog s) (p : Tid) (m : Msg) (hb : ¬ blocked s p) (hp : p < s.next) :
    Reachable n prog (runSolo (reenter s p m) s.next (9 * s.queue.length + 25))
    ∧ isDone (runSolo (reenter s p m) s.next (9 * s.queue.length + 25)) s.next := by
  have hN := (reachable_inv h).2
  have hf := soloFuel_reenter hN p m
  have h' : Reachable n prog (reenter s p m) := .reenter p m h hb hp
  have := returns_when_undisturbed h' s.next (not_blocked_reenter_child hN hp)
  rw [hf] at this
  exact ⟨this.1, this.2.1⟩

/-! ### facts about the code regenerated from the source on every run -/

/-- The model's `append` puts
the datum where the live `_send` was measured to put a datum of that kind (`Gen/Sendq.lean`: lock busy, two
data queued; request, reply, exception); this theorem — consumed by the invariant behind every theorem
above (`enqueue_eq`) — says that this is the back of the queue for every kind. -/
theorem append_is_kind_blind (q : List Item) (x : Item) :
    enqueue q x = q ++ [x] ∧ Rpyc.Gen.Sendq.enqueuedAtBack.map (·.1) = [1, 2, 3] :=
  ⟨enqueue_eq q x, by decide⟩

/-- **Tripwire (not consumed by any theorem): serialisation is a pure function of the message.** `_send`
serialises outside the lock, where another sender or a finalizer's nested send can run in the middle of it;
the model's messages are values, i.e. it assumes what is measured here on the live `brine.dump` (a complete
`dump` executed at every call inside another, for several values, leaves the result unchanged).  The tie to
`_send` itself is the correspondence: schedules that preempt and re-enter inside `brine.dump`, with every
queued datum compared byte for byte with the serialisation computed beforehand. -/
theorem serialisation_is_pure_under_reentry : Rpyc.Gen.Sendq.dumpSurvivesReentry = true := by
  decide

/-! ### non-vacuity: concrete reachable states -/

/-- thread 0 sends a three-write message then a small one, thread 1 sends one small message -/
def P : Tid → List Msg
  | 0 => [⟨1, true, 1⟩, ⟨2, false, 2⟩]
  | 1 => [⟨3, false, 3⟩]
  | _ => []

/-- thread 0 appends, tests, takes the lock, re-checks, pops, writes one piece; thread 1 appends, tests,
fails the try-lock and returns; a finalizer on thread 0 starts a nested send (logical thread 2) which
appends, tests, fails the try-lock and returns; thread 0 finishes the packet, releases, and drains the
queue (messages 3 and 4), then sends message 2 -/
def demo : List Ev :=
  [.run 0, .run 0, .run 0, .run 0, .run 0, .run 0, .run 0,
   .run 1, .run 1, .run 1, .run 1,
   .reent 0 ⟨4, false, 1⟩, .run 2, .run 2, .run 2, .run 2,
   .run 0, .run 0, .run 0,
   .run 0, .run 0, .run 0, .run 0, .run 0, .run 0,
   .run 0, .run 0, .run 0, .run 0, .run 0, .run 0,
   .run 0,
   .run 0, .run 0, .run 0, .run 0, .run 0, .run 0, .run 0, .run 0, .run 0]

def wireIds (s : St) : List (Nat × Nat) := s.wire.map (fun p => (p.1.2.id, p.2))
def ids (l : List Item) : List Nat := l.map (·.2.id)

example : ∃ s, Reachable 2 P s
    ∧ wireIds s = [(1, 0), (1, 1), (1, 2), (3, 0), (4, 0), (2, 0)]
    ∧ (∀ t, t < 3 → isDone s t) ∧ s.next = 3 ∧ s.appended.length = 4 ∧ s.queue = [] := by
  obtain ⟨s, hr, h1, h2, h3, h4, h5⟩ := reachable_of_execAll (n := 2) (prog := P) demo
    (fun s => wireIds s = [(1, 0), (1, 1), (1, 2), (3, 0), (4, 0), (2, 0)] ∧ (List.range 3).all (isDoneB s) = true
      ∧ s.next = 3 ∧ s.appended.length = 4 ∧ s.queue.length = 0) (by decide)
  exact ⟨s, hr, h1, fun t ht => (isDoneB_iff s t).1 (List.all_eq_true.1 h2 t (List.mem_range.2 ht)), h3, h4,
    List.eq_nil_of_length_eq_zero h5⟩

/-- a state in the middle of the three-write packet: the hypotheses of (1)–(3) and (5) are met with the
lock held, an item in hand, one piece on the wire, a non-empty queue and a suspended parent -/
example : ∃ s, Reachable 2 P s ∧ s.lock = true ∧ s.pc 0 = .write ∧ s.nw = 1 ∧ s.queue.length = 2
    ∧ blocked s 0 ∧ ¬ isDone s 2 := by
  obtain ⟨s, hr, h1, h2, h3, h4, h5, h6⟩ := reachable_of_execAll (n := 2) (prog := P) (demo.take 14)
    (fun s => s.lock = true ∧ s.pc 0 = .write ∧ s.nw = 1 ∧ s.queue.length = 2 ∧ blockedB s 0 = true ∧ isDoneB s 2 = false)
    (by decide)
  exact ⟨s, hr, h1, h2, h3, h4, (blockedB_iff s 0).1 h5, fun hd => Bool.false_ne_true (h6.symm.trans ((isDoneB_iff s 2).2 hd))⟩

/-- **What a failed write strands (witness).** Thread 0 holds the lock with message 1 in hand and one of
its three pieces written; thread 1 has queued message 3 and returned; the transport fails; thread 0's next
write raises, its `finally` releases the lock and the exception leaves `_send`; thread 0 gives up.  Every
sender that was inside `_send` has returned, the lock is free, message 1 is lost with one piece on the
wire, and message 3 is left queued. -/
def failDemo : List Ev :=
  [.run 0, .run 0, .run 0, .run 0, .run 0, .run 0, .run 0,
   .run 1, .run 1, .run 1, .run 1,
   .brk, .run 0, .run 0]

example : ∃ s, Reachable 2 P s ∧ s.dead = true ∧ s.lock = false ∧ s.pc 0 = .idle ∧ isDone s 1
    ∧ ids s.queue = [3] ∧ ids s.lost = [1] ∧ wireIds s = [(1, 0)] ∧ s.stub.length = 1 ∧ s.out = [] := by
  obtain ⟨s, hr, h1, h2, h3, h4, h5, h6, h7, h8, h9⟩ := reachable_of_execAll (n := 2) (prog := P) failDemo
    (fun s => s.dead = true ∧ s.lock = false ∧ s.pc 0 = .idle ∧ isDoneB s 1 = true ∧ ids s.queue = [3] ∧ ids s.lost = [1]
      ∧ wireIds s = [(1, 0)] ∧ s.stub.length = 1 ∧ s.out.length = 0) (by decide)
  exact ⟨s, hr, h1, h2, h3, (isDoneB_iff s 1).1 h4, h5, h6, h7, h8, List.eq_nil_of_length_eq_zero h9⟩

/-- **Why (2c) needs its restriction (witness).** A nested send started before the parent's append —
e.g. a collection triggered by the allocation in `brine.dump`, whose `netref.__del__` sends — overtakes the
parent's own message: OS thread 0 started `_send(1)` and then `_send(9)`, but 9 is on the wire before 1. -/
def overtakeDemo : List Ev :=
  [.run 0, .reent 0 ⟨9, false, 1⟩,
   .run 2, .run 2, .run 2, .run 2, .run 2, .run 2, .run 2, .run 2, .run 2,
   .run 0, .run 0, .run 0, .run 0, .run 0, .run 0, .run 0, .run 0]

theorem os_thread_order_needs_restriction :
    ∃ s, Reachable 2 P s ∧ ids (onThread s 0 s.started) = [1, 9] ∧ ids (onThread s 0 s.out) = [9, 1] :=
  reachable_of_execAll overtakeDemo _ (by decide)

end Rpyc.Props.C12
