import RpycModel.Spec.Grammar
import RpycModel.Spec.WireBridge
import RpycModel.Gen.Recorded
/-
C19 — bytes on the wire are those of the published 5.x protocol.
Only property theorems and their non-vacuity examples live here (namespace Rpyc.Props.C19); the
published format is RpycModel/Spec/Published.lean (hand-written, never generated), the model of what
the code does is RpycModel/Brine/Model.lean (brine) and RpycModel/Spec/Code.lean (the frame, the messages) over the
regenerated constants, helper lemmas are in RpycModel/Spec/{Lemmas,Grammar,WireBridge}.lean.  The section heads number
the parts of the claim, not the order of this file: (1) constants, (2) encoder, (3) shortest form, (4) decoder,
(5) frame, (6) message layout, (6b) the argument layouts below it.
-/
namespace Rpyc.Props.C19
open Rpyc Rpyc.Spec

/-! ### (1) every regenerated constant has its published value — one lemma per group -/

/-- the brine tag table of the tree under check is the documented one -/
theorem tags_published :
    [("TAG_NONE", Gen.tagNone), ("TAG_EMPTY_STR", Gen.tagEmptyStr), ("TAG_EMPTY_TUPLE", Gen.tagEmptyTuple),
     ("TAG_TRUE", Gen.tagTrue), ("TAG_FALSE", Gen.tagFalse), ("TAG_NOT_IMPLEMENTED", Gen.tagNotImplemented),
     ("TAG_ELLIPSIS", Gen.tagEllipsis), ("TAG_UNICODE", Gen.tagUnicode), ("TAG_STR1", Gen.tagStr1),
     ("TAG_STR2", Gen.tagStr2), ("TAG_STR3", Gen.tagStr3), ("TAG_STR4", Gen.tagStr4),
     ("TAG_STR_L1", Gen.tagStrL1), ("TAG_STR_L4", Gen.tagStrL4), ("TAG_TUP1", Gen.tagTup1),
     ("TAG_TUP2", Gen.tagTup2), ("TAG_TUP3", Gen.tagTup3), ("TAG_TUP4", Gen.tagTup4),
     ("TAG_TUP_L1", Gen.tagTupL1), ("TAG_TUP_L4", Gen.tagTupL4), ("TAG_INT_L1", Gen.tagIntL1),
     ("TAG_INT_L4", Gen.tagIntL4), ("TAG_FLOAT", Gen.tagFloat), ("TAG_SLICE", Gen.tagSlice),
     ("TAG_FSET", Gen.tagFset), ("TAG_COMPLEX", Gen.tagComplex)] = tagTable := rfl

/-- the tags the loader is keyed by are exactly the documented ones (no extra, none missing) -/
theorem load_registry_published :
    Gen.loadRegistryTags.all (fun t => (tagTable.map (·.2)).contains t) = true
    ∧ (tagTable.map (·.2)).all (fun t => Gen.loadRegistryTags.contains t) = true := by decide +kernel

/-- integers from −48 to 159 travel as the single byte `i + 0x50` -/
theorem imm_window_published : Gen.immLo = IMM_LO ∧ Gen.immHi = IMM_HI ∧ Gen.immBase = IMM_BASE :=
  ⟨imm_lo, imm_hi, imm_base⟩

/-- length fields and floats are packed `!B`, `!L`, `!d`, `!dd`.  A guard, not a comparison: the generator emits the
literal `true` after checking the four `Struct` formats and refuses to generate otherwise (the failure then is
"translator: Brine.lean: inexpressible"), so this statement itself cannot turn false. -/
theorem struct_formats_published : Gen.structFormatsStandard = true := by decide

theorem msg_kinds_published : Gen.Consts.msgs = msgTable
    ∧ Gen.Consts.msgRequest = MSG_REQUEST ∧ Gen.Consts.msgReply = MSG_REPLY
    ∧ Gen.Consts.msgException = MSG_EXCEPTION :=
  ⟨rfl, c_msgRequest, c_msgReply, c_msgException⟩

theorem labels_published : Gen.Consts.labels = labelTable
    ∧ Gen.Consts.labelValue = LABEL_VALUE ∧ Gen.Consts.labelTuple = LABEL_TUPLE
    ∧ Gen.Consts.labelLocalRef = LABEL_LOCAL_REF ∧ Gen.Consts.labelRemoteRef = LABEL_REMOTE_REF :=
  ⟨rfl, c_labelValue, c_labelTuple, c_labelLocalRef, c_labelRemoteRef⟩

/-- the twenty handler numbers -/
theorem handlers_published : Gen.Consts.handlers = handlerTable := rfl

/-- each handler number is served by the operation it is published to mean -/
theorem handler_routing_published : Gen.Consts.requestHandlers = handlerMeaning := rfl

theorem exc_published : Gen.Consts.excs = excTable ∧ Gen.Consts.excStopIteration = EXC_STOP_ITERATION :=
  ⟨rfl, c_excStopIteration⟩

/-- threshold 3000, level 1, header = 4-byte big-endian length + 1 flag byte, trailer `\n`, chunk 64000 -/
theorem frame_consts_published :
    Gen.Consts.compressionThreshold = COMPRESSION_THRESHOLD ∧ Gen.Consts.compressionLevel = COMPRESSION_LEVEL
    ∧ Gen.Consts.frameBigEndian = true ∧ Gen.Consts.frameLenWidth = FRAME_LEN_WIDTH
    ∧ Gen.Consts.frameFlagWidth = FRAME_FLAG_WIDTH ∧ Gen.Consts.frameHeaderSize = FRAME_HEADER_SIZE
    ∧ Gen.Consts.flusher = FLUSHER ∧ Gen.Consts.streamChunk = STREAM_CHUNK :=
  ⟨c_threshold, c_level, c_bigEndian, c_lenWidth, c_flagWidth, c_headerSize, c_flusher, c_streamChunk⟩

/-- rpyc.core.consts defines nothing besides the published names -/
theorem consts_complete : Gen.Consts.others = otherTable := rfl

/-- **generated = published**, all groups -/
theorem gen_eq_published :
    Gen.Consts.msgs = msgTable ∧ Gen.Consts.labels = labelTable ∧ Gen.Consts.handlers = handlerTable
    ∧ Gen.Consts.requestHandlers = handlerMeaning ∧ Gen.Consts.excs = excTable
    ∧ Gen.Consts.others = otherTable
    ∧ Gen.Consts.compressionThreshold = 3000 ∧ Gen.Consts.compressionLevel = 1
    ∧ Gen.Consts.flusher = [0x0a] ∧ Gen.Consts.streamChunk = 64000
    ∧ Gen.immLo = -48 ∧ Gen.immHi = 160 ∧ Gen.immBase = 80 :=
  ⟨msg_kinds_published.1, labels_published.1, handlers_published, handler_routing_published,
   exc_published.1, consts_complete, frame_consts_published.1, frame_consts_published.2.1,
   frame_consts_published.2.2.2.2.2.2.1, frame_consts_published.2.2.2.2.2.2.2,
   imm_window_published.1, imm_window_published.2.1, imm_window_published.2.2⟩

/-! ### (2) the code's encoder is the reference encoder -/

/-- **`dump` = the published encoder**, for every value whose text is made of Unicode scalar values
(everything the published format can express) — all constructors, all sizes, any nesting, and the same
refusals (`TypeError` for a non-serializable member, the packer's error for a length ≥ 2^32).
`Renderable`: each integer is one the interpreter can turn into text (an interpreter limit, not a format
matter). -/
theorem enc_eq_specEnc (v : Val) (hr : Renderable v = true) (hs : ScalarText v = true) :
    Brine.dump v = specEnc v := by
  unfold Brine.dump specEnc
  rw [enc_eq_specEncWith v hr]
  exact specEncWith_mode v hs _ _

/-- for *all* values, including text with lone surrogates: the code's encoder is the reference encoder
under the text rule the code passes to `str.encode` (the pinned tree: `surrogatepass`, a superset of
the published rule that changes no published encoding — see `enc_eq_specEnc`) -/
theorem enc_eq_specEnc_any_text (v : Val) (hr : Renderable v = true) :
    Brine.dump v = specEncWith Gen.dumpStrSurrogatePass v :=
  enc_eq_specEncWith v hr

/-- the example printed in the documentation of brine encodes to the printed bytes -/
theorem doc_sample_published : specEnc docSample = .ok docSampleBytes := by decide +kernel

theorem doc_sample_dump : Brine.dump docSample = .ok docSampleBytes := by
  rw [enc_eq_specEnc docSample (by decide +kernel) (by decide +kernel)]
  exact doc_sample_published

/-! ### known finding: text with a lone surrogate is transmitted in a form the published format does not define -/

/-- at full strength: whatever `dump` emits is what the published encoder defines for that value -/
def C19_emits_only_published : Prop :=
  ∀ (v : Val) (e : Bytes), Renderable v = true → Brine.dump v = .ok e → specEnc v = .ok e

/-- **false of the tree under check** (since `_dump_str` passes `surrogatepass`, C04's repair so that every dumpable
text is encoded): `"\ud800"` is transmitted as `08 0c ED A0 80`, which the published format — text is UTF-8 — does
not define; a conforming decoder rejects it.  Known finding `C19:lone-surrogate-text-uses-surrogatepass`. -/
theorem C19_emits_only_published_counterexample : ¬ C19_emits_only_published := by
  intro h
  have h1 : Brine.dump (.str [0xD800]) = .ok [0x08, 0x0c, 0xED, 0xA0, 0x80] := by decide +kernel
  have h2 := h (.str [0xD800]) _ (by decide) h1
  have h3 : specEnc (.str [0xD800]) = .error .unicodeEncodeError := by decide +kernel
  rw [h3] at h2
  cases h2

/-- what does hold: on every value whose text consists of Unicode scalar values -/
theorem C19_emits_only_published_partial (v : Val) (e : Bytes) (hr : Renderable v = true)
    (hs : ScalarText v = true) (h : Brine.dump v = .ok e) : specEnc v = .ok e := by
  rw [← enc_eq_specEnc v hr hs]; exact h

/-! ### (5) the frame -/

/-- **frame layout**: what `Channel.send` writes for `data` is `be32 len ++ [flag] ++ payload ++ [0x0a]`
with `flag = 1` and `payload = deflate data` iff compression is on and `len data > 3000`, else `flag = 0`
and `payload = data` (for any `deflate`: zlib is a parameter). -/
theorem frame_layout (deflate : Bytes → Bytes) (compress : Bool) (data : Bytes)
    (h1 : data.length < 2 ^ 32) (h2 : (deflate data).length < 2 ^ 32) :
    Code.channelSend deflate compress data =
      if compress = true ∧ data.length > 3000
      then .ok (beN 4 (deflate data).length ++ [1] ++ deflate data ++ [0x0a])
      else .ok (beN 4 data.length ++ [0] ++ data ++ [0x0a]) := by
  rw [channelSend_eq]
  simp only [sendFrame, compresses_iff, h1, h2, if_true, frameOf_explicit 1 _ (by decide),
    frameOf_explicit 0 _ (by decide)]

/-- the frame of C05's independently written model of `Channel.send` (RpycModel/Wire/Model.lean, the one
C05's stream theorems are about) is this same published frame -/
theorem frame_eq_wire_model (z : Wire.ZlibFns) (compress : Bool) (data : Bytes) :
    Wire.frame z compress data = sendFrame z.compress compress data
    ∧ Code.channelSend z.compress compress data = Wire.frame z compress data :=
  ⟨wire_frame_published z compress data, channelSend_eq_wire_frame z compress data⟩

/-- **any conforming frame is accepted and means the same**: whatever compressor the sender used (any
level, any implementation — `deflate'`), or none at all, `Channel.recv` returns the data, provided only
that the receiver's zlib inverts it. -/
theorem recv_accepts_conforming_frame (deflate' : Bytes → Bytes) (inflate : Bytes → Option Bytes)
    (hz : ∀ b, inflate (deflate' b) = some b) (compress : Bool) (data rest frame : Bytes)
    (h : sendFrame deflate' compress data = .ok frame) :
    Code.channelRecv inflate (frame ++ rest) = .ok (data, rest) := by
  revert h; fun_cases sendFrame deflate' compress data <;> intro h <;> cases h
  -- compressed and the deflated length fits: flag 1, the receiver inflates
  · rw [channelRecv_frameOf inflate 1 _ rest ‹_› (by decide), Code.recvResult, if_pos (by decide), hz]
  -- not compressed and the length fits: flag 0, the payload as it is
  · rw [channelRecv_frameOf inflate 0 _ rest ‹_› (by decide)]; rfl

/-! ### (6) messages -/

/-- **boxing labels**: `_box` yields the published label tree `(1, v) | (2, (…)) | (3, id) | (4, id_pack)` -/
theorem box_layout (o : Code.Obj) : Code.box o = (boxedOf o).toVal := box_eq o

/-- **request** = `(1, seq, (handler, boxed))` -/
theorem msg_layout_request (seq : Int) (handler : Nat) (args : Code.Obj) :
    Code.requestVal seq handler args = (Msg.request seq handler (boxedOf args)).toVal
    ∧ (Msg.request seq handler (boxedOf args)).toVal
        = .tuple [.int 1, .int seq, .tuple [.int handler, (boxedOf args).toVal]] := by
  constructor
  · simp [Code.requestVal, Code.msgVal, Msg.toVal, box_eq, c_msgRequest]
  · rfl

/-- **reply** = `(2, seq, boxed)` -/
theorem msg_layout_reply (seq : Int) (res : Code.Obj) :
    Code.replyVal seq res = (Msg.reply seq (boxedOf res)).toVal
    ∧ (Msg.reply seq (boxedOf res)).toVal = .tuple [.int 2, .int seq, (boxedOf res).toVal] := by
  constructor
  · simp [Code.replyVal, Code.msgVal, Msg.toVal, box_eq, c_msgReply]
  · rfl

/-- **exception** = `(3, seq, dumped)`; the fast path for an argument-less StopIteration is the integer 1 -/
theorem msg_layout_exception (seq : Int) (dumped : Val) :
    Code.exceptionVal seq dumped = (Msg.exception seq dumped).toVal
    ∧ (Msg.exception seq dumped).toVal = .tuple [.int 3, .int seq, dumped]
    ∧ Code.dumpedStopIteration = .int 1 := by
  refine ⟨?_, rfl, ?_⟩
  · simp [Code.exceptionVal, Code.msgVal, Msg.toVal, c_msgException]
  · simp [Code.dumpedStopIteration, c_excStopIteration, EXC_STOP_ITERATION]

/-- **the bytes of a message**: what `_send` hands to the channel is the published encoding of the
published layout -/
theorem msg_layout_wire (m : Msg) (hr : Renderable m.toVal = true) (hs : ScalarText m.toVal = true) :
    Brine.dump m.toVal = m.wire :=
  enc_eq_specEnc m.toVal hr hs

theorem request_wire (seq : Int) (handler : Nat) (args : Code.Obj)
    (hr : Renderable (Msg.request seq handler (boxedOf args)).toVal = true)
    (hs : ScalarText (Msg.request seq handler (boxedOf args)).toVal = true) :
    Code.asyncRequest seq handler args = (Msg.request seq handler (boxedOf args)).wire := by
  unfold Code.asyncRequest
  rw [(msg_layout_request seq handler args).1]
  exact msg_layout_wire _ hr hs

theorem reply_wire (seq : Int) (res : Code.Obj)
    (hr : Renderable (Msg.reply seq (boxedOf res)).toVal = true)
    (hs : ScalarText (Msg.reply seq (boxedOf res)).toVal = true) :
    Code.sendReply seq res = (Msg.reply seq (boxedOf res)).wire := by
  unfold Code.sendReply
  rw [(msg_layout_reply seq res).1]
  exact msg_layout_wire _ hr hs

theorem exception_wire (seq : Int) (dumped : Val)
    (hr : Renderable (Msg.exception seq dumped).toVal = true)
    (hs : ScalarText (Msg.exception seq dumped).toVal = true) :
    Code.sendException seq dumped = (Msg.exception seq dumped).wire := by
  unfold Code.sendException
  rw [(msg_layout_exception seq dumped).1]
  exact msg_layout_wire _ hr hs

/-- **reading**: `_dispatch` takes a published message for what it is … -/
theorem dispatch_reads_published (seq : Int) (handler : Nat) (b : Boxed) (d : Val) :
    Code.dispatch (Msg.request seq handler b).toVal = .ok (.request (.int seq) (.tuple [.int handler, b.toVal]))
    ∧ Code.requestParts (.tuple [.int handler, b.toVal]) = .ok (.int handler, b.toVal)
    ∧ Code.dispatch (Msg.reply seq b).toVal = .ok (.reply (.int seq) b.toVal)
    ∧ Code.dispatch (Msg.exception seq d).toVal = .ok (.exception (.int seq) d) :=
  -- `dispatch` compares the kind with `Gen.Consts.msg*`, numerically the published kinds: each case computes
  ⟨rfl, rfl, rfl, rfl⟩

/-- … and `_unbox` takes each published label for what it is -/
theorem unbox_reads_published (v p : Val) (xs : List Boxed) :
    Code.unboxNode (Boxed.value v).toVal = .ok (.value v)
    ∧ Code.unboxNode (Boxed.tuple xs).toVal = .ok (.tuple (Boxed.toVals xs))
    ∧ Code.unboxNode (Boxed.localRef p).toVal = .ok (.localRef p)
    ∧ Code.unboxNode (Boxed.remoteRef p).toVal = .ok (.remoteRef p) :=
  -- likewise for the labels and `Gen.Consts.label*`
  ⟨rfl, rfl, rfl, rfl⟩

/-! ### (6b) below `(kind, seq, args)`: per-handler argument layouts, tied to the live code by generated facts

`Gen/Consts.lean` carries the `_handle_*` signatures (inspect.signature) and every HANDLE_* call site of the package
(AST); `Gen/Recorded.lean` carries what the live code did on fixed probes when the constants were regenerated: the
requests its call sites emitted (decoded by the independent reference decoder), `_box` on seven objects, the
responses of `_dispatch_request`, the classification by `_dispatch`.  The theorems below compare those facts with the
published tables and with the hand-written `Code.*` model, so `Code.*` is tied to the code by proof obligations. -/

/-- every handler takes the published number of required and optional arguments -/
theorem handler_arity_published : Gen.Consts.handlerArity = handlerArity := by decide +kernel

/-- every call site of the package that issues a HANDLE_* request passes a number of arguments its handler's
published layout admits -/
theorem call_sites_fit_published :
    Gen.Consts.callSites.all (fun site =>
      match handlerTable.lookup site.1 with
      | none => false
      | some h => match handlerArity.lookup h with
        | none => false
        | some ar => decide (ar.1 ≤ site.2) && decide (site.2 ≤ ar.1 + ar.2)) = true := by decide +kernel

/-- the scan is not empty-handed: every one of the twenty published handlers has at least one call site in the
package (a handler whose requests are issued through an extracted helper would vanish from the list — the generator
also refuses any request call whose handler is not a HANDLE_* constant outside the known forwarders) -/
theorem call_sites_cover_published :
    handlerTable.all (fun h => Gen.Consts.callSites.any (fun site => site.1 == h.1)) = true
    ∧ 20 ≤ Gen.Consts.callSites.length := by decide +kernel

/-- all probes ran (none of the live operations raised against a conforming responder) -/
theorem recorded_probes_ran : Gen.Recorded.probeErrors = [] := by decide

/-- **each operation issues its published handler**: getattr → HANDLE_GETATTR, setattr → HANDLE_SETATTR, a call
(also through `async_` / `timed`) → HANDLE_CALL, a special method → HANDLE_CALLATTR, == → HANDLE_CMP, leaving a `with`
block → HANDLE_CTXEXIT, isinstance → HANDLE_INSTANCECHECK, finalisation → HANDLE_DEL, …; auxiliary requests (their
number, order and sequence numbers) are not constrained; every probe that emitted anything is accounted for -/
theorem operations_use_published_handlers :
    probeOperations.all (probeUsed Gen.Recorded.callSiteRequests) = true
    ∧ Gen.Recorded.callSiteRequests.all (fun p => p.2.isEmpty || probeOperations.any (fun o => o.1 == p.1)) = true := by
  decide +kernel

/-- **every request the live call sites emitted has the published argument layout**: arities, names as text,
positional arguments as a tuple, keyword arguments as a tuple of `(name, value)` pairs, id_packs as
`(name, class id, instance id)`, counts as integers -/
theorem recorded_requests_conform :
    Gen.Recorded.callSiteRequests.all (fun p => p.2.all conformingMessage) = true := by decide +kernel

/-- `Connection._box` did on the seven probe objects what the model `Code.box` says -/
theorem recorded_box_matches_model :
    (Gen.Recorded.boxed.zip boxProbes).all (fun p => p.1.1 == p.2.1 && Val.beq p.1.2 (Code.box p.2.2)) = true
    ∧ Gen.Recorded.boxed.length = boxProbes.length := by decide +kernel

/-- the `(handler, boxed arguments)` of six live call sites are exactly what the model of `_async_request` / `_box`
builds (sequence numbers not compared): getattr; calls with keyword arguments — direct, through `async_`, through
`timed` — as a tuple of pairs by value; a call passing an object by reference; a call passing another connection's
proxy (an object of the sender: REMOTE_REF, never LOCAL_REF) -/
theorem recorded_requests_match_model :
    probeEmitted Gen.Recorded.callSiteRequests "getattr" "HANDLE_GETATTR"
        (.tup [.ownProxy probeP, .plain (.str [97, 116, 116, 114])]) = true
    ∧ probeEmitted Gen.Recorded.callSiteRequests "call-kw" "HANDLE_CALL"
        (.tup [.ownProxy probeP, .plain (.tuple [.int 3]),
          .plain (.tuple [.tuple [.str [122], .none], .tuple [.str [121], .tuple [.int 7, .str [107]]]])]) = true
    ∧ probeEmitted Gen.Recorded.callSiteRequests "async-call-kw" "HANDLE_CALL"
        (.tup [.ownProxy probeP, .plain (.tuple [.int 1]), .plain (.tuple [.tuple [.str [98], .int 2]])]) = true
    ∧ probeEmitted Gen.Recorded.callSiteRequests "timed-call-kw" "HANDLE_CALL"
        (.tup [.ownProxy probeP, .plain (.tuple [.int 2]), .plain (.tuple [.tuple [.str [99], .tuple [.int 3]]])]) = true
    ∧ probeEmitted Gen.Recorded.callSiteRequests "call-with-object" "HANDLE_CALL"
        (.tup [.ownProxy probeP, .tup [.object probeObj, .tup [.plain (.int 1), .object probeObj]], .plain (.tuple [])]) = true
    ∧ probeEmitted Gen.Recorded.callSiteRequests "call-with-foreign-proxy" "HANDLE_CALL"
        (.tup [.ownProxy probeP, .tup [.object probeQ], .plain (.tuple [])]) = true := by
  decide +kernel

/-- `Connection._unbox` did on ten boxed values what the model says: by-value leaves, tuples item by item, a LOCAL_REF
resolved to the very object lent before (unknown key: KeyError), a REMOTE_REF resolved to the existing proxy, unknown
labels refused (ValueError), a bool label compared with `==`, a package that is not a pair refused -/
theorem recorded_unbox_matches_model :
    Gen.Recorded.unboxed.all (fun e =>
      Code.showDescr (Code.unboxDescr
        (fun k => if Val.beq k probeObj then some "the-object" else none)
        (fun p => if Val.beq p probeP then some "the-proxy" else none)
        (valSize e.2.1 + 2) e.2.1) == e.2.2) = true
    ∧ Gen.Recorded.unboxed.length = 10 := by decide +kernel

/-- **what `_dispatch_request` sent back** on fourteen published requests (fed in non-shortest encodings): every one
got exactly one response, a published message with the request's sequence number; the replies to ping, getroot and a
keyword-argument call (`c=3, b=2` reordered) and the marker for a bare StopIteration are exactly what the model builds -/
theorem recorded_responses_published :
    Gen.Recorded.served.all (fun e => answeredWith 2 e || answeredWith 3 e) = true
    ∧ Gen.Recorded.served.length = 14
    ∧ isResponse (Code.replyVal 100 (.plain (.tuple [.str [120], .float 0x3ff8000000000000])))
        (responseTo Gen.Recorded.served 100) = true
    ∧ isResponse (Code.replyVal 101 (.object probeSvc)) (responseTo Gen.Recorded.served 101) = true
    ∧ isResponse (Code.exceptionVal 104 Code.dumpedStopIteration) (responseTo Gen.Recorded.served 104) = true
    ∧ isResponse (Code.replyVal 105 (.plain (.tuple [.int 1, .int 2, .int 3]))) (responseTo Gen.Recorded.served 105) = true := by
  decide +kernel

/-- **the dumped-exception tuple**, positions compared: `((module, class), args, ((attr, value)…), traceback text)` for a
built-in exception (`KeyError("k")`), a custom one (`ProbeError("m", 3)` with its public attribute `code = 7`) and an
uncallable target, without traceback/version (`<traceback denied>`) and under the default configuration (traceback
text `Traceback (most recent call last): …`, `_remote_version` present) -/
theorem recorded_exceptions_published :
    dumpedIs [98, 117, 105, 108, 116, 105, 110, 115] [75, 101, 121, 69, 114, 114, 111, 114] (.tuple [.str [107]]) none
        [60, 116, 114, 97, 99, 101, 98, 97, 99, 107, 32, 100, 101, 110, 105, 101, 100, 62]
        (responseTo Gen.Recorded.served 102) = true
    ∧ dumpedIs [103, 101, 110, 95, 112, 114, 111, 116, 111, 95, 99, 111, 110, 115, 116, 115]
        [80, 114, 111, 98, 101, 69, 114, 114, 111, 114] (.tuple [.str [109], .int 3])
        (some (.tuple [.str [99, 111, 100, 101], .int 7]))
        [60, 116, 114, 97, 99, 101, 98, 97, 99, 107, 32, 100, 101, 110, 105, 101, 100, 62]
        (responseTo Gen.Recorded.served 103) = true
    ∧ dumpedIs [98, 117, 105, 108, 116, 105, 110, 115] [75, 101, 121, 69, 114, 114, 111, 114] (.tuple [.str [107]]) none
        [84, 114, 97, 99, 101, 98, 97, 99, 107, 32, 40, 109, 111, 115, 116, 32, 114, 101, 99, 101, 110, 116]
        (responseTo Gen.Recorded.servedDefault 200) = true
    ∧ dumpedIs [103, 101, 110, 95, 112, 114, 111, 116, 111, 95, 99, 111, 110, 115, 116, 115]
        [80, 114, 111, 98, 101, 69, 114, 114, 111, 114] (.tuple [.str [109], .int 3])
        (some (.tuple [.str [99, 111, 100, 101], .int 7]))
        [84, 114, 97, 99, 101, 98, 97, 99, 107, 32, 40, 109, 111, 115, 116, 32, 114, 101, 99, 101, 110, 116]
        (responseTo Gen.Recorded.servedDefault 201) = true
    ∧ Gen.Recorded.servedDefault.all (fun e => answeredWith 3 e) = true := by
  decide +kernel

/-- **fixed reply shapes**: what the live handlers answered for repr, str, hash, dir, inspect, buffiter and pickle
(and every other recorded request) has the shape published for that handler: text, text, integer, a tuple of names,
a tuple of `(method name, docstring or None)`, a tuple, a byte string -/
theorem recorded_replies_have_published_shape :
    Gen.Recorded.served.all replyShapeOk = true
    ∧ (replyShape.map (·.1)).all (fun h => Gen.Recorded.served.any (fun e =>
        match Msg.ofVal? e.1, e.2 with
        | some (.request _ h' _), [r] => h' == h && (match Msg.ofVal? r with
            | some (.reply _ _) => true
            | _ => false)
        | _, _ => false)) = true := by
  decide +kernel

/-- **`_dispatch` classified nineteen payloads as the model does**: integer, bool, float and complex message
kinds (Python `==`), a non-integer sequence number, unknown kinds, wrong arities, a non-iterable, a byte string -/
theorem recorded_dispatch_matches_model :
    Gen.Recorded.classified.all (fun p => Code.dispatchOutcome p.1 == p.2) = true
    ∧ Gen.Recorded.classified.length = 19 := by decide +kernel

/-! ### (3), (4) the grammar: every legal form is accepted and means the same; `dump` emits a shortest one -/

/-- **decoder complete for the grammar**: every byte string that denotes `v` in the published format — in
any fitting length class, shortest or not, e.g. a 3-byte string sent with TAG_STR_L4, a 2-tuple with
TAG_TUP_L1, a small integer as decimal text — is loaded, and loaded as exactly `v` (a frozenset comes
back with its members in wire order).  `Parsable`: every integer has no more digits than the
interpreter's `int()` accepts. -/
theorem dec_complete (bs : Bytes) (v : Val) (h : Denotes bs v) (hp : Parsable v = true) :
    Brine.load bs = .ok v :=
  List.append_nil bs ▸ load_denotes h hp []

/-- the same inside any stream: exactly the sentence is consumed -/
theorem dec_complete_stream (bs tail : Bytes) (v : Val) (h : Denotes bs v) (hp : Parsable v = true)
    (fuel : Nat) (hf : Brine.need v ≤ fuel) : Brine.dec fuel (bs ++ tail) = .ok (v, tail) := by
  obtain ⟨f, rfl⟩ := Nat.exists_eq_add_of_le' (Nat.le_trans (Brine.need_pos v) hf)
  exact dec_denotes.1 h hp f tail hf

/-- **one packet = one message**: whatever follows the (single) value in a packet's payload — a second encoded
message, garbage — is never read: the payload means its first value and nothing else (`brine.load` stops after
one value; `_dispatch` loads once) -/
theorem one_message_per_packet (bs rest : Bytes) (v : Val) (h : Denotes bs v) (hp : Parsable v = true) :
    Brine.load (bs ++ rest) = .ok v :=
  load_denotes h hp rest

/-- **`dump` emits a shortest form**: no byte string denoting `v` is shorter than `dump v` -/
theorem enc_shortest (bs : Bytes) (v : Val) (h : Denotes bs v) (hr : Renderable v = true)
    (e : Bytes) (he : Brine.dump v = .ok e) : e.length ≤ bs.length := by
  unfold Brine.dump at he
  rw [enc_eq_specEncWith v hr] at he
  exact specEncWith_shortest.1 h _ e he

/-- … and `dump v` is itself a sentence denoting `v` (so the minimum is attained by it) -/
theorem enc_in_grammar (v : Val) (hw : v.wf = true) (hr : Renderable v = true) (hs : ScalarText v = true)
    (e : Bytes) (he : Brine.dump v = .ok e) : Denotes e v := by
  rw [enc_eq_specEnc v hr hs] at he
  exact specEnc_denotes v e hw he

/-- a `getattr(root, "answer")` request whose first argument is the peer's own object, as published -/
def sampleRequest : Msg :=
  .request 7 4 (.tuple [.localRef (.tuple [.str [0x61], .int 140001, .int 140002]), .value (.str [0x61, 0x6e])])

example : Renderable sampleRequest.toVal = true ∧ ScalarText sampleRequest.toVal = true := by decide +kernel
example : sampleRequest.wire = .ok
    [0x12, 0x51, 0x57, 0x11, 0x54, 0x11, 0x52, 0x11, 0x11, 0x53, 0x12, 0x08, 0x0a, 0x61, 0x16, 0x06,
     0x31, 0x34, 0x30, 0x30, 0x30, 0x31, 0x16, 0x06, 0x31, 0x34, 0x30, 0x30, 0x30, 0x32, 0x11, 0x51,
     0x08, 0x0b, 0x61, 0x6e] := by decide +kernel
/-- a receiver reading the sample request back finds a getattr request whose arguments fit the published layout -/
example : (Msg.ofVal? sampleRequest.toVal).map Msg.kind = some "request"
    ∧ (Msg.ofVal? sampleRequest.toVal).map Msg.conforms = some true ∧ sampleRequest.conforms = true := by
  decide +kernel
/-- a 3001-byte packet is compressed, a 3000-byte packet is not -/
example : compresses true (List.replicate 3001 0) = true ∧ compresses true (List.replicate 3000 0) = false
    ∧ compresses false (List.replicate 3001 0) = false := by
  simp only [compresses, List.length_replicate]; decide
/-- a value the published text rule cannot express is still encoded by the code (superset) -/
example : ScalarText (.str [0xD800]) = false ∧ specEnc (.str [0xD800]) = .error .unicodeEncodeError
    ∧ specEncWith true (.str [0xD800]) = .ok [0x08, 0x0c, 0xED, 0xA0, 0x80] := by decide +kernel
/-- the boundary between the one-byte and four-byte length classes -/
example : specEnc (.bytes (List.replicate 255 7)) = .ok (0x0e :: 255 :: List.replicate 255 7)
    ∧ specEnc (.bytes (List.replicate 256 7)) = .ok (0x0f :: 0 :: 0 :: 1 :: 0 :: List.replicate 256 7) := by
  decide +kernel

/-- non-shortest sentences: "abc" with the four-byte length class, a pair with TAG_TUP_L1, 5 as text -/
example : Denotes [0x0f, 0, 0, 0, 3, 0x61, 0x62, 0x63] (.bytes [0x61, 0x62, 0x63]) :=
  Denotes.bytes [0x61, 0x62, 0x63] ⟨"TAG_STR_L4", TAG_STR_L4, .l4⟩ (by decide +kernel) (by decide)
example : Brine.load [0x14, 2, 0x16, 1, 0x35, 0x00] = .ok (.tuple [.int 5, .none]) :=
  dec_complete _ _ pair_in_long_form (by decide +kernel)
/-- … while `dump` of the same value takes 3 bytes, not 6 -/
example : Brine.dump (.tuple [.int 5, .none]) = .ok [0x11, 0x55, 0x00] := by decide +kernel
example : Parsable docSample = true ∧ docSample.wf = true := by decide +kernel

end Rpyc.Props.C19
