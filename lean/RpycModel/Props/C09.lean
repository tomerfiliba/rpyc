import RpycModel.Vinegar.Table
/-
C09 — remote exceptions: same class, same data, safely.
The theorems about `dumpExc` / `loadExc` quantify over the sender's and the receiver's switch settings (`SendCfg`: 2^2 x
the two local-routing switches, `RecvCfg`: 2^3) — none is enumerated — and over the receiver's environment `Env` (what
`sys.modules`, `getattr`, `__new__`, `setattr` answer); `C09_partial_interpreter` fixes the environment to the measured
`tableEnv`, `C09_counterexample_group` is one witness, and `needsArgs_classes_known` and the section "ties to the source"
are obligations on generated constants.
-/
namespace Rpyc.Props.C09
open Rpyc Rpyc.Vinegar

/-! ### the statement -/

/-- an exception record of a built-in class, as Python presents one: the class is the object `builtins.<name>`,
`dir(val)` lists each name once and `args` among them, and nothing `dump` calls on it raises (its arguments can be
serialized: every `repr()` and `getattr` works) -/
def BuiltinRec (e : ExcRec) : Prop :=
  e.cls.kind = .builtin
    ∧ e.cls.modname = Gen.Vinegar.exceptionsModule
    ∧ argsCount e.dir = 1
    ∧ (e.dir.map (·.name)).Nodup
    ∧ e.walkRaises = none

/-- what the property demands of the object that reaches the requester's `except` clause.
"same class": the object's type is (a cached subclass made by `_get_exception_class` of) the class named — it is an
instance of that class, so ordinary `except` clauses work — and carries its `__name__` and `__module__` (`ObjType`).
"same immutable arguments": *immutable* is what brine carries by value — exactly the twelve types None, NotImplemented,
Ellipsis, bool, int, float, complex, bytes, str and tuple / frozenset / slice of such (by exact type); everything else —
lists and dicts, but also an IntEnum member, a Fraction, an instance of a str subclass, a tuple holding one — arrives as its
`repr()` text (`sendable`).
`attrs`: every public, immutable data attribute has the same value (extras are allowed).
`tb`/`ver`: the remote traceback / version text when, and only when, the sender's switches allow — else the markers
(`tbShown`: the formatted text; the "unavailable" literal if the traceback module itself fails on this exception).
A bare `StopIteration` (the marker path, `fastPath`) is held to class and arguments only: it arrives as a fresh
`StopIteration()` whose class-level attributes the model does not describe and which carries no traceback. -/
def Faithful (s : SendCfg) (e : ExcRec) (o : ExcObj) : Prop :=
  o.type = ⟨.real (.str e.cls.modname) e.cls.name, .real (.str e.cls.modname) e.cls.name⟩
    ∧ o.args = e.args.map sendable
    ∧ (fastPath e = false → ∀ d ∈ e.dir, ∀ a, d.isData = true → d.value = some a → skipped d.name = false →
        (d.name == Gen.Vinegar.argsName) = false → dumpable a.val = true → o.get d.name = some a.val)
    ∧ (fastPath e = false →
        o.get Gen.Vinegar.remoteTbAttr = some (.str (tbShown s e)))
    ∧ (fastPath e = false →
        o.get Gen.Vinegar.versionAttr
          = some (.str (if s.includeVer then Gen.Vinegar.versionString else Gen.Vinegar.versionDenied)))

/-- **C09 for built-in classes, at full strength**: every built-in exception class the receiver knows (`nn` = does its
`__new__` need arguments — any answer), every argument tuple and `dir` list, every setting of every switch. -/
def C09_statement : Prop :=
  ∀ (s : SendCfg) (r : RecvCfg) (env : Env) (e : ExcRec) (nn : Bool),
    BuiltinRec e → Known env e.cls.name nn → Writable env (.real (.str e.cls.modname) e.cls.name) e →
    ∃ p, dumpExc s e = .ok p ∧ ∃ o, requesterSees (loadExc r env p) = .raised o ∧ Faithful s e o

/-- "when, and only when": withheld -> the marker, whatever the traceback; allowed and formattable -> the text itself -/
theorem traceback_iff_allowed (s : SendCfg) (e : ExcRec) :
    (s.includeTb = false → tbShown s e = Gen.Vinegar.tracebackDenied)
      ∧ (∀ t, s.includeTb = true → e.tbText = .ok t → tbShown s e = t) := by
  constructor
  · intro h; simp [tbShown, h]
  · intro t h ht; simp [tbShown, h, ht]

/-! ### built-in classes -/

/-- the bare-StopIteration path: the marker travels, the requester sees `raise StopIteration` -/
theorem stopiteration_bare (s : SendCfg) (r : RecvCfg) (env : Env) (e : ExcRec) (hf : fastPath e = true) :
    dumpExc s e = .ok (.int Gen.Vinegar.excStopIteration)
      ∧ requesterSees (loadExc r env (.int Gen.Vinegar.excStopIteration)) = .raised ⟨builtinStopIteration, [], []⟩
      ∧ (loadExc r env (.int Gen.Vinegar.excStopIteration)).events = []
      ∧ isStopIteration e.cls = true ∧ e.args = [] := by
  have hd : dumpExc s e = .ok (.int Gen.Vinegar.excStopIteration) := by simp [dumpExc, hf]
  have hl : loadExc r env (.int Gen.Vinegar.excStopIteration) = ⟨[], .ok .stopIterationClass⟩ := by
    simp [loadExc_eq_core, loadCore, isStopMarker]
  refine ⟨hd, by rw [hl]; rfl, by rw [hl], ?_, ?_⟩
  · simp only [fastPath, Bool.and_eq_true] at hf; exact hf.1.2
  · simp only [fastPath, gen_fastPath_shape.2, Bool.and_eq_true, Bool.not_true, Bool.false_or] at hf
    simpa using hf.2

/-- a built-in class whose `__new__` takes no arguments, any arguments, any attributes, all
switch settings: same class, normalised arguments, same immutable public data attributes, traceback and version
text exactly as the sender's two switches say; the only events are the (never taken, `builtins` is loaded) import
gate and one `__new__`. -/
theorem builtin_fidelity (s : SendCfg) (r : RecvCfg) (env : Env) (e : ExcRec)
    (hb : BuiltinRec e) (hk : Known env e.cls.name false)
    (hw : Writable env (.real (.str e.cls.modname) e.cls.name) e) (hnf : fastPath e = false) :
    dumpExc s e = .ok (recordPayload s e (.str (tbShown s e)))
      ∧ loadExc r env (recordPayload s e (.str (tbShown s e)))
        = ⟨[.new (.real (.str e.cls.modname) e.cls.name)],
           .ok (.exc (received s e (.real (.str e.cls.modname) e.cls.name)))⟩
      ∧ Faithful s e (received s e (.real (.str e.cls.modname) e.cls.name)) := by
  obtain ⟨_, hmod, hargs1, hnodup, hwalk⟩ := hb
  have hres := resolveClass_builtin r env hmod hk
  have hloaded : env.loaded (.str e.cls.modname) = true := by rw [hmod]; exact hk.1
  refine ⟨dumpExc_ok s e hnf hwalk, ?_, rfl, ?_, ?_, fun _ => received_get_tb s e _, fun _ => received_get_ver s e _ hnodup⟩
  · rw [loadExc_genuine s r env e _ hres hw, importEvents_loaded r env _ hloaded]; rfl
  · simp [received, walkArgs_once e e.dir hargs1]
  · intro _ d hd a hdata hv hs ha hdump
    rw [received_get_attr s e _ d a hnodup hd hv hs hdata ha]
    simp [sendable, hdump]

/-- the statement for every built-in class whose `__new__` takes no arguments. -/
theorem C09_partial (s : SendCfg) (r : RecvCfg) (env : Env) (e : ExcRec)
    (hb : BuiltinRec e) (hk : Known env e.cls.name false)
    (hw : Writable env (.real (.str e.cls.modname) e.cls.name) e) :
    ∃ p, dumpExc s e = .ok p ∧ ∃ o, requesterSees (loadExc r env p) = .raised o ∧ Faithful s e o := by
  cases hf : fastPath e
  · obtain ⟨hd, hl, hfaith⟩ := builtin_fidelity s r env e hb hk hw hf
    exact ⟨_, hd, _, by rw [hl]; rfl, hfaith⟩
  · obtain ⟨hd, hsees, _, hstop, hargs⟩ := stopiteration_bare s r env e hf
    -- the clauses about attributes, traceback and version speak of the record path only
    have hrec : fastPath e ≠ false := by simp [hf]
    refine ⟨_, hd, _, hsees, ?_, ?_, fun h => absurd h hrec, fun h => absurd h hrec, fun h => absurd h hrec⟩
    · have hn : e.cls.name = stopIterationName := by
        simp only [isStopIteration, Bool.and_eq_true] at hstop; simpa using hstop.2
      simp [builtinStopIteration, hb.2.1, hn, ExcObj.type, getExceptionClass]
    · simp [hargs]

/-- a class whose `__new__` needs arguments: the load raises TypeError — nothing surfaces as that class -/
theorem needsArgs_raises (s : SendCfg) (r : RecvCfg) (env : Env) (e : ExcRec)
    (hb : BuiltinRec e) (hk : Known env e.cls.name true) (hnf : fastPath e = false) :
    dumpExc s e = .ok (recordPayload s e (.str (tbShown s e)))
      ∧ (loadExc r env (recordPayload s e (.str (tbShown s e)))).out = .error .typeError
      ∧ requesterSees (loadExc r env (recordPayload s e (.str (tbShown s e)))) = .error .typeError := by
  have hres := resolveClass_builtin r env hb.2.1 hk
  rw [loadExc_record s r env e _ true _ hres, instantiate_eq]
  exact ⟨dumpExc_ok s e hnf hb.2.2.2.2, rfl, rfl⟩

/-- **C09 for every built-in exception class of this interpreter** (`Gen.Vinegar.builtinExcTable`, measured and regenerated on
every run) whose `__new__` takes no arguments, with the receiver being this interpreter (`tableEnv`): the environment
hypotheses `Known` and `Writable` are discharged from the table (`known_of_mem`, `writable_of_recOf`).  What remains, `RecOf`,
is assumed of the record, not derived: that `dir()` lists `args` exactly once and no name twice, that nothing `dump` calls on
the exception raises, and that a typed attribute shows a value of a kind its getter returns.  The generator measures these on
sample instances of every class (`builtinDirSane`, `builtinGetattrClean`, observed kinds; `table_dir_and_getattr_sane`,
`table_getters_within_setters`), which supports the assumption without proving it for every instance. -/
theorem C09_partial_interpreter (row : Row) (hrow : row ∈ Gen.Vinegar.builtinExcTable) (hnn : row.2.1 = false)
    (s : SendCfg) (r : RecvCfg) (e : ExcRec) (he : RecOf row e) :
    ∃ p, dumpExc s e = .ok p ∧ ∃ o, requesterSees (loadExc r tableEnv p) = .raised o ∧ Faithful s e o := by
  have hk := known_of_mem row hrow
  rw [hnn] at hk
  have hw := writable_of_recOf row e hrow he
  obtain ⟨hcls, hargs, hnodup, hwalk, _⟩ := he
  have hname : e.cls.name = row.1 := by rw [hcls]
  rw [← hname] at hk
  exact C09_partial s r tableEnv e ⟨by rw [hcls], by rw [hcls], hargs, hnodup, hwalk⟩ hk hw

/-- the classes of this interpreter left out by `C09_partial_interpreter` are at most the two exception-group classes
(the known finding); a new class with a `__new__` that needs arguments breaks this -/
theorem needsArgs_classes_known :
    (Gen.Vinegar.builtinExcTable.filter (·.2.1)).all
      (fun r => [[66, 97, 115, 101, 69, 120, 99, 101, 112, 116, 105, 111, 110, 71, 114, 111, 117, 112],
                 [69, 120, 99, 101, 112, 116, 105, 111, 110, 71, 114, 111, 117, 112]].contains r.1) = true := by
  decide +kernel

/-- **built-in at the sender, unknown at the receiver** (another interpreter version): the generic stand-in named
`builtins.<name>`, under every switch setting, with the arguments, attributes, traceback and version text of the original -/
theorem builtin_unknown_at_receiver (s : SendCfg) (r : RecvCfg) (env : Env) (e : ExcRec)
    (hb : BuiltinRec e) (hnf : fastPath e = false) (hloaded : env.loaded (.str Gen.Vinegar.exceptionsModule) = true)
    (h1 : (env.builtinAttr e.cls.name).isExc = false)
    (h2 : (env.modAttr (.str Gen.Vinegar.exceptionsModule) e.cls.name).isExc = false)
    (hname : typeNameCheck (Gen.Vinegar.exceptionsModule ++ [46] ++ e.cls.name) = .ok ())
    (hw : Writable env (.generic (Gen.Vinegar.exceptionsModule ++ [46] ++ e.cls.name)) e) :
    dumpExc s e = .ok (recordPayload s e (.str (tbShown s e)))
      ∧ loadExc r env (recordPayload s e (.str (tbShown s e)))
        = ⟨[.new (.generic (Gen.Vinegar.exceptionsModule ++ [46] ++ e.cls.name))],
           .ok (.exc (received s e (.generic (Gen.Vinegar.exceptionsModule ++ [46] ++ e.cls.name))))⟩ := by
  obtain ⟨_, hmod, _, _, hwalk⟩ := hb
  have hres : resolveClass r env (.str e.cls.modname) (.str e.cls.name)
      = .ok (.generic (Gen.Vinegar.exceptionsModule ++ [46] ++ e.cls.name), false) := by
    rw [hmod]; exact resolveClass_builtin_unknown r env e.cls.name h1 h2 hname
  have hl : env.loaded (.str e.cls.modname) = true := by rw [hmod]; exact hloaded
  refine ⟨dumpExc_ok s e hnf hwalk, ?_⟩
  rw [loadExc_genuine s r env e _ hres hw, importEvents_loaded r env _ hl]
  rfl

/-- what `str()` / `repr()` of the received object shows (`Derived.__str__`): the class's own text, then the marker line
numbered 1 + the markers already inside the traceback text, then the remote traceback text (or its marker) -/
theorem received_str (s : SendCfg) (e : ExcRec) (cls : ClsRef) (base : Str) :
    (received s e cls).str (.ok base)
      = .ok (base ++ Gen.Vinegar.remoteLineStart ++ [40]
              ++ natDigits (countSub Gen.Vinegar.remoteLineStart (tbShown s e) + 1) ++ [41]
              ++ Gen.Vinegar.remoteLineEnd ++ tbShown s e) := by
  simp [ExcObj.str, received_get_tb, derivedStr]

/-- **two hops**: an exception received from one peer and raised on to another (what `dump` then sees is the `Derived`
subclass, presented under the copied `__module__` / `__name__`: `ObjType.presentedAs`) is rebuilt by the final receiver as the
same built-in class the first receiver built — under every switch setting of the second hop, with arguments, attributes and
texts following the one-hop rule for the record the intermediate peer presents -/
theorem two_hops_same_class (s2 : SendCfg) (r2 : RecvCfg) (env2 : Env) (o1 : ExcObj) (e2 : ExcRec) (n : Str)
    (ho : o1.cls = .real (.str Gen.Vinegar.exceptionsModule) n)
    (he : o1.type.presentedAs = some e2.cls) (hwalk : e2.walkRaises = none)
    (hk : Known env2 n false) (hw : Writable env2 o1.cls e2) :
    dumpExc s2 e2 = .ok (recordPayload s2 e2 (.str (tbShown s2 e2)))
      ∧ loadExc r2 env2 (recordPayload s2 e2 (.str (tbShown s2 e2)))
          = ⟨[.new o1.cls], .ok (.exc (received s2 e2 o1.cls))⟩
      ∧ (received s2 e2 o1.cls).type = o1.type := by
  have hc : e2.cls = ⟨Gen.Vinegar.exceptionsModule, n, .custom⟩ := by
    simp [ExcObj.type, getExceptionClass, ObjType.presentedAs, ho] at he
    exact he.symm
  have hnf : fastPath e2 = false := by simp [fastPath, isStopIteration, hc]
  have hres : resolveClass r2 env2 (.str e2.cls.modname) (.str e2.cls.name)
      = .ok (.real (.str Gen.Vinegar.exceptionsModule) n, false) := by
    rw [hc]; exact resolveClass_builtin r2 env2 rfl hk
  have hl : env2.loaded (.str e2.cls.modname) = true := by rw [hc]; exact hk.1
  rw [ho] at hw ⊢
  refine ⟨dumpExc_ok s2 e2 hnf hwalk, ?_, by simp [ExcObj.type, getExceptionClass, received, ho]⟩
  rw [loadExc_genuine s2 r2 env2 e2 _ hres hw, importEvents_loaded r2 env2 _ hl]
  rfl

/-- every attribute `dump` sends comes from a `dir` entry whose value is not callable — so `load`
never plants an instance attribute over a method of the rebuilt class (`e.add_note(...)` keeps working) and no method's repr,
with the address it contains, travels.  Rests on the measured `Gen.Vinegar.skipsCallables`. -/
theorem no_method_shadowed (e : ExcRec) : ∀ p ∈ sentAttrs e.dir,
    ∃ d ∈ e.dir, d.name = p.1 ∧ d.isData = true ∧ skipped d.name = false := by
  intro p hp
  obtain ⟨d, hd, o, _, _, hdrop, rfl⟩ := mem_sentAttrs.mp hp
  exact ⟨d, hd, rfl, ((dropped_eq_false d).mp hdrop).2, ((dropped_eq_false d).mp hdrop).1⟩

/-! ### the witness of the known finding -/

/-- `builtins`, the module name in the sample records below -/
def b : Str := Gen.Vinegar.exceptionsModule
/-- `ExceptionGroup` -/
def groupName : Str := [69, 120, 99, 101, 112, 116, 105, 111, 110, 71, 114, 111, 117, 112]
/-- an environment in which `builtins` is loaded and the class's `__new__` needs arguments (Python 3.11+:
`BaseExceptionGroup`, `ExceptionGroup`) -/
def groupEnv : Env :=
  { loaded := fun _ => true, importable := fun _ => false, lazy := fun _ => false, modAttr := fun _ _ => .excClass true,
    builtinAttr := fun _ => .excClass true, fmtName := fun _ _ => .error .notModelled, setattr := fun _ _ _ => .store }
/-- `ExceptionGroup("m", [ValueError(1)])`: the list argument travels as its repr -/
def groupRec : ExcRec :=
  { cls := ⟨b, groupName, .builtin⟩,
    args := [⟨.str [109], [39, 109, 39]⟩, ⟨.other 0, [91, 86, 40, 49, 41, 93]⟩],
    dir := [⟨Gen.Vinegar.argsName, none, true⟩, ⟨[109, 101, 115, 115, 97, 103, 101], some ⟨.str [109], []⟩, true⟩],
    tbText := .ok [116, 98], walkRaises := none }

theorem groupRec_builtin : BuiltinRec groupRec := ⟨rfl, rfl, by decide, by decide, rfl⟩

/-- Under default switches on both sides the receiver's `load` of a remote
`ExceptionGroup` raises TypeError — which is what the requester then receives instead of the class —, so the full
statement is false of the code. -/
theorem C09_counterexample_group :
    (∃ p, dumpExc defaultSendCfg groupRec = .ok p
        ∧ requesterSees (loadExc defaultRecvCfg groupEnv p) = .error .typeError)
      ∧ ¬ C09_statement := by
  have hk : Known groupEnv groupRec.cls.name true := ⟨rfl, rfl, rfl⟩
  have hnf : fastPath groupRec = false := by decide
  obtain ⟨hd, _, hsees⟩ := needsArgs_raises defaultSendCfg defaultRecvCfg groupEnv groupRec groupRec_builtin hk hnf
  refine ⟨⟨_, hd, hsees⟩, ?_⟩
  intro hst
  obtain ⟨p, hp, o, ho, _⟩ := hst defaultSendCfg defaultRecvCfg groupEnv groupRec true groupRec_builtin hk
    ⟨fun _ _ => rfl, fun _ => rfl⟩
  rw [hd] at hp
  cases hp
  rw [hsees] at ho
  cases ho

/-! ### classes that are not built in -/

/-- a class that is not built in (its module is not `builtins`), whose `__new__` takes no arguments
where it exists, is rebuilt as `customClass`: the real class iff `instantiate_custom_exceptions` and the module is loaded
or was just imported under `import_custom_exceptions` and holds an exception class of that name
(`customClass_real_iff`, `inModules_iff`); otherwise the generic stand-in named `module.class`.  Arguments, attributes,
traceback and version text arrive as for built-in classes.  An import is attempted iff `import_custom_exceptions`
and the module is not loaded. -/
theorem custom_gate (s : SendCfg) (r : RecvCfg) (env : Env) (e : ExcRec)
    (hc : e.cls.kind = .custom) (hm : e.cls.modname ≠ Gen.Vinegar.exceptionsModule)
    (hname : typeNameCheck (e.cls.modname ++ [46] ++ e.cls.name) = .ok ())
    (hnn : env.modAttr (.str e.cls.modname) e.cls.name ≠ .excClass true) (hwalk : e.walkRaises = none)
    (hw : Writable env (customClass r env e.cls.modname e.cls.name) e) :
    dumpExc s e = .ok (recordPayload s e (.str (tbShown s e)))
      ∧ loadExc r env (recordPayload s e (.str (tbShown s e)))
      = ⟨importEvents r env (.str e.cls.modname) ++ [.new (customClass r env e.cls.modname e.cls.name)],
         .ok (.exc (received s e (customClass r env e.cls.modname e.cls.name)))⟩ := by
  have hnf : fastPath e = false := by simp [fastPath, isStopIteration, hc]
  refine ⟨dumpExc_ok s e hnf hwalk, ?_⟩
  obtain ⟨nn, hres, hnn'⟩ := resolveClass_custom r env e.cls.modname e.cls.name hm hname
  have : nn = false := by
    cases nn
    · rfl
    · exact absurd (hnn' rfl).2 hnn
  subst this
  exact loadExc_genuine s r env e _ hres hw

/-- not allowed to instantiate custom classes: always the generic stand-in named after the original -/
theorem custom_denied (r : RecvCfg) (env : Env) (m c : Str) (h : r.instCustom = false) :
    customClass r env m c = .generic (m ++ [46] ++ c) := by
  simp [customClass, moduleRoute, h]

/-- allowed to instantiate but not to import, and the module is not loaded: the generic stand-in, and no import -/
theorem custom_not_imported (r : RecvCfg) (env : Env) (m c : Str) (hi : r.importCustom = false)
    (hl : env.loaded (.str m) = false) :
    customClass r env m c = .generic (m ++ [46] ++ c) ∧ importEvents r env (.str m) = [] := by
  simp [customClass, moduleRoute, inModules, importAttempted, importEvents, hi, hl]

/-- allowed, available, an exception class: the real class -/
theorem custom_rebuilt (r : RecvCfg) (env : Env) (m c : Str) (nn : Bool) (h : r.instCustom = true)
    (ha : env.loaded (.str m) = true ∨ (r.importCustom = true ∧ env.importable (.str m) = true))
    (hk : env.modAttr (.str m) c = .excClass nn) : customClass r env m c = .real (.str m) c :=
  (customClass_real_iff r env m c).mpr ⟨h, (inModules_iff r env _).mpr ha, by simp [hk, ObjKind.isExc]⟩

/-! ### an exception that cannot be dumped or put on the wire (`Connection._send_exception`) -/

/-- when `dump` raises (a `repr()` that raises, ...) or brine refuses the payload (an int beyond the digit limit), the
requester is still answered: with the fallback record — the class name and fixed texts, nothing of the exception's data.
This is the one documented deviation from "same arguments": it applies only to arguments that cannot be serialized. -/
theorem fallback_when_unserializable (s : SendCfg) (e : ExcRec) :
    (∀ err, dumpExc s e = .error err → boxExc s e = .ok (fallbackPayload e))
      ∧ (∀ p err, dumpExc s e = .ok p → Brine.dump p = .error err → boxExc s e = .ok (fallbackPayload e))
      ∧ (∀ p bs, dumpExc s e = .ok p → Brine.dump p = .ok bs → boxExc s e = .ok p) :=
  ⟨boxExc_dump_raises s e, fun p err => boxExc_wire_raises s e p err, fun p bs => boxExc_ok s e p bs⟩

/-- the fallback record surfaces as the same built-in class, carries the note as its only argument and a fixed text as
traceback: it does not depend on the sender's switches at all, so it cannot disclose a traceback or a version -/
theorem fallback_discloses_nothing (r : RecvCfg) (env : Env) (e : ExcRec) (hb : BuiltinRec e)
    (hk : Known env e.cls.name false) :
    loadExc r env (fallbackPayload e)
      = ⟨[.new (.real (.str e.cls.modname) e.cls.name)], .ok (.exc (fallbackObj (.real (.str e.cls.modname) e.cls.name)))⟩
      ∧ (fallbackObj (.real (.str e.cls.modname) e.cls.name)).get Gen.Vinegar.remoteTbAttr
          = some (.str Gen.Vinegar.fallbackTb)
      ∧ (fallbackObj (.real (.str e.cls.modname) e.cls.name)).get Gen.Vinegar.versionAttr = none := by
  have hres := resolveClass_builtin r env hb.2.1 hk
  have hloaded : env.loaded (.str e.cls.modname) = true := by rw [hb.2.1]; exact hk.1
  refine ⟨by rw [loadExc_fallback r env e _ hres, importEvents_loaded r env _ hloaded]; rfl, ?_, ?_⟩
  · simp [fallbackObj, ExcObj.get, lookupAttr]
  · have hne : (Gen.Vinegar.remoteTbAttr == Gen.Vinegar.versionAttr) = false := beq_eq_false_iff_ne.mpr gen_remoteTb_ne_version
    simp [fallbackObj, ExcObj.get, lookupAttr, hne]

/-- a traceback the traceback module cannot format does not cost the exception anything else: `dump` succeeds (the
repair of the lost SyntaxError arguments) -/
theorem unformattable_traceback_still_dumps (s : SendCfg) (e : ExcRec) (err : Err) (hnf : fastPath e = false)
    (hw : e.walkRaises = none) (_ht : e.tbText = .error err) : ∃ p, dumpExc s e = .ok p :=
  ⟨_, dumpExc_ok s e hnf hw⟩

/-! ### ties to the source (generated; each breaks when the code moves) -/

/-- `load` and the functions it uses (`_get_exception_class` among them) call nothing outside the allow-lists written in
`Vinegar/Model.lean` (`loadCallsAllowed`, `derivedCallsAllowed`) — in particular no `cls(...)` —, and the probe class's
`__init__` canary stayed silent -/
theorem loader_calls_allowed :
    Gen.Vinegar.loadCalls.all (fun c => loadCallsAllowed.contains c) = true
      ∧ Gen.Vinegar.derivedCalls.all (fun c => derivedCallsAllowed.contains c) = true
      ∧ Gen.Vinegar.derivedCalls ≠ [] ∧ Gen.Vinegar.instantiatesByNew = true := by decide +kernel

/-- the StopIteration marker path exists and requires empty arguments (the repair of the lost generator value) -/
theorem fast_path_requires_no_args :
    Gen.Vinegar.stopFastPathExists = true ∧ Gen.Vinegar.stopFastPathRequiresNoArgs = true := gen_fastPath_shape

/-- formatting the traceback is guarded in `dump`, `_send_exception` has its fallback, and the fallback's traceback
texts are constants (observed by the generator: texts that vary with the exception or the switches fail the translation) -/
theorem failure_paths_present : Gen.Vinegar.tbFormatGuarded = true ∧ Gen.Vinegar.fallbackExists = true :=
  ⟨gen_tbFormatGuarded, gen_fallbackExists⟩

/-- each parameter of `vinegar.dump` / `vinegar.load` is fed from the configuration key of the same name, and the two
local re-raises are the ones modelled -/
theorem config_keys_wired :
    Gen.Vinegar.boxExcKeys = [("include_local_traceback", "include_local_traceback"),
                              ("include_local_version", "include_local_version")]
      ∧ Gen.Vinegar.unboxExcKeys = [("import_custom_exceptions", "import_custom_exceptions"),
          ("instantiate_custom_exceptions", "instantiate_custom_exceptions"),
          ("instantiate_oldstyle_exceptions", "instantiate_oldstyle_exceptions")]
      ∧ Gen.Vinegar.localRoutes = [("KeyboardInterrupt", "propagate_KeyboardInterrupt_locally"),
          ("SystemExit", "propagate_SystemExit_locally")]
      ∧ Gen.Vinegar.classTypeIsType = true := ⟨rfl, rfl, rfl, rfl⟩

/-- facts tying independently obtained constants together: the attribute `dump` walks as the argument tuple is the one `load`
assigns with `exc.args = ...` (a literal of the model); the own version string and the own major version (two live values of
`rpyc.version`) agree, so a peer of the same version is not warned about.  That the text `dump` sends for a withheld version —
and an absent version — does not trigger `load`'s warning is observed by the generator (a probe record carrying that text; the
translation fails otherwise), which is why `loadVersionCompare` / `loadVersionDefault` are that text by construction -/
theorem markers_agree :
    Gen.Vinegar.argsName = argsAttr ∧ majorOf Gen.Vinegar.versionString = Gen.Vinegar.versionMajor
      ∧ (Gen.Vinegar.versionDenied == Gen.Vinegar.versionString) = false
      ∧ (Gen.Vinegar.tracebackDenied == Gen.Vinegar.tracebackUnavailable) = false := ⟨gen_argsName, by decide⟩

/-- out of the box neither importing nor instantiating custom exceptions is allowed -/
theorem defaults_closed : defaultRecvCfg.importCustom = false ∧ defaultRecvCfg.instCustom = false := by decide

/-! ### every payload, however crafted -/

/-- whatever the payload, the receiver attempts an import only if `import_custom_exceptions` is on
(and then only of a module that is not loaded) — and runs no module-level code through the class lookup either (`EvOK` forbids
`moduleCode` events; the lookup reads the module's own namespace: measured `gen_moduleLookupPure`) -/
theorem no_import (r : RecvCfg) (env : Env) (payload m : Val)
    (h : Event.importAttempt m ∈ (loadExc r env payload).events) : r.importCustom = true ∧ env.loaded m = false :=
  loadExc_events r env payload _ h

theorem no_import_by_default (env : Env) (payload m : Val) :
    Event.importAttempt m ∉ (loadExc defaultRecvCfg env payload).events := by
  intro h
  have := (no_import _ env payload m h).1
  rw [defaults_closed.1] at this
  cases this

/-- whatever the payload and whatever the switches, no constructor runs.  The model emits a constructor event
exactly when the generator's canary probe sees `__init__` run (`instantiationEvent`, `Gen.Vinegar.instantiatesByNew`), so this
rests on that measured fact (`gen_instantiatesByNew`; canary subclasses of seven built-in bases, with and without arguments and
attributes in the record), on `loader_calls_allowed` (no call of a local name or expression in
`load`), and on the correspondence's `__init__` canaries -/
theorem no_init (r : RecvCfg) (env : Env) (payload : Val) (c : ClsRef) :
    Event.init c ∉ (loadExc r env payload).events :=
  fun h => loadExc_events r env payload _ h

/-- whatever the payload, the load raises, or returns the `StopIteration` class / the text itself
(which `raise` refuses), or an instance — made by `__new__` — of the generic stand-in or of an exception class found
where the configuration allows looking: in the module only under `instantiate_custom_exceptions`, else in `builtins` only -/
theorem outcome_allowed (r : RecvCfg) (env : Env) (payload : Val) :
    (∃ err, (loadExc r env payload).out = .error err)
      ∨ (loadExc r env payload).out = .ok .stopIterationClass
      ∨ (∃ t, (loadExc r env payload).out = .ok (.strExc t) ∧ payload = .str t)
      ∨ (∃ o, (loadExc r env payload).out = .ok (.exc o) ∧ ClsAllowed r env o.cls) := by
  cases h : (loadExc r env payload).out with
  | error err => exact Or.inl ⟨err, rfl⟩
  | ok out =>
    rcases loadExc_cases r env payload with ⟨m, c, a, b, t, heq⟩ | ⟨_, hout⟩
    · obtain ⟨o, rfl, hcls⟩ := loadRecord_out r env m c a b t out (heq ▸ h)
      exact Or.inr (Or.inr (Or.inr ⟨o, rfl, hcls⟩))
    · rcases hout out h with rfl | ⟨t, rfl, rfl⟩
      · exact Or.inr (Or.inl rfl)
      · exact Or.inr (Or.inr (Or.inl ⟨t, rfl, rfl⟩))

/-- the requester never sees anything but a raised exception object or an error -/
theorem hostile_payload_contained (r : RecvCfg) (env : Env) (payload : Val) :
    (∀ ev ∈ (loadExc r env payload).events, EvOK r env ev)
      ∧ (r.instCustom = false → ∀ o, (loadExc r env payload).out = .ok (.exc o) →
          (∃ fn, o.cls = .generic fn) ∨ (∃ m c nn, o.cls = .real m c ∧ isBuiltinsName m = true
            ∧ env.builtinAttr c = .excClass nn)) := by
  refine ⟨loadExc_events r env payload, ?_⟩
  intro hi o ho
  have := loadExc_out r env payload o ho
  cases hc : o.cls with
  | generic fn => exact Or.inl ⟨fn, rfl⟩
  | real m c =>
    rw [hc] at this
    obtain ⟨nn, hnn⟩ := this
    simp only [hi, Bool.false_eq_true, ↓reduceIte] at hnn
    exact Or.inr ⟨m, c, nn, rfl, hnn.1, hnn.2⟩

/-- `instantiate_oldstyle_exceptions` is read by `_unbox_exc` and changes nothing: measured by the generator on probe records
under both settings (`Gen.Vinegar.oldstyleSwitchInert`, through `loadExc_eq_core`); `loadExc` reads the switch and would decline
to answer were that measurement to change -/
theorem oldstyle_switch_irrelevant (r : RecvCfg) (env : Env) (payload : Val) (x : Bool) :
    loadExc { r with instOldstyle := x } env payload = loadExc r env payload := by
  rw [loadExc_eq_core, loadExc_eq_core]
  rfl

/-! ### non-vacuity -/

/-- `KeyError('k', [1])` with an extra attribute `detail = 3`, a method `add_note`, a private name -/
def sampleRec : ExcRec :=
  { cls := ⟨b, [75, 101, 121, 69, 114, 114, 111, 114], .builtin⟩,
    args := [⟨.str [107], [39, 107, 39]⟩, ⟨.other 0, [91, 49, 93]⟩],
    dir := [⟨[95, 95, 100, 111, 99, 95, 95], some ⟨.str [100], []⟩, true⟩,
            ⟨[97, 100, 100, 95, 110, 111, 116, 101], some ⟨.other 99, [60, 109, 62]⟩, false⟩,
            ⟨Gen.Vinegar.argsName, none, true⟩,
            ⟨[100, 101, 116, 97, 105, 108], some ⟨.int 3, [51]⟩, true⟩,
            ⟨[119, 105, 116, 104, 95, 116, 114, 97, 99, 101, 98, 97, 99, 107], some ⟨.other 99, [60, 119, 62]⟩, false⟩],
    tbText := .ok [84, 114, 97, 99, 101], walkRaises := none }
def sampleEnv : Env :=
  { loaded := fun m => isBuiltinsName m, importable := fun _ => false, lazy := fun _ => false,
    modAttr := fun m _ => if isBuiltinsName m then .excClass false else .missing,
    builtinAttr := fun _ => .excClass false, fmtName := fun _ _ => .error .notModelled, setattr := fun _ _ _ => .store }

example : BuiltinRec sampleRec := ⟨rfl, rfl, by decide, by decide, rfl⟩
/-- the sample is a record of the measured row of `KeyError`, so `C09_partial_interpreter` applies to it with `tableEnv` -/
def keyErrorRow : Row := ([75, 101, 121, 69, 114, 114, 111, 114], false, [])
example : keyErrorRow ∈ Gen.Vinegar.builtinExcTable := by decide +kernel
example : RecOf keyErrorRow sampleRec := by
  refine ⟨rfl, by decide, by decide, rfl, ?_⟩
  intro d _ a acc _ hfa
  simp [findAttr, keyErrorRow] at hfa
example : ∃ p, dumpExc defaultSendCfg sampleRec = .ok p ∧ ∃ o,
    requesterSees (loadExc defaultRecvCfg tableEnv p) = .raised o ∧ Faithful defaultSendCfg sampleRec o :=
  C09_partial_interpreter keyErrorRow (by decide +kernel) rfl _ _ _ (by
    refine ⟨rfl, by decide, by decide, rfl, ?_⟩
    intro d _ a acc _ hfa
    simp [findAttr, keyErrorRow] at hfa)
/-- a typed setter in the table: `BlockingIOError.characters_written` stores ints only -/
example : rowSetattr [66, 108, 111, 99, 107, 105, 110, 103, 73, 79, 69, 114, 114, 111, 114]
      [99, 104, 97, 114, 97, 99, 116, 101, 114, 115, 95, 119, 114, 105, 116, 116, 101, 110] (.int 7) = .store
    ∧ rowSetattr [66, 108, 111, 99, 107, 105, 110, 103, 73, 79, 69, 114, 114, 111, 114]
      [99, 104, 97, 114, 97, 99, 116, 101, 114, 115, 95, 119, 114, 105, 116, 116, 101, 110] (.str [55]) = .raises .typeError := by
  decide +kernel
example : Known sampleEnv sampleRec.cls.name false := ⟨rfl, rfl, rfl⟩
example : Writable sampleEnv (.real (.str sampleRec.cls.modname) sampleRec.cls.name) sampleRec :=
  ⟨fun _ _ => rfl, fun _ => rfl⟩
/-- the record above really goes the long way and comes back with `detail = 3`, args `('k', '[1]')`, the marker
instead of the traceback when the sender withholds it -/
example : dumpExc ⟨false, true, false, true⟩ sampleRec
    = .ok (recordPayload ⟨false, true, false, true⟩ sampleRec (.str Gen.Vinegar.tracebackDenied)) := by rfl
example : requesterSees (loadExc ⟨false, false, false⟩ sampleEnv
      (recordPayload ⟨false, true, false, true⟩ sampleRec (.str Gen.Vinegar.tracebackDenied)))
    = .raised ⟨.real (.str b) [75, 101, 121, 69, 114, 114, 111, 114], [.str [107], .str [91, 49, 93]],
        [(Gen.Vinegar.remoteTbAttr, .str Gen.Vinegar.tracebackDenied),
         (Gen.Vinegar.versionAttr, .str Gen.Vinegar.versionString),
         ([100, 101, 116, 97, 105, 108], .int 3)]⟩ := by rfl
/-- the traceback module fails on the exception: it is still dumped, with the "unavailable" literal -/
example : dumpExc defaultSendCfg { sampleRec with tbText := .error .attributeError }
    = .ok (recordPayload defaultSendCfg sampleRec (.str Gen.Vinegar.tracebackUnavailable)) := by rfl
/-- an argument whose repr() raises: `dump` raises, the fallback record travels and discloses nothing -/
example : boxExc ⟨true, true, false, true⟩ { sampleRec with walkRaises := some .valueError }
    = .ok (fallbackPayload sampleRec) := by rfl
/-- a custom record under a receiver that may instantiate but not import, module not loaded: generic stand-in `m.E` -/
example : (loadExc ⟨false, true, false⟩ sampleEnv
      (recordPayload defaultSendCfg { sampleRec with cls := ⟨[109], [69], .custom⟩ } (.str [116]))).out
    = .ok (.exc ⟨.generic [109, 46, 69], [.str [107], .str [91, 49, 93]],
        [(Gen.Vinegar.remoteTbAttr, .str [116]), (Gen.Vinegar.versionAttr, .str Gen.Vinegar.versionString),
         ([100, 101, 116, 97, 105, 108], .int 3)]⟩) := by
  rfl
/-- crafted payloads: `True` is the StopIteration marker; a 3-tuple is a ValueError; `("builtins","int")` is generic -/
example : (loadExc defaultRecvCfg sampleEnv (.bool true)).out = .ok .stopIterationClass := by rfl
example : (loadExc defaultRecvCfg sampleEnv (.tuple [.int 1, .int 2, .int 3])).out = .error .valueError := by rfl
example : (loadExc ⟨true, true, true⟩ { sampleEnv with modAttr := fun _ _ => .typeNotExc }
      (.tuple [.tuple [.str [120], .str [105, 110, 116]], .tuple [], .tuple [], .str []])).events
    = [.importAttempt (.str [120]), .new (.generic [120, 46, 105, 110, 116])] := by rfl

end Rpyc.Props.C09
