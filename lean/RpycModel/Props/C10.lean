import RpycModel.Box.Values
/-
C10 — an object passed by reference lives at its owner exactly as long as the peer holds a proxy to it.

Histories are arbitrary finite lists over
  send ks (owner sends objects, alone or several / nested in tuples: `ks` is the boxing order),
  fetch ks (peer asks; the owner's *reply* carries them), back k (peer passes a proxy back; echo = the owner
  returns it once more), finalize k (the proxy's `__del__` runs: "drop"), deliverO2P, deliverP2O, close,
  sendFail ks / fetchBad ks (a request / a reply that is boxed and then cannot be sent), splitHead j (the next
  message's `_unbox` will fail after `j` references),
with no bound on length, on the number of objects, or on how often an object is sent.
-/
namespace Rpyc.Props.C10
open Rpyc Rpyc.Box

/-- the bookkeeping identity in the form DESIGN.md states it: for a lent object the stored count + 1 equals
references in flight + the live proxy's count + releases in flight; for an object not in the table all three are zero -/
def Balanced (s : St) : Prop :=
  ∀ k, (∀ n, s.tbl k = some n → n + 1 = refsO k s.o2p + cnt (s.px k) + delSum k s.p2o)
     ∧ (s.tbl k = none → refsO k s.o2p + cnt (s.px k) + delSum k s.p2o = 0)

theorem balanced_of_inv (s : St) (h : Inv s) : Balanced s := by
  intro k
  have hk := h.count k
  constructor
  · intro n hn; rw [hn] at hk; simpa [val] using hk
  · intro hn; rw [hn] at hk; simp [val] at hk; omega

theorem invariant_init : Inv St.init := inv_init

/-- **Every operation preserves the invariant** (send / fetch / failed send / failed reply / pass back / finalizer / failing `_unbox` / either delivery / close). -/
theorem invariant_step (s : St) (op : Op) (h : Inv s) : Inv (step s op).2 := inv_step s op h

/-- **Hence every finite history does**, whatever the interleaving. -/
theorem invariant_history (ops : List Op) : Inv (run St.init ops) := inv_run ops _ inv_init

theorem balanced_history (ops : List Op) : Balanced (run St.init ops) :=
  balanced_of_inv _ (invariant_history ops)

/-- After any history: if the peer has a live proxy of `k`, or a reference to `k` or a
release notice for `k` is still in flight, the owner's table holds `k` (so the object is kept alive). -/
theorem alive_while_held (ops : List Op) (k : Id)
    (hheld : (run St.init ops).px k ≠ none ∨ 1 ≤ refsO k (run St.init ops).o2p ∨ 1 ≤ delSum k (run St.init ops).p2o) :
    ∃ n, (run St.init ops).tbl k = some n := by
  have h := invariant_history ops
  refine h.alive k ?_
  rcases hheld with hp | hr | hd
  · have := cnt_pos_of_ne_zero (h.pxPos k) hp; omega
  · omega
  · omega

/-- **Reachable through every proxy.**  No operation of any history ever meets a reference that does not
resolve: a proxy handed back (alone or as the argument of its own release notice) always finds its object, and
`decref` never meets an absent key — including when a release notice crosses a fresh reference in flight. -/
theorem never_keyError (ops : List Op) (op : Op) : (step (run St.init ops) op).1 ≠ .keyError :=
  step_no_keyError _ op (invariant_history ops)

/-- Per object: no live proxy, nothing in flight either way ⇒ not in the table. -/
theorem released_when_dropped (ops : List Op) (k : Id)
    (hp : (run St.init ops).px k = none) (hr : refsO k (run St.init ops).o2p = 0)
    (hd : delSum k (run St.init ops).p2o = 0) : (run St.init ops).tbl k = none :=
  (invariant_history ops).released k (by rw [hp, hr, hd]; rfl)

/-- Both queues empty and no live proxy ⇒ the owner's table is empty. -/
theorem no_leak_at_quiescence (ops : List Op)
    (ho : (run St.init ops).o2p = []) (hp : (run St.init ops).p2o = [])
    (hx : ∀ k, (run St.init ops).px k = none) : ∀ k, (run St.init ops).tbl k = none := by
  intro k
  exact released_when_dropped ops k (hx k) (by rw [ho]; rfl) (by rw [hp]; rfl)

/-- Close releases everything it held, at both ends. -/
theorem close_releases (s : St) (hc : s.closed = false) :
    (∀ k, (step s .close).2.tbl k = none) ∧ (∀ k, (step s .close).2.px k = none)
    ∧ (step s .close).2.o2p = [] ∧ (step s .close).2.p2o = [] := by
  simp [step, hc, closeAll, Tbl.empty]

/-- the same for histories written in terms of what the peer's *application* does (hold, drop, collect a
result): they are histories of the machine, so everything above applies to them -/
theorem invariant_app_history (ops : List AOp) : Inv (appRun App.init ops).s := inv_appRun ops _ inv_init

theorem app_history_is_history (a : App) (op : AOp) : ∃ ops, (appStep a op).2.s = run a.s ops := appStep_base a op

/-! ### message processing that is not atomic

A package that carries a fresh reference of a class the receiver has not seen makes `_unbox` run a nested
`serve()` (the `HANDLE_INSPECT` round trip) before the package is fully unboxed; a release notice travelling right
behind the package is dispatched in there.  `deliverNested resolveFirst mid` is the owner's dispatch of a hand-back
with such a package; `mid` ranges over all finite operation sequences (a superset of what a nested serve can do). -/

/-- **The invariant survives a nested serve of any content**, with the order the code has now (generated constant
`localRefsResolvedFirst`, observed on the live `_unbox`: table lookups of the whole package before any proxy). -/
theorem invariant_nested (ops mid : List Op) :
    Inv (deliverNested Gen.Box.localRefsResolvedFirst mid (run St.init ops)).2 := by
  rw [localRefs_resolvedFirst]; exact (deliverNested_inv_no_keyError mid _ (invariant_history ops)).1

/-- **A release notice cannot overtake the reference it travels behind**: whatever the nested serve dispatches,
the hand-back of the package being unboxed finds its object. -/
theorem never_keyError_nested (ops mid : List Op) :
    (deliverNested Gen.Box.localRefsResolvedFirst mid (run St.init ops)).1 ≠ .keyError := by
  rw [localRefs_resolvedFirst]; exact (deliverNested_inv_no_keyError mid _ (invariant_history ops)).2

/-- the hand-back whose only proxy dies at once: object 7 lent, received, handed back, dropped — the queue to the owner
holds the hand-back with the release notice right behind it -/
def overtaking : List Op := [.send [7], .deliverO2P, .deliverP2O, .back 7 false, .finalize 7]

example : (run St.init overtaking).p2o = [.back 7 false, .del 7 1] ∧ (run St.init overtaking).tbl 7 = some 0 := by decide

/-- **Counterexample for the one-pass order** (`_unbox` before commit e881f31, fresh reference in front of the
hand-back): the nested serve dispatches the release notice, the entry is gone, the hand-back raises KeyError —
in a state every theorem above covers.  With the lookups first the same schedule is served. -/
theorem onePass_order_counterexample :
    (deliverNested false [.deliverP2O] (run St.init overtaking)).1 = .keyError
    ∧ (deliverNested true [.deliverP2O] (run St.init overtaking)).1 = .ok := by decide

/-- When the first proxy of an object needs a
`HANDLE_INSPECT` round trip and its nested serve() receives the same object in a second message, the owner has
registered two references; the peer's one proxy counts two (generated constant `oneProxyAcrossInspect`: one proxy
object and `____refcount__` 2, observed on the live `_unbox`), so its single release notice releases both. -/
theorem reception_during_inspect_is_counted (s : Side) (id : Id) (h : s.px id = none) :
    cnt ((unboxRefAcrossInspect Gen.Box.oneProxyAcrossInspect s id).2.2.px id) = 2 := by
  rw [oneProxy_acrossInspect, (unboxRefAcrossInspect_recheck s id h).2]
  rfl

/-- **Counterexample for "found but not counted"**: the owner registered two references of object 3 (stored count 1),
the peer's one proxy counts one; its release notice leaves the entry in the table although no proxy exists and nothing
is in flight.  (`oneProxyAcrossInspect` is true only for code that finds the proxy and counts the reception; the other
way to fail it, two proxy objects, is `C03.stale_miss_makes_two_proxies`.) -/
theorem uncounted_reception_leaks :
    cnt ((unboxRefAcrossInspectUncounted Side.init 3).2.2.px 3) = 1
    ∧ (addAll Tbl.empty [3, 3]) 3 = some 1
    ∧ (match (addAll Tbl.empty [3, 3]).decref 3 1 with | .ok t => t 3 | .error _ => none) = some 0 := by
  refine ⟨by decide, by decide, by decide⟩

/-! ### messages that are boxed and then cannot be sent

`_box` registers the by-reference objects of a value; `brine.dump` of the whole message runs afterwards and can refuse
it (an int beyond the str() digit limit, a tuple nested too deep).  `sendFail ks` / `fetchBad ks` are those events in
the two directions.  The machine follows the generated constant `failedSendReleases` (observed on the live code: are
the registrations taken back?); the invariant — and with it every theorem above, which quantify over histories
containing these operations — needs it to be true. -/

/-- the code takes back what it registered for a message it could not send (generated constant) -/
theorem failed_send_is_released : Gen.Box.failedSendReleases = true := failedSend_released

/-- **Counterexample for code that does not**: one request that cannot be serialized leaves object 7 in the owner's
table although no proxy exists and nothing is in flight in either direction — exactly what `released_when_dropped`
and `no_leak_at_quiescence` exclude. -/
theorem unreleased_failed_send_leaks :
    (failedBox false Tbl.empty [7]) 7 = some 0
    ∧ ¬ Inv { St.init with tbl := failedBox false Tbl.empty [7] }
    ∧ (failedBox true Tbl.empty [7]) 7 = none := by
  refine ⟨by decide, fun h => ?_, by decide⟩
  -- key 7: one box stored, no reference or release in flight, no proxy
  have h7 : 1 = 0 := h.count 7
  cases h7

/-- with the registrations taken back: a failed request and a failed reply leave nothing behind -/
example : (run St.init [.sendFail [1, 2, 1], .fetchBad [2], .deliverP2O]).tbl 1 = none
    ∧ (run St.init [.sendFail [1, 2, 1], .fetchBad [2], .deliverP2O]).tbl 2 = none
    ∧ (run St.init [.sendFail [1, 2, 1], .fetchBad [2], .deliverP2O]).o2p = [.exc true] := by decide
/-- ... and an object that is lent meanwhile keeps exactly its count -/
example : (run St.init [.send [1], .sendFail [1, 1], .fetchBad [1], .deliverP2O]).tbl 1 = some 0 := by decide

/-! ### messages the receiver cannot unbox

`_unbox` can fail half way (the class of an object cannot be inspected, the round trip times out, a stale `LOCAL_REF`,
an unknown label): the sender registered one reference per `REMOTE_REF`, but no proxy took over the ones not yet
reached.  `splitHead j` + the two deliveries are that event for a failure after `j` references; the machine follows the
generated constant `failedUnboxReleases` (observed on the live code: does a release notice go out for every reference
no proxy took over?), and the invariant needs it to be true. -/

/-- the code releases the references of a message it could not unbox (generated constant) -/
theorem unreceived_references_are_released : Gen.Box.failedUnboxReleases = true := failedUnbox_released

/-- **Counterexample for code that does not**: object 7 was sent, the receiver's `_unbox` failed before it, only the
exception reply comes back: 7 stays in the owner's table with no proxy and nothing in flight. -/
theorem unreleased_failed_unbox_leaks :
    unreceivedTail false [7] true = [.reply]
    ∧ ¬ Inv { St.init with tbl := addAll Tbl.empty [7], p2o := unreceivedTail false [7] true }
    ∧ delSum 7 (unreceivedTail true [7] true) = 1 := by
  refine ⟨rfl, fun h => ?_, by decide⟩
  -- key 7: one box stored, and the exception reply releases nothing
  have h7 : 1 = 0 := h.count 7
  cases h7

/-- a message with objects 1, 2, 1 whose unboxing fails after the first reference: the proxy that took 1 over dies and
releases it, the two unreceived references are released one by one, then the exception reply; after delivery the
owner's table is empty -/
def unboxFails : List AOp := [.send [1, 2, 1], .deliverFail 1]

example : (appRun App.init unboxFails).s.p2o = [.del 1 1, .del 2 1, .del 1 1, .reply]
    ∧ (appRun App.init unboxFails).s.px 1 = none ∧ (appRun App.init unboxFails).s.tbl 1 = some 1 := by decide
example : (appRun App.init (unboxFails ++ [.deliverP2O, .deliverP2O, .deliverP2O])).s.tbl 1 = none
    ∧ (appRun App.init (unboxFails ++ [.deliverP2O, .deliverP2O, .deliverP2O])).s.tbl 2 = none := by decide

/-! ### non-vacuity: the race the statement names, replayed concretely -/

/-- object 7 is sent, received, its proxy dropped (release notice in flight), and *at the same time* sent again
(fresh reference in flight); then both messages are delivered, crossing each other. -/
def crossing : List Op :=
  [.send [7], .deliverO2P, .finalize 7, .send [7], .deliverP2O, .deliverP2O, .deliverO2P, .deliverO2P]

/-- before the crossing messages are delivered: stored count 1 (two boxes), one reference and one release in flight, no proxy -/
example : (run St.init (crossing.take 4)).tbl 7 = some 1 ∧ (run St.init (crossing.take 4)).px 7 = none
    ∧ (run St.init (crossing.take 4)).o2p = [.req [7]] ∧ (run St.init (crossing.take 4)).p2o = [.reply, .del 7 1] := by
  decide

/-- afterwards: the object is still lent exactly once and the peer has a fresh proxy with count 1 -/
example : (run St.init crossing).tbl 7 = some 0 ∧ (run St.init crossing).px 7 = some 1
    ∧ (run St.init crossing).o2p = [] ∧ (run St.init crossing).p2o = [.reply] := by
  decide

/-- dropping that proxy too and delivering everything empties the table -/
example : (run St.init (crossing ++ [.finalize 7, .deliverP2O, .deliverP2O, .deliverO2P, .deliverO2P])).tbl 7 = none := by
  decide

/-- an object sent three times in one message (inside nested tuples), fetched once more by the peer and handed
back with echo: one proxy with count 5, stored count 4; one release notice of 5 removes the entry -/
def multi : List Op :=
  [.send [1, 2, 1, 1], .deliverO2P, .deliverP2O, .fetch [1], .deliverP2O, .deliverO2P, .back 1 true, .deliverP2O, .deliverO2P]

example : (run St.init multi).tbl 1 = some 4 ∧ (run St.init multi).px 1 = some 5 ∧ (run St.init multi).tbl 2 = some 0 := by
  decide
example : (run St.init (multi ++ [.finalize 1, .deliverP2O])).tbl 1 = none
    ∧ (run St.init (multi ++ [.finalize 1, .deliverP2O])).tbl 2 = some 0 := by
  decide

/-- a reply that arrives for an expired `AsyncResult` (objects 1, 2 and 1 again, nested): it is unboxed all the same —
the references are counted — the value is dropped, the proxies die at once (2 before 1: a tuple lets go of its items
from the last to the first), the release notices flow, and the owner's table is empty again -/
def expired : List AOp := [.fetch [1, 2, 1], .deliverP2O, .expire 0, .deliverO2P]

example : (appRun App.init expired).s.tbl 1 = some 1 ∧ (appRun App.init expired).s.tbl 2 = some 0
    ∧ (appRun App.init expired).s.px 1 = none ∧ (appRun App.init expired).s.p2o = [.del 2 1, .del 1 2]
    ∧ (appRun App.init expired).results = [] ∧ (appRun App.init expired).waiters = [] := by decide
example : (appRun App.init (expired ++ [.deliverP2O, .deliverP2O])).s.tbl 1 = none
    ∧ (appRun App.init (expired ++ [.deliverP2O, .deliverP2O])).s.tbl 2 = none := by decide

/-- what a wrong count would do: were a release of 1 to arrive for an absent key the machine answers KeyError — the
outcome `never_keyError` excludes for real histories -/
example : (step { St.init with p2o := [.del 3 1] } .deliverP2O).1 = .keyError := by decide

end Rpyc.Props.C10
