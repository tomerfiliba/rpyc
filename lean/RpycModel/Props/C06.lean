import RpycModel.Policy.Lemmas
/-
C06 — attribute access by the peer follows the connection's own policy, and only its own.

Definitional statements (true by unfolding the model, no induction; stated because they say what the model does at a
point the statement cares about, not counted as evidence of anything beyond that): `checkAttr_spec`,
`probes_spec`, `allowed_effect_exact`, `access_is_checkAttr`, `oldslicing_first_succeeds`, `oldslicing_falls_back`,
`hook_decides`, `open_takes_snapshot`, `server_connection_snapshot`, `bytes_name_as_text`, `nontext_name_typeError`,
`undecodable_name`, `name_error_independent`.

Apart from the counterexamples (`cmp_bypass_counterexample`, `*_breaks_isolation`, `shared_default_set_hazard`) and the
obligations on generated constants (`cmp_respects_object_hook`, `measured_modes_are_good`, `*_modelled`), which are
closed facts, every theorem quantifies over all configurations (all 2^7 switch settings, any prefix, any safe list),
all names, all objects (`has` and the hooks are arbitrary functions), and — for isolation — all histories.
-/
namespace Rpyc.Props.C06
open Rpyc Rpyc.Policy

/-! ### (1) the decision logic, stated outright -/

/-- **Decision table of `_check_attr`, one closed formula.** For every configuration, object and name:
allowed iff the kind of operation is enabled and (the name is allowed by the configuration or the object has the
prefixed twin); the twin is what is accessed exactly when it exists and (the name is not allowed, or the object
lacks the name); every refusal is `AttributeError`. -/
theorem checkAttr_spec (c : Config) (has : PyStr → Bool) (name : PyStr) (op : Op) :
    checkAttr c has name op =
      if c.perm op && (plainAllowed c name || hasExposed c has name) then
        .ok (if hasExposed c has name && (!plainAllowed c name || !has name) then twin c name else name)
      else .error .attributeError :=
  checkAttr_eq c has name op

/-- the Boolean `plainAllowed` is the statement's "everything / exposed-prefix / safe-list / public, as enabled" -/
theorem plainAllowed_spec (c : Config) (name : PyStr) :
    plainAllowed c name = true ↔
      (c.allowAll = true
       ∨ (c.allowExposed = true ∧ c.exposedPrefix <+: name)
       ∨ (c.allowSafe = true ∧ name ∈ c.safe)
       ∨ (c.allowPublic = true ∧ ¬ ([95] : PyStr) <+: name)) :=
  plainAllowed_iff c name

/-- the Boolean `hasExposed` is "exposed attributes enabled, non-empty prefix, object has `prefix ++ name`" -/
theorem hasExposed_spec (c : Config) (has : PyStr → Bool) (name : PyStr) :
    hasExposed c has name = true ↔
      (c.allowExposed = true ∧ c.exposedPrefix ≠ [] ∧ has (c.exposedPrefix ++ name) = true) :=
  hasExposed_iff c has name

/-- the name itself is accessed when it is allowed and (there is no twin, or the object has the name) -/
theorem plain_access (c : Config) (has : PyStr → Bool) (name : PyStr) (op : Op)
    (hp : c.perm op = true) (ha : NameAllowed c name) (hn : ¬ HasTwin c has name ∨ has name = true) :
    checkAttr c has name op = .ok name :=
  checkAttr_plain hp ((plainAllowed_iff c name).mpr ha) (hn.imp_left (hasExposed_eq_false c has name).mpr)

/-- the exposed-prefixed twin is what is accessed when it exists and (the name is not allowed, or the object
lacks the name) -/
theorem twin_access (c : Config) (has : PyStr → Bool) (name : PyStr) (op : Op)
    (hp : c.perm op = true) (ht : HasTwin c has name) (hn : ¬ NameAllowed c name ∨ has name = false) :
    checkAttr c has name op = .ok (c.exposedPrefix ++ name) :=
  checkAttr_twin hp ((hasExposed_iff c has name).mpr ht) (hn.imp_left (plainAllowed_eq_false c name).mpr)

/-- anything else fails with `AttributeError`: the kind of operation is disabled, or the name is neither allowed nor
has a twin -/
theorem denied (c : Config) (has : PyStr → Bool) (name : PyStr) (op : Op)
    (h : c.perm op = false ∨ (¬ NameAllowed c name ∧ ¬ HasTwin c has name)) :
    checkAttr c has name op = .error .attributeError :=
  checkAttr_denied (h.imp_right fun h => ⟨(plainAllowed_eq_false c name).mpr h.1, (hasExposed_eq_false c has name).mpr h.2⟩)

/-- the hypotheses of `plain_access`, `twin_access` and `denied` leave no case out -/
theorem cases_exhaustive (c : Config) (has : PyStr → Bool) (name : PyStr) (op : Op) :
    (c.perm op = true ∧ NameAllowed c name ∧ (¬ HasTwin c has name ∨ has name = true))
    ∨ (c.perm op = true ∧ HasTwin c has name ∧ (¬ NameAllowed c name ∨ has name = false))
    ∨ (c.perm op = false ∨ (¬ NameAllowed c name ∧ ¬ HasTwin c has name)) := by
  cases hp : c.perm op
  · exact Or.inr (Or.inr (Or.inl rfl))
  · by_cases ht : HasTwin c has name
    · by_cases ha : NameAllowed c name
      · cases hn : has name
        · exact Or.inr (Or.inl ⟨rfl, ht, Or.inr rfl⟩)
        · exact Or.inl ⟨rfl, ha, Or.inr rfl⟩
      · exact Or.inr (Or.inl ⟨rfl, ht, Or.inl ha⟩)
    · by_cases ha : NameAllowed c name
      · exact Or.inl ⟨rfl, ha, Or.inl ht⟩
      · exact Or.inr (Or.inr (Or.inr ⟨ha, ht⟩))

/-- the decision in the property statement's own words -/
theorem allowed_iff (c : Config) (has : PyStr → Bool) (name : PyStr) (op : Op) :
    (∃ n, checkAttr c has name op = .ok n) ↔
      (c.perm op = true ∧ (NameAllowed c name ∨ HasTwin c has name)) := by
  rw [checkAttr_eq, ← plainAllowed_iff, ← hasExposed_iff, ← Bool.or_eq_true, ← Bool.and_eq_true]
  cases c.perm op && (plainAllowed c name || hasExposed c has name)
  · exact ⟨fun ⟨_, e⟩ => (nomatch e), fun h => (nomatch h)⟩
  · exact ⟨fun _ => rfl, fun _ => ⟨_, rfl⟩⟩

/-- the policy never raises anything but `AttributeError`, and never invents a name: the result is the name or its twin -/
theorem checkAttr_range (c : Config) (has : PyStr → Bool) (name : PyStr) (op : Op) :
    checkAttr c has name op = .error .attributeError
    ∨ checkAttr c has name op = .ok name
    ∨ checkAttr c has name op = .ok (c.exposedPrefix ++ name) := by
  rcases cases_exhaustive c has name op with ⟨hp, ha, hn⟩ | ⟨hp, ht, hn⟩ | hd
  · exact Or.inr (Or.inl (plain_access c has name op hp ha hn))
  · exact Or.inr (Or.inr (twin_access c has name op hp ht hn))
  · exact Or.inl (denied c has name op hd)

/-- the decision reads the configuration, the name and two facts about the object — nothing else: two objects that
agree on `hasattr` for the name and for the twin get the same answer -/
theorem decided_by_config_and_name (c : Config) (has has' : PyStr → Bool) (name : PyStr) (op : Op)
    (h1 : has name = has' name) (h2 : has (c.exposedPrefix ++ name) = has' (c.exposedPrefix ++ name)) :
    checkAttr c has name op = checkAttr c has' name op := by
  simp [checkAttr_eq, hasExposed, twin, h1, h2]

/-- with exposed attributes on and an empty prefix every name is allowed and no twin is ever substituted
(`name.startswith("")` is true, `"" and …` is falsy) -/
theorem empty_prefix_allows_all (c : Config) (has : PyStr → Bool) (name : PyStr) (op : Op)
    (he : c.allowExposed = true) (hp : c.exposedPrefix = []) (hperm : c.perm op = true) :
    checkAttr c has name op = .ok name := by
  apply plain_access c has name op hperm
  · exact Or.inr (Or.inl ⟨he, by simp [hp]⟩)
  · exact Or.inl (fun h => h.2.1 hp)

/-- the `hasattr` probes made on the way: only ever the name and its twin, none when the kind of operation is
disabled, the twin first -/
theorem probes_spec (c : Config) (has : PyStr → Bool) (name : PyStr) (op : Op) :
    checkProbes c has name op =
      if c.perm op then
        (if prefixTruthy c then [twin c name] else [])
          ++ (if plainAllowed c name && hasExposed c has name then [name] else [])
      else [] :=
  checkProbes_eq c has name op

/-! ### (2) a denied request has no effect — precisely: nothing but `hasattr` probes

`_check_attr` asks `hasattr(obj, prefix+name)` (and `hasattr(obj, name)`) before it refuses, also for writes and
deletes, and `hasattr` evaluates the attribute (a property getter, a `__getattr__`).  So "no effect" is: no accessor,
no hook, no call — only probes of the name and its twin on that very object, plus whatever evaluating those two
attributes does by itself (`probeExtra`; nothing for objects with a pure attribute lookup). -/

/-- **Denied ⇒ nothing but probes.** If the object's type has no hook for the operation and the request fails, every
event is a `hasattr` probe of that object (or what evaluating the probed attribute did); with a pure `hasattr` the
effect log is empty. For all four request kinds. -/
theorem denied_no_effect (c : Config) (o : Obj) (nm : Name) (r : Req) (e : Err)
    (hh : o.hook r.op = none) (h : (handle c o nm r).out = .error e) :
    OnlyProbes o (handle c o nm r).log
    ∧ (PureProbes o → (handle c o nm r).log.filter Ev.isEffect = []) := by
  cases r with
  | getattr => exact run_denied c o nm .get e hh h
  | setattr => exact run_denied c o nm .set e hh h
  | delattr => exact run_denied c o nm .del e hh h
  | callattr => exact getcall_denied c o nm e hh h

/-- the probes are of the name and of its twin only, on that object, and none at all when the kind is disabled -/
theorem denied_probes_only_name_and_twin (c : Config) (o : Obj) (name : PyStr) (op : Op) (e : Err)
    (hh : o.hook op = none) (hp : PureProbes o) (h : (run c o (.text name) op).out = .error e) :
    ∀ ev ∈ (run c o (.text name) op).log, ev = .probe o.id name ∨ ev = .probe o.id (c.exposedPrefix ++ name) := by
  intro ev hev
  obtain ⟨s, hs, hpr | ⟨n, hc, _⟩⟩ := mem_run_log c o (.text name) op hh ev hev <;> cases hs
  · rw [probeEvs_pure o hp] at hpr
    obtain ⟨n, hn, rfl⟩ := List.mem_map.mp hpr
    exact (mem_checkProbes c o.has name op n hn).imp (congrArg _) (congrArg _)
  · -- an approved name is reached only by a request that did not fail
    simp [run, decodeName, runNamed, hh, runDefault, hc] at h

/-- conversely an allowed request reaches exactly one attribute, after the probes: the one `_check_attr` named -/
theorem allowed_effect_exact (c : Config) (o : Obj) (name : PyStr) (op : Op) (n : PyStr)
    (hh : o.hook op = none) (h : checkAttr c o.has name op = .ok n) :
    run c o (.text name) op =
      { out := .ok (.direct n), log := probeEvs o (checkProbes c o.has name op) ++ [.access o.id op n] } := by
  simp [run, decodeName, runNamed, hh, runDefault, h]

/-! #### the other handlers that reach attributes by a peer-chosen name

`_handle_cmp` and `_handle_ctxexit` (name `__exit__`) are read-then-call through the same `_access_attr`.
`_handle_cmp` works on `type(obj)` (so that comparing proxies of proxies does not recurse) unless the object's class
defines `_rpyc_getattr`: then the object's own hook decides (`respects`, measured on the live code; section 3).
Refused ⇒ nothing but probes; allowed ⇒ only the name `_check_attr` approved is read and called. -/

theorem cmp_denied_no_effect (c : Config) (o ty : Obj) (opName : Name) (e : Err) (r : Bool)
    (ho : o.hook .get = none) (hh : ty.hook .get = none) (h : (handleCmp r c o ty opName).out = .error e) :
    OnlyProbes ty (handleCmp r c o ty opName).log
    ∧ (PureProbes ty → (handleCmp r c o ty opName).log.filter Ev.isEffect = []) := by
  rw [handleCmp_noHook r c o ty opName ho] at h ⊢
  exact getcall_denied c ty opName e hh h

theorem ctxexit_denied_no_effect (c : Config) (o : Obj) (e : Err)
    (hh : o.hook .get = none) (h : (handleCtxExit c o).out = .error e) :
    OnlyProbes o (handleCtxExit c o).log
    ∧ (PureProbes o → (handleCtxExit c o).log.filter Ev.isEffect = []) :=
  getcall_denied c o (.text exitName) e hh h

theorem cmp_reaches_only_approved (c : Config) (o ty : Obj) (opName : Name) (r : Bool)
    (ho : o.hook .get = none) (hh : ty.hook .get = none)
    (hp : PureProbes ty) (ev : Ev) (hev : ev ∈ (handleCmp r c o ty opName).log) (heff : ev.isEffect = true) :
    ∃ s n, decodeName opName = .ok s ∧ checkAttr c ty.has s .get = .ok n
      ∧ (ev = .access ty.id .get n ∨ ev = .call ty.id n) := by
  rw [handleCmp_noHook r c o ty opName ho] at hev
  exact getcall_effects c ty opName hh hp ev hev heff

theorem ctxexit_reaches_only_approved (c : Config) (o : Obj) (hh : o.hook .get = none)
    (hp : PureProbes o) (ev : Ev) (hev : ev ∈ (handleCtxExit c o).log) (heff : ev.isEffect = true) :
    ∃ n, checkAttr c o.has exitName .get = .ok n ∧ (ev = .access o.id .get n ∨ ev = .call o.id n) := by
  obtain ⟨s, n, hs, hc, h⟩ := getcall_effects c o (.text exitName) hh hp ev hev heff
  simp only [decodeName, Except.ok.injEq] at hs
  subst hs
  exact ⟨n, hc, h⟩

/-- **`_handle_oldslicing`**: the first name is tried; if that stage succeeds the second name is never consulted -/
theorem oldslicing_first_succeeds (c : Config) (o : Obj) (a f : Name) (cr : Bool)
    (h : stageFails o (thenCall o (run c o a .get)) cr = false) :
    handleOldSlicing c o a f cr = thenCall o (run c o a .get) := by
  simp [handleOldSlicing, h]

/-- any exception in the first stage (a policy refusal included) is swallowed and the second peer-chosen name is tried —
through the policy again: the outcome is the second stage's -/
theorem oldslicing_falls_back (c : Config) (o : Obj) (a f : Name) (cr : Bool)
    (h : stageFails o (thenCall o (run c o a .get)) cr = true) :
    (handleOldSlicing c o a f cr).out = (thenCall o (run c o f .get)).out
    ∧ (handleOldSlicing c o a f cr).log
        = (thenCall o (run c o a .get)).log ++ (thenCall o (run c o f .get)).log := by
  simp [handleOldSlicing, h]

/-- whatever happens, on a hook-less object with a pure `hasattr` the only attributes read or called are the ones
`_check_attr` approved for one of the two names -/
theorem oldslicing_reaches_only_approved (c : Config) (o : Obj) (a f : Name) (cr : Bool)
    (hh : o.hook .get = none) (hp : PureProbes o)
    (ev : Ev) (hev : ev ∈ (handleOldSlicing c o a f cr).log) (heff : ev.isEffect = true) :
    ∃ nm, (nm = a ∨ nm = f) ∧ ∃ s n, decodeName nm = .ok s ∧ checkAttr c o.has s .get = .ok n
      ∧ (ev = .access o.id .get n ∨ ev = .call o.id n) := by
  cases hs : stageFails o (thenCall o (run c o a .get)) cr
  · rw [oldslicing_first_succeeds c o a f cr hs] at hev
    exact ⟨a, Or.inl rfl, getcall_effects c o a hh hp ev hev heff⟩
  · rw [(oldslicing_falls_back c o a f cr hs).2] at hev
    rcases List.mem_append.mp hev with hev | hev
    · exact ⟨a, Or.inl rfl, getcall_effects c o a hh hp ev hev heff⟩
    · exact ⟨f, Or.inr rfl, getcall_effects c o f hh hp ev hev heff⟩

/-- both refused ⇒ refused, nothing but probes -/
theorem oldslicing_both_refused (c : Config) (o : Obj) (a f : Name) (cr : Bool) (e1 e2 : Err)
    (hh : o.hook .get = none) (h1 : (run c o a .get).out = .error e1) (h2 : (run c o f .get).out = .error e2) :
    (handleOldSlicing c o a f cr).out = .error e2
    ∧ (PureProbes o → (handleOldSlicing c o a f cr).log.filter Ev.isEffect = []) := by
  have t1 : (thenCall o (run c o a .get)).out = .error e1 := by simp [thenCall, h1]
  have t2 : (thenCall o (run c o f .get)).out = .error e2 := by simp [thenCall, h2]
  have hf : stageFails o (thenCall o (run c o a .get)) cr = true := by simp [stageFails, t1]
  obtain ⟨ho, hl⟩ := oldslicing_falls_back c o a f cr hf
  refine ⟨by rw [ho, t2], fun hp => ?_⟩
  rw [hl, List.filter_append, (getcall_denied c o a e1 hh t1).2 hp, (getcall_denied c o f e2 hh t2).2 hp]
  rfl

/-- for a hook-less object the outcome of the request is the decision table -/
theorem access_is_checkAttr (c : Config) (o : Obj) (name : PyStr) (op : Op) (hh : o.hook op = none) :
    accessAttr c o (.text name) op = (checkAttr c o.has name op).map Action.direct := by
  simp only [accessAttr, run, decodeName, runNamed, hh, runDefault]
  cases checkAttr c o.has name op <;> rfl

/-! ### (3) objects with their own hooks decide instead of the configuration -/

/-- If the object's type defines the hook for the operation, the configuration is not
consulted at all: any two configurations give the same result and the same events. -/
theorem hooks_override (c c' : Config) (o : Obj) (nm : Name) (op : Op) (h : Hook) (hh : o.hook op = some h) :
    run c o nm op = run c' o nm op := by
  rw [run_hooked c o nm op h hh, run_hooked c' o nm op h hh]

/-- … and the result is the hook's own: it is called with the decoded name; it returns or raises as it likes;
no `hasattr` probe is made -/
theorem hook_decides (c : Config) (o : Obj) (name : PyStr) (op : Op) (h : Hook) (hh : o.hook op = some h) :
    run c o (.text name) op =
      { out := match (h name).err with | some e => .error e | none => .ok (.hooked name),
        log := .hook o.id op name :: (h name).evs } := by
  rw [run_hooked c o _ op h hh]
  simp only [decodeName, runHook]
  cases (h name).err <;> rfl

theorem hooks_override_get (c c' : Config) (o : Obj) (nm : Name) (h : Hook) (hh : o.hook .get = some h) :
    run c o nm .get = run c' o nm .get :=
  hooks_override c c' o nm .get h hh

/-- **An object's own hook decides comparisons too**: when the object's class defines `_rpyc_getattr` (restricted
views, services or any class with a hook) a HANDLE_CMP request is the hook's to answer — the configuration, the
type's attributes and the metaclass are not consulted: any two configurations and any two `type(obj)` descriptions
give the same result and the same events. -/
theorem cmp_hook_decides (c c' : Config) (o ty ty' : Obj) (opName : Name) (h : Hook) (hh : o.hook .get = some h) :
    handleCmp true c o ty opName = handleCmp true c' o ty' opName := by
  simp only [handleCmp, hh]
  rw [hooks_override_get c c' o opName h hh]

/-- measured on the live code (obligation): `_handle_cmp` asks the object's own hook -/
theorem cmp_respects_object_hook : Gen.Policy.cmpRespectsObjectHook = true := by decide

def getitemName : PyStr := [95, 95, 103, 101, 116, 105, 116, 101, 109, 95, 95]
/-- the "vault" of the counterexample: its hook refuses every name; its class has `__getitem__` -/
def vault : Obj := { id := 0, has := fun _ => true, hook := fun | .get => some denyHook | _ => none }
def vaultType : Obj := plainObj 3 (fun n => n == getitemName)

/-- **Counterexample for the variant that looks the operator up on `type(obj)` unconditionally** (the code before
the repair `fixes/C06-cmp-respects-object-hook.patch`): under the default configuration a peer's
`HANDLE_CMP(vault, key, "__getitem__")` reads and calls `Vault.__getitem__` although the vault's own hook refuses
every name — "objects that define their own attribute hooks decide instead of the configuration" fails; with the
object's hook respected the same request is refused and nothing is touched. -/
theorem cmp_bypass_counterexample :
    (handleCmp false defaultConfig vault vaultType (.text getitemName)).out = .ok (.direct getitemName)
    ∧ (handleCmp false defaultConfig vault vaultType (.text getitemName)).log
        = [.probe 3 (Gen.Policy.cfgExposedPrefixCp ++ getitemName), .access 3 .get getitemName, .call 3 getitemName]
    ∧ (handleCmp true defaultConfig vault vaultType (.text getitemName)).out = .error .attributeError
    ∧ (handleCmp true defaultConfig vault vaultType (.text getitemName)).log = [.hook 0 .get getitemName] := by
  decide

/-- **Restricted views permit exactly their listed names — reading.** Whatever the configuration. -/
theorem restricted_get (c : Config) (id t : Nat) (attrs : List PyStr) (w : Option (List PyStr))
    (vo th : PyStr → Bool) (name : PyStr) :
    run c (restrictedView id t attrs w vo th) (.text name) .get =
      if attrs.contains name then { out := .ok (.hooked name), log := [.hook id .get name, .access t .get name] }
      else { out := .error .attributeError, log := [.hook id .get name] } := by
  rw [run_hooked c _ _ .get (listHook t .get attrs .attributeError) rfl]
  simp only [decodeName, runHook, listHook]
  cases attrs.contains name <;> rfl

/-- **… writing**: `wattrs`, which defaults to `attrs` when not given. -/
theorem restricted_set (c : Config) (id t : Nat) (attrs : List PyStr) (w : Option (List PyStr))
    (vo th : PyStr → Bool) (name : PyStr) :
    run c (restrictedView id t attrs w vo th) (.text name) .set =
      if (match w with | some l => l | none => attrs).contains name then
        { out := .ok (.hooked name), log := [.hook id .set name, .access t .set name] }
      else { out := .error .attributeError, log := [.hook id .set name] } := by
  rw [run_hooked c _ _ .set (listHook t .set (match w with | some l => l | none => attrs) .attributeError) rfl]
  simp only [decodeName, runHook, listHook]
  cases (match w with | some l => l | none => attrs).contains name <;> rfl

/-- **… deleting**: the view's class has no delete hook, so the configuration decides — about the view object, and
the delete itself acts on the view.  The `hasattr(view, ..)` probes on the way go through the view's
`__getattr__ = _rpyc_getattr`, which reads the target for names listed in `attrs` (only those, only reads): every
event of a delete request is a probe of the view, a read of a listed name on the target, or the delete on the view.
The target is never written, deleted from or called. -/
theorem restricted_del_reaches_target_only_by_listed_reads (c : Config) (id t : Nat) (attrs : List PyStr)
    (w : Option (List PyStr)) (vo th : PyStr → Bool) (nm : Name) :
    ∀ ev ∈ (run c (restrictedView id t attrs w vo th) nm .del).log,
        (∃ n, ev = .probe id n) ∨ (∃ n, attrs.contains n = true ∧ ev = .access t .get n)
        ∨ (∃ n, ev = .access id .del n) := by
  intro ev hev
  obtain ⟨name, _, h | ⟨n, _, h⟩⟩ := mem_run_log c _ nm .del rfl ev hev
  · rcases mem_probeEvs_restrictedView id t attrs w vo th _ ev h with h | ⟨n, _, hl, h⟩
    · exact Or.inl h
    · exact Or.inr (Or.inl ⟨n, hl, h⟩)
  · exact Or.inr (Or.inr ⟨n, h⟩)

/-- for a name that is not listed (and whose twin is not listed) a delete request does not reach the target at all -/
theorem restricted_del_unlisted_never_reaches_target (c : Config) (id t : Nat) (attrs : List PyStr)
    (w : Option (List PyStr)) (vo th : PyStr → Bool) (name : PyStr)
    (h1 : attrs.contains name = false) (h2 : attrs.contains (c.exposedPrefix ++ name) = false) :
    ∀ ev ∈ (run c (restrictedView id t attrs w vo th) (.text name) .del).log,
        (∃ n, ev = .probe id n) ∨ (∃ n, ev = .access id .del n) := by
  intro ev hev
  obtain ⟨s, hs, h | ⟨n, _, h⟩⟩ := mem_run_log c _ (.text name) .del rfl ev hev
  · cases hs
    rcases mem_probeEvs_restrictedView id t attrs w vo th _ ev h with h | ⟨n, hn, hl, _⟩
    · exact Or.inl h
    · rcases mem_checkProbes _ _ _ _ n hn with rfl | rfl
      · rw [h1] at hl; cases hl
      · rw [twin, h2] at hl; cases hl
  · exact Or.inr ⟨n, h⟩

/-- **Services.** The `Service` base class defines write and delete hooks that refuse every name and touch nothing —
under every configuration, classic-mode blanket permissions included; reading a service follows the configuration. -/
theorem service_write_delete_denied (c : Config) (id : Nat) (has : PyStr → Bool) (name : PyStr) :
    run c (serviceObj id has) (.text name) .set = { out := .error .attributeError, log := [.hook id .set name] }
    ∧ run c (serviceObj id has) (.text name) .del = { out := .error .attributeError, log := [.hook id .del name] }
    ∧ ∀ nm, run c (serviceObj id has) nm .get = run c (plainObj id has) nm .get := by
  refine ⟨?_, ?_, fun nm => ?_⟩
  · rw [run_hooked c _ _ .set denyHook rfl]
    rfl
  · rw [run_hooked c _ _ .del denyHook rfl]
    rfl
  · exact run_congr c _ _ nm .get rfl rfl rfl rfl

/-! ### (4) isolation: an invariant over all histories of a heap of dict objects

The world (`Policy/Model.lean`, "the configuration heap") has object identity: the module-level `DEFAULT_CONFIG` dict,
the application's settings-dict objects (passed as `config=`, kept, edited, reused), one `_config` lookup chain per
connection, and the one set object `DEFAULT_CONFIG["safe_attrs"]` refers to.  `Connection.__init__` and the classic
connect exist in every variant (`InitMode`: own copy / the defaults object itself / the caller's object itself / a
mapping that reads through; classic overrides written to the connection's own object or into the caller's dict; a
classic connect growing the shared set in place).  Which variant the code is is measured by the generator on the live
objects; `measured_modes_are_good` is the obligation that breaks when a regression shares state, and the `*_breaks_*`
theorems show that each bad variant really does violate the statement in this model (so the isolation theorems below
are not true by construction of the state space). -/

/-- **The code copies.** Measured on the live code: `__init__` builds an own dict (copy of the defaults, then the
caller's keys), classic mode writes its overrides into the connection's own dict and grows no shared set, a server
constructed without a configuration makes a dict of its own.  The two harmless choices — whether a server keeps the
dict object it was given, whether the `safe_attrs` set is copied too — are followed in whichever direction the code
goes. -/
theorem measured_modes_are_good :
    Modes.measured = Modes.good Gen.Policy.serverKeepsGivenDict (!Gen.Policy.initSharesDefaultSafeSet) := by decide

/-- further measured facts the model relies on (obligations): `restricted` views have read and write hooks and
no delete hook (as `restrictedView` says); both per-client paths of the servers (`ThreadedServer._serve_client`,
`ThreadPoolServer._authenticate_and_build_connection`) connect with a private dict; a classic connect leaves a
caller-supplied `safe_attrs` set alone -/
theorem construction_facts_are_modelled :
    Gen.Policy.restrictedHasGetHook = true ∧ Gen.Policy.restrictedHasSetHook = true
    ∧ Gen.Policy.restrictedHasDelHook = false
    ∧ Gen.Policy.serverPerClientDictPrivate = true
    ∧ Gen.Policy.classicGrowsCallerSafeSet = false := by decide

/-- **rpyc never writes (the modelled keys of) the defaults, a caller's dict or another server's configuration**: in
any history from the initial state, a dict object of the application holds exactly what the application itself put
there — directly, or through the server that holds it.  (`Server.__init__` does write a `logger` entry into the dict
it is given: not a key the policy reads, not modelled.) -/
theorem shared_objects_never_written (pre post : List HEvent) (r : Ref) (hr : r.appOwned = true)
    (happ : ∀ e ∈ post, e.mayEdit r = false) (hset : ∀ e ∈ post, e.fair = true) :
    (hrun Modes.measured (hrun Modes.measured HWorld.init pre) post).dicts r
      = (hrun Modes.measured HWorld.init pre).dicts r
    ∧ (hrun Modes.measured (hrun Modes.measured HWorld.init pre) post).dfltSet
      = (hrun Modes.measured HWorld.init pre).dfltSet := by
  rw [measured_modes_are_good]
  exact ⟨hrun_good_sharedDicts _ _ post _ r hr (hrun_good_srvInv _ _ pre _ srvInv_init) happ,
    hrun_good_dfltSet _ _ post _ hset⟩

/-- **A connection's configuration is the copy taken when it was opened.** Once connection `j` is established, after
any further fair history — other connections opened with any dict object (the one `j` was opened with included),
classic-mode connects, requests, closes, servers constructed / edited / used, the application editing any of its
dicts or `DEFAULT_CONFIG`, `j`'s own requests and closing — the configuration `j` enforces is the same. -/
theorem config_frozen_after_open (w : HWorld) (evs : List HEvent) (j : Nat) (hinv : OwnInv w)
    (hf : ∀ e ∈ evs, e.fair = true) (hj : w.conns j ≠ .fresh) :
    (hrun Modes.measured w evs).cfgOf j = w.cfgOf j := by
  rw [measured_modes_are_good]
  exact hrun_good_frozen _ _ evs w j hinv hf hj

/-- every state reachable from the initial one has the ownership invariant the theorem above asks for -/
theorem reachable_owns (evs : List HEvent) : OwnInv (hrun Modes.measured HWorld.init evs) := by
  rw [measured_modes_are_good]
  exact hrun_good_ownInv _ _ evs _ ownInv_init

/-- From the initial state: whatever happened before (`pre`), whatever fair events happen after
(`post`), an established connection keeps its configuration -/
theorem isolation (pre post : List HEvent) (j : Nat) (hf : ∀ e ∈ post, e.fair = true)
    (hj : (hrun Modes.measured HWorld.init pre).conns j ≠ .fresh) :
    (hrun Modes.measured (hrun Modes.measured HWorld.init pre) post).cfgOf j
      = (hrun Modes.measured HWorld.init pre).cfgOf j :=
  config_frozen_after_open _ post j (reachable_owns pre) hf hj

/-- … hence every decision it makes: for every object, name and request kind (while it is live) -/
theorem isolation_decisions (pre post : List HEvent) (j : Nat) (hf : ∀ e ∈ post, e.fair = true)
    (hother : ∀ e ∈ post, e.conn ≠ some j)
    (hj : (hrun Modes.measured HWorld.init pre).conns j ≠ .fresh) (o : Obj) (nm : Name) (r : Req) :
    (hrun Modes.measured (hrun Modes.measured HWorld.init pre) post).decide j o nm r
      = (hrun Modes.measured HWorld.init pre).decide j o nm r := by
  have hc := hrun_conns_other Modes.measured post (hrun Modes.measured HWorld.init pre) j hother
  have hcfg := isolation pre post j hf hj
  simp only [HWorld.decide, HWorld.cfgOf, hc] at hcfg ⊢
  cases hw : (hrun Modes.measured HWorld.init pre).conns j with
  | fresh => rfl
  | live ch => simp only [hw] at hcfg ⊢; rw [hcfg]
  | closed ch => rfl

/-- (definitional in this model: events are addressed to one slot) a history in which connection `j` does not take
part leaves slot `j` as it is, even before it is opened -/
theorem others_cannot_change (w : HWorld) (evs : List HEvent) (j : Nat) (h : ∀ e ∈ evs, e.conn ≠ some j) :
    (hrun Modes.measured w evs).conns j = w.conns j :=
  hrun_conns_other Modes.measured evs w j h

/-- **Opening takes a snapshot**: connection `i`'s `_config` is one own object holding the defaults as they are now
updated with the caller's dict as it is now (then the classic overrides iff it is the classic connection) -/
theorem open_takes_snapshot (w : HWorld) (i d : Nat) (classic : Bool) (hf : w.conns i = .fresh) :
    (hstep Modes.measured w (.open i d classic)).conns i = .live [.own i]
    ∧ (hstep Modes.measured w (.open i d classic)).dicts (.own i)
        = goodOwnDict (!Gen.Policy.initSharesDefaultSafeSet) w (.app d) classic := by
  rw [measured_modes_are_good, hstep_open, if_pos hf, openConn_good]
  exact ⟨hsetConn_same _ _ _, setDict_same _ _ _⟩

/-- **What classic mode grants itself** (generated from the live `SlaveService.on_connect`): afterwards every name
of every hook-less object may be read, written and deleted, as itself (no twin substitution), on that connection. -/
theorem classic_allows_everything (c : Config) (o : Obj) (name : PyStr) (op : Op) (hh : o.hook op = none) :
    accessAttr (onConnectSlave c) o (.text name) op = .ok (.direct name) := by
  rw [access_is_checkAttr _ _ _ _ hh]
  have h1 : (onConnectSlave c).perm op = true := by cases op <;> rfl
  have h2 : (onConnectSlave c).allowAll = true := rfl
  have h3 : (onConnectSlave c).allowExposed = false := rfl
  rw [plain_access (onConnectSlave c) o.has name op h1 (Or.inl h2) (Or.inl (fun h => by have := h.1; simp [h3] at this))]
  rfl

/-! #### servers: the server-side source of a connection's configuration

`Server.protocol_config` is a dict object too: the one the caller gave (kept as is — documented sharing), or one the
server makes for itself.  For every client the server builds `dict(self.protocol_config, ...)` and connects with that.
Measured on real servers: two servers constructed without a `protocol_config` hold distinct objects. -/

/-- **A server's configuration is its own.** In any history from the initial state, the dict object server `k` made
for itself holds exactly what the application put there through `k` (or directly): constructing, editing, using and
closing other servers — before or after `k` was constructed — and every connection event leave it alone. -/
theorem server_config_is_private (pre post : List HEvent) (k : Nat)
    (h1 : ∀ e ∈ post, ∀ ov, e ≠ .editDict (.srv k) ov) (h2 : ∀ e ∈ post, ∀ ov, e ≠ .editServer k ov)
    (h3 : ∀ e ∈ post, ∀ d, e ≠ .newServer k d) :
    (hrun Modes.measured (hrun Modes.measured HWorld.init pre) post).dicts (.srv k)
      = (hrun Modes.measured HWorld.init pre).dicts (.srv k) := by
  rw [measured_modes_are_good]
  exact hrun_good_sharedDicts _ _ post _ (.srv k) rfl (hrun_good_srvInv _ _ pre _ srvInv_init)
    (fun e he => mayEdit_srv k e (h1 e he) (h2 e he) (h3 e he))

/-- **A connection made by server `k` decides as `k`'s configuration says at that moment**: its own dict is the
defaults updated with `k`'s `protocol_config` content (then classic overrides for a classic server) -/
theorem server_connection_snapshot (w : HWorld) (i k : Nat) (classic : Bool) (r : Ref)
    (hf : w.conns i = .fresh) (hs : w.servers k = some r) :
    (hstep Modes.measured w (.serverConn i k classic)).conns i = .live [.own i]
    ∧ (hstep Modes.measured w (.serverConn i k classic)).dicts (.own i)
        = goodOwnDict (!Gen.Policy.initSharesDefaultSafeSet) (w.setDict (.tmp i) (w.dicts r)) (.tmp i) classic := by
  rw [measured_modes_are_good, hstep_serverConn, hs]
  simp only [if_pos hf, openConn_good]
  exact ⟨hsetConn_same _ _ _, setDict_same _ _ _⟩

/-! #### the variants that share state violate the statement (concrete witnesses, each within its variant) -/

def strictDict : Overlay := { allowPublic := some false, allowSet := some false }
def laxDict : Overlay := { allowAll := some true, allowSet := some true }
def goodClassic : ClassicMode := { writesCallerDict := false, addsToSafe := [] }
/-- a mode record with the two harmless choices as in the pinned code -/
def modes (i : InitMode) (c : ClassicMode) (own : Bool) : Modes :=
  { init := i, classic := c, serversOwnDict := own, serverKeepsGiven := true, copiesSafeSet := false }

/-- one dict shared by all servers constructed without a configuration (a mutable default argument): editing server
1's configuration changes what server 2 hands to its next client — two connections of the same server 2, nothing
done to server 2 in between, decide differently -/
theorem shared_server_default_breaks_isolation :
    (hrun (modes .copy goodClassic false) HWorld.init
        [.newServer 1 none, .newServer 2 none, .serverConn 3 2 false, .editServer 1 laxDict, .serverConn 5 2 false]).cfgOf 5
    ≠ (hrun (modes .copy goodClassic false) HWorld.init
        [.newServer 1 none, .newServer 2 none, .serverConn 3 2 false, .editServer 1 laxDict, .serverConn 5 2 false]).cfgOf 3 := by
  decide +kernel

/-- `self._config = DEFAULT_CONFIG`: opening connection 2 with a lax dict changes what the strict connection 1 enforces -/
theorem aliasDefault_breaks_isolation :
    (hrun (modes .aliasDefault goodClassic true) HWorld.init
        [.editDict (.app 1) strictDict, .open 1 1 false, .editDict (.app 2) laxDict, .open 2 2 false]).cfgOf 1
    ≠ (hrun (modes .aliasDefault goodClassic true) HWorld.init
        [.editDict (.app 1) strictDict, .open 1 1 false]).cfgOf 1 := by decide +kernel

/-- a mapping that reads through: the application editing the dict it passed changes the open connection -/
theorem layered_breaks_isolation :
    (hrun (modes .layered goodClassic true) HWorld.init
        [.editDict (.app 1) strictDict, .open 1 1 false, .editDict (.app 1) laxDict]).cfgOf 1
    ≠ (hrun (modes .layered goodClassic true) HWorld.init [.editDict (.app 1) strictDict, .open 1 1 false]).cfgOf 1 := by
  decide +kernel

/-- the caller's dict object used as `_config`: same -/
theorem aliasArg_breaks_isolation :
    (hrun (modes .aliasArg goodClassic true) HWorld.init
        [.editDict (.app 1) strictDict, .open 1 1 false, .editDict (.app 1) laxDict]).cfgOf 1
    ≠ (hrun (modes .aliasArg goodClassic true) HWorld.init [.editDict (.app 1) strictDict, .open 1 1 false]).cfgOf 1 := by
  decide +kernel

/-- classic overrides written into the caller's dict: two plain connections opened with the same dict object, which
the application did not touch in between, enforce different policies — because a classic connect came in between -/
theorem classic_into_caller_dict_breaks_isolation :
    (hrun (modes .copy ⟨true, []⟩ true) HWorld.init
        [.editDict (.app 1) strictDict, .open 3 1 false, .open 1 1 true, .open 2 1 false]).cfgOf 2
    ≠ (hrun (modes .copy ⟨true, []⟩ true) HWorld.init
        [.editDict (.app 1) strictDict, .open 3 1 false, .open 1 1 true, .open 2 1 false]).cfgOf 3 := by
  decide +kernel

/-- a classic connect growing the shared default set object in place: connection 1, opened before, now allows `_x` -/
theorem classic_growing_shared_set_breaks_isolation :
    (hrun (modes .copy ⟨false, [[95, 120]]⟩ true) HWorld.init [.open 1 1 false, .open 2 2 true]).cfgOf 1
    ≠ (hrun (modes .copy ⟨false, [[95, 120]]⟩ true) HWorld.init [.open 1 1 false]).cfgOf 1 := by decide +kernel

/-- the shallow copy (the pinned code: `Modes.good _ false`) shares the default set object: growing it in place —
which rpyc never does; that is what `fair` excludes and `measured_modes_are_good` checks for the classic connect —
reaches every open connection that was not given its own `safe_attrs`; replacing `DEFAULT_CONFIG["safe_attrs"]` by a
new set does not.  A code base that copies the set as well (`Modes.good _ true`) is immune to both. -/
theorem shared_default_set_hazard :
    (hrun (Modes.good true false) HWorld.init [.open 1 1 false, .mutDfltSet [[95, 120]]]).cfgOf 1
      ≠ (hrun (Modes.good true false) HWorld.init [.open 1 1 false]).cfgOf 1
    ∧ (hrun (Modes.good true false) HWorld.init [.open 1 1 false, .editDict .dflt { safe := some [[95, 120]] }]).cfgOf 1
      = (hrun (Modes.good true false) HWorld.init [.open 1 1 false]).cfgOf 1
    ∧ (hrun (Modes.good true true) HWorld.init [.open 1 1 false, .mutDfltSet [[95, 120]]]).cfgOf 1
      = (hrun (Modes.good true true) HWorld.init [.open 1 1 false]).cfgOf 1 := by decide +kernel

/-! ### (5) name typing -/

/-- a bytes name that is valid UTF-8 behaves exactly as its text -/
theorem bytes_name_as_text (c : Config) (o : Obj) (b : Bytes) (s : PyStr) (op : Op) (h : utf8Dec false b = some s) :
    run c o (.bytes b) op = run c o (.text s) op := by
  simp [run, decodeName, h]

/-- in particular the UTF-8 encoding of any text name (no lone surrogates) is accepted as that name -/
theorem encoded_name_as_text (c : Config) (o : Obj) (s : PyStr) (b : Bytes) (op : Op)
    (hv : ∀ cp ∈ s, cp < 0x110000) (h : utf8Enc false s = some b) :
    run c o (.bytes b) op = run c o (.text s) op :=
  bytes_name_as_text c o b s op (utf8Dec_enc false false (fun x => x) s b hv h)

/-- a name that is not text (int, None, an instance of a str/bytes subclass, …) is `TypeError`, nothing happens:
no hook is called, no probe is made — whatever the configuration and the object -/
theorem nontext_name_typeError (c : Config) (o : Obj) (op : Op) :
    run c o .other op = { out := .error .typeError, log := [] } := rfl

/-- bytes that are not UTF-8 are `UnicodeDecodeError`, nothing happens (documented deviation: the statement says
"TypeError for a name that is not text"; no effect either way) -/
theorem undecodable_name (c : Config) (o : Obj) (b : Bytes) (op : Op) (h : utf8Dec false b = none) :
    run c o (.bytes b) op = { out := .error .unicodeDecodeError, log := [] } := by
  simp [run, decodeName, h]

/-- name typing comes first: it is the same under every configuration and for every object, hooks or not -/
theorem name_error_independent (c c' : Config) (o o' : Obj) (nm : Name) (op op' : Op) (e : Err)
    (h : decodeName nm = .error e) : run c o nm op = run c' o' nm op' := by
  simp [run, h]

/-! ### closed world: the generated facts the model relies on -/

/-- every `_access_attr` call site in `Connection` passes a matching (hook, permission, accessor) triple, on the
object itself (`_handle_cmp` passes the object when its class has a read hook and `type(obj)` otherwise), and the handlers that fetch by name delegate to
`_handle_getattr` (AST of the live source, variable names not recorded; a re-wired permission key breaks this) -/
theorem call_sites_are_modelled :
    Gen.Policy.accessSites =
      [("_handle_cmp", false, "_rpyc_getattr", "allow_getattr", "getattr"),
       ("_handle_cmp", true, "_rpyc_getattr", "allow_getattr", "getattr"),
       ("_handle_delattr", false, "_rpyc_delattr", "allow_delattr", "delattr"),
       ("_handle_getattr", false, "_rpyc_getattr", "allow_getattr", "getattr"),
       ("_handle_setattr", false, "_rpyc_setattr", "allow_setattr", "setattr")]
    ∧ Gen.Policy.getattrDelegates = ["_handle_callattr", "_handle_ctxexit", "_handle_oldslicing"] :=
  ⟨rfl, rfl⟩

/-- observed on the live code at generation time: `_check_attr` reads exactly the nine modelled keys;
`Connection.__init__` gives each connection its own dict = defaults overlaid with the caller's dict and modifies
neither `DEFAULT_CONFIG` nor the caller's dict, and later edits of either do not show through the connection's
`_config` (in the model: `open_takes_snapshot`); `SlaveService.on_connect` leaves
`DEFAULT_CONFIG` deep-equal; `Service` has no read hook; the generated safe list is complete -/
theorem config_handling_is_modelled :
    Gen.Policy.checkAttrReads =
      ["allow_all_attrs", "allow_delattr", "allow_exposed_attrs", "allow_getattr", "allow_public_attrs",
       "allow_safe_attrs", "allow_setattr", "exposed_prefix", "safe_attrs"]
    ∧ Gen.Policy.initOwnCopy = true
    ∧ Gen.Policy.initEqualsDefaults = true
    ∧ Gen.Policy.initOverlaysArg = true
    ∧ Gen.Policy.initLeavesInputsAlone = true
    ∧ Gen.Policy.initSnapshotFrozen = true
    ∧ Gen.Policy.slaveLeavesDefaultsAlone = true
    ∧ Gen.Policy.serviceHasGetHook = false
    ∧ Gen.Policy.cfgSafeAttrsCp.length = Gen.Policy.cfgSafeAttrsCount :=
  ⟨rfl, rfl, rfl, rfl, rfl, rfl, rfl, rfl, by decide⟩

/-! ### non-vacuity: concrete, non-trivial instances of the hypotheses -/

-- "foo", "exposed_foo", "_x", "__eq__" as code points
def foo : PyStr := [102, 111, 111]
def expFoo : PyStr := Gen.Policy.cfgExposedPrefixCp ++ foo
def underX : PyStr := [95, 120]
def dunderEq : PyStr := [95, 95, 101, 113, 95, 95]

/-- an object that has only `exposed_foo` -/
def svcLike : Obj := plainObj 0 (fun n => n == expFoo)

/-- default configuration: `foo` is not allowed by name but has a twin → the twin is read -/
example : ¬ NameAllowed defaultConfig foo ∧ HasTwin defaultConfig svcLike.has foo
    ∧ checkAttr defaultConfig svcLike.has foo .get = .ok expFoo := by
  refine ⟨?_, ?_, by decide +kernel⟩
  · rw [← plainAllowed_iff]; decide
  · rw [← hasExposed_iff]; decide
/-- default configuration: writing is disabled, `_x` is refused, `__eq__` is safe-listed -/
example : checkAttr defaultConfig svcLike.has foo .set = .error .attributeError
    ∧ checkAttr defaultConfig svcLike.has underX .get = .error .attributeError
    ∧ checkAttr defaultConfig svcLike.has dunderEq .get = .ok dunderEq := by decide +kernel
/-- a denied request really is denied, with a probe and no effect (hypotheses of `denied_no_effect` are met) -/
example : svcLike.hook Req.getattr.op = none
    ∧ (handle defaultConfig svcLike (.text underX) .getattr).out = .error .attributeError
    ∧ (handle defaultConfig svcLike (.text underX) .getattr).log = [.probe 0 (expFoo.take 8 ++ underX)] := by decide +kernel
/-- an allowed call-by-name: probe, read of the twin, call -/
example : (handle defaultConfig svcLike (.text foo) .callattr).log
    = [.probe 0 expFoo, .access 0 .get expFoo, .call 0 expFoo] := by decide +kernel
/-- a restricted view under classic-mode blanket permissions still permits exactly its list -/
example : (run (onConnectSlave defaultConfig) (restrictedView 0 1 [foo] none (fun _ => false) (fun _ => true)) (.text underX) .get).out
      = .error .attributeError
    ∧ (run defaultConfig (restrictedView 0 1 [foo] none (fun _ => false) (fun _ => true)) (.text foo) .set).out = .ok (.hooked foo) := by
  decide +kernel
def strict : Overlay := { allowPublic := some false, exposedPrefix := some [120] }
/-- `historyPre ++ historyPost`: a history with differently configured connections, a classic-mode connect, a close, and
the application editing — after the fact — both the dict object connection 2 was opened with (then reusing it for
connection 4) and `DEFAULT_CONFIG`: connection 2 enforces exactly what its own opening made it, connection 4 sees the edits -/
def historyPre : List HEvent :=
  [.editDict (.app 1) { allowPublic := some true }, .open 1 1 false, .editDict (.app 7) strict, .open 2 7 false,
   .open 3 0 true]
def historyPost : List HEvent :=
  [.access 1, .close 1, .editDict (.app 7) { allowPublic := some true, allowSet := some true },
   .editDict .dflt { allowAll := some true }, .open 4 7 false, .access 2]
example : (hrun Modes.measured HWorld.init (historyPre ++ historyPost)).cfgOf 2
      = some (applyOverlay defaultConfig strict)
    ∧ (hrun Modes.measured HWorld.init (historyPre ++ historyPost)).cfgOf 3 = some (onConnectSlave defaultConfig)
    ∧ (hrun Modes.measured HWorld.init (historyPre ++ historyPost)).cfgOf 1
        = some (applyOverlay defaultConfig { allowPublic := some true })
    ∧ (hrun Modes.measured HWorld.init (historyPre ++ historyPost)).cfgOf 4
        = some (applyOverlay (applyOverlay defaultConfig { allowAll := some true })
                  { allowPublic := some true, allowSet := some true, exposedPrefix := some [120] }) := by decide +kernel
/-- two servers constructed without a configuration, the first edited afterwards, a third constructed later: a
connection of server 2 and one of server 3 enforce the defaults, one of server 1 what server 1 was told -/
def serverHistory : List HEvent :=
  [.newServer 1 none, .newServer 2 none, .editServer 1 { allowPublic := some true, allowSet := some true },
   .serverConn 5 2 false, .serverConn 6 1 false, .newServer 3 none, .serverConn 7 3 false]
example : (hrun Modes.measured HWorld.init serverHistory).cfgOf 5 = some defaultConfig
    ∧ (hrun Modes.measured HWorld.init serverHistory).cfgOf 7 = some defaultConfig
    ∧ (hrun Modes.measured HWorld.init serverHistory).cfgOf 6
        = some (applyOverlay defaultConfig { allowPublic := some true, allowSet := some true }) := by decide +kernel
/-- the hypotheses of `isolation` are met by that history: every later event is fair, connection 2 is established -/
example : (∀ e ∈ historyPost, e.fair = true)
    ∧ (hrun Modes.measured HWorld.init historyPre).conns 2 ≠ .fresh := by decide +kernel
def exitN : PyStr := exitName
/-- non-vacuity of the cmp / ctxexit / oldslicing theorems: a hook-less object with a pure `hasattr` whose requests
are refused (hypotheses of `*_denied_no_effect`, `oldslicing_both_refused`) resp. served -/
def plainWithExit : Obj := plainObj 0 (fun n => n == exitN)
example : plainWithExit.hook .get = none ∧ PureProbes plainWithExit := ⟨rfl, fun _ => rfl⟩
example : (handleCmp true defaultConfig svcLike svcLike (.text underX)).out = .error .attributeError
    ∧ (handleCtxExit { defaultConfig with allowGet := false } plainWithExit).out = .error .attributeError
    ∧ (handleCtxExit defaultConfig plainWithExit).log
        = [.probe 0 (Gen.Policy.cfgExposedPrefixCp ++ exitN), .access 0 .get exitN, .call 0 exitN] := by decide +kernel
example : (run defaultConfig svcLike (.text underX) .get).out = .error .attributeError
    ∧ (run defaultConfig svcLike (.text [95, 121]) .get).out = .error .attributeError
    ∧ (handleOldSlicing defaultConfig svcLike (.text underX) (.text [95, 121]) false).out = .error .attributeError := by
  decide +kernel
/-- oldslicing really falls back: `_x` is refused, `foo` (twin present) is then served -/
example : stageFails svcLike (thenCall svcLike (run defaultConfig svcLike (.text underX) .get)) false = true
    ∧ (handleOldSlicing defaultConfig svcLike (.text underX) (.text foo) false).out = .ok (.direct expFoo) := by decide +kernel
/-- a delete on a restricted view whose probed twin is listed reads the target (hypothesis of
`restricted_del_reaches_target_only_by_listed_reads` is non-trivially met), and for an unlisted name does not -/
example : (run { defaultConfig with allowDel := true } (restrictedView 0 1 [expFoo] none (fun _ => false) (fun _ => true))
      (.text foo) .del).log = [.probe 0 expFoo, .access 1 .get expFoo, .access 0 .del expFoo]
    ∧ (run { defaultConfig with allowDel := true } (restrictedView 0 1 [underX] none (fun _ => false) (fun _ => true))
      (.text foo) .del).log = [.probe 0 expFoo] := by decide +kernel
/-- `server_config_is_private` / `shared_objects_never_written`: their hypotheses hold for a history that constructs,
edits and uses other servers and edits other dicts -/
example : (∀ e ∈ serverHistory.drop 2, e.mayEdit .dflt = false)
    ∧ (∀ e ∈ serverHistory.drop 2, e.mayEdit (.srv 2) = false)      -- no edit of / through / re-construction of server 2
    ∧ (∀ e ∈ serverHistory.drop 2, e.fair = true) := by decide +kernel
/-- "café" as UTF-8 bytes is the text name -/
example : utf8Dec false [99, 97, 102, 0xC3, 0xA9] = some [99, 97, 102, 233]
    ∧ utf8Dec false [0xED, 0xA0, 0x80] = none ∧ utf8Dec false [0xFF] = none := by decide +kernel

end Rpyc.Props.C06
