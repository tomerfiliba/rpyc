import RpycModel.Brine.Closed
import RpycModel.Brine.Fuel
/-
C04 — the value serializer is lossless and exact about what it accepts.
Only property theorems and their non-vacuity examples live here (namespace Rpyc.Props.C04);
helper lemmas are in RpycModel/Brine/*.lean.
-/
namespace Rpyc.Props.C04
open Rpyc Rpyc.Brine

/-- **Lossless.** `load (dump v) = v` for every well-formed value that `dump` accepts: same
constructor tree (= identical type and structure), floats and complex numbers as bit patterns
(signed zeros, infinities, NaN payloads), integers of any size, any text or byte string, any nesting. -/
theorem load_dump (v : Val) (e : Bytes) (hwf : v.wf = true) (h : dump v = .ok e) : load e = .ok v := by
  have hn := (need_le v e h).1
  exact load_eq_ok.2 ⟨[], by simpa using dec_enc v e hwf h (2 * e.length + 2) [] (by omega)⟩

/-- the same inside any stream: decoding consumes exactly the encoding and leaves the rest -/
theorem dec_dump_append (v : Val) (e rest : Bytes) (hwf : v.wf = true) (h : dump v = .ok e)
    (fuel : Nat) (hf : need v ≤ fuel) : dec fuel (e ++ rest) = .ok (v, rest) :=
  dec_enc v e hwf h fuel rest hf

/-- **No two values share an encoding.** Distinct well-formed values — `True` and `1`, `0.0` and `-0.0`, `(1,)` and
`1`, `""` and `b""`, two NaNs with different payloads — never produce the same bytes: the type and structure are
recoverable because the encoding is injective. -/
theorem dump_injective (v w : Val) (e : Bytes) (hv : v.wf = true) (hw : w.wf = true)
    (h1 : dump v = .ok e) (h2 : dump w = .ok e) : v = w := by
  have a := load_dump v e hv h1
  have b := load_dump w e hw h2
  rw [a] at b
  injection b

/-- **Encodings are prefix-free**: no encoding is a proper prefix of another, so a concatenation of encodings (a
tuple's items, a packet's payload) splits in exactly one way. -/
theorem dump_prefix_free (v w : Val) (e rest : Bytes) (hv : v.wf = true) (hw : w.wf = true)
    (h1 : dump v = .ok e) (h2 : dump w = .ok (e ++ rest)) : v = w ∧ rest = [] := by
  have a := dec_dump_append v e rest hv h1 (need v + need w) (by omega)
  have b := dec_dump_append w (e ++ rest) [] hw h2 (need v + need w) (by omega)
  rw [List.append_nil, a] at b
  injection b with b
  injection b with b1 b2
  exact ⟨b1, b2⟩

/-- **Accepts what it declares.** Every value `dumpable` accepts is encoded, within the explicit
domain (integers the interpreter can render as text, lengths `struct` can frame: < 2^32).
Full strength: no condition on the text — lone surrogates included. -/
theorem dump_total (v : Val) (hd : dumpable v = true) (hdom : InDomain v = true) : ∃ e, dump v = .ok e :=
  enc_ok v hd hdom

/-- **Refuses what it declares unserializable, with TypeError.** -/
theorem dump_refuses (v : Val) (hd : dumpable v = false) (hdom : InDomain v = true) :
    dump v = .error .typeError :=
  enc_refuses v hd hdom

/-- `dumpable` and `dump` agree in both directions on the domain -/
theorem dumpable_iff_dump_ok (v : Val) (hdom : InDomain v = true) :
    dumpable v = true ↔ ∃ e, dump v = .ok e := by
  have h := enc_spec v hdom
  split at h
  · exact iff_of_true ‹_› h
  · simp [*, dump]

/-- **Decoder closed and total.** For *every* byte string, `load` (a total function) either raises
or returns a value built only from the twelve immutable plain types; the result type of the model
has no constructor for anything else except `other`, which is excluded here.

One of the model's errors is not an exception of the code: `Err.notModelled`, answered in exactly one place
(`unpack3` of a frozenset: `TAG_SLICE` followed by an encoded frozenset, where `_load_slice` unpacks the set in
CPython's iteration order and returns `slice(x, y, z)` over three already-decoded plain values, or raises ValueError
when the set does not have three elements).  For those inputs the theorem's left disjunct stands for "a slice of three
plain values, or ValueError"; the correspondence checks on the real code that the result there is plain
(`decode:not-modelled(slice-of-frozenset)` in the evidence). -/
theorem load_safe (bs : Bytes) : (∃ e, load bs = .error e) ∨ (∃ v, load bs = .ok v ∧ dumpable v = true) := by
  cases h : load bs with
  | error e => exact Or.inl ⟨e, rfl⟩
  | ok v =>
    obtain ⟨r, hr⟩ := load_eq_ok.1 h
    exact Or.inr ⟨v, rfl, dec_dumpable _ _ v r hr⟩

/-- the model's `load` never fails for lack of fuel, whatever the bytes: its failures are exactly the
transcribed failures of `_load` (so `load_safe`'s "raises" is never an artefact of the model) -/
theorem load_fuel_adequate (bs : Bytes) : load bs ≠ .error .recursionError :=
  load_never_out_of_fuel bs

/-- the model builds `frozenset(items)` without a failure branch: every plain value must be hashable, which holds iff
slices are (CPython ≥ 3.12).  Measured on the interpreter the checks run under; on an older interpreter this obligation
fails instead of the model being silently wrong about `TAG_FSET` over slices. -/
theorem interpreter_hashes_slices : Gen.sliceHashable = true := by decide

/-- the loader's registry has exactly the tags the model decodes (generated; a new or re-keyed
`_load_*` entry breaks this) -/
theorem load_registry_is_modelled :
    Gen.loadRegistryTags.all (fun t => (classify t).isSome && !isImm t) = true
    ∧ (List.range 256).all (fun t => (classify t).isSome == (isImm t || Gen.loadRegistryTags.contains t)) = true := by
  decide +kernel

/-- every function the `_load_*` bodies call is one of the primitives the model has (AST, generated):
no import, no attribute lookup on loaded data other than `.decode`, no call of loaded data -/
theorem loader_calls_allowed : Gen.loaderCalls.all (fun c => Brine.loaderCallsAllowed.contains c) = true := by
  decide +kernel

/-- observed, not read off the source: while the live `brine.load` decoded a fixed corpus of valid, truncated and
mutated encodings (including byte strings that spell pickles and dotted names) the interpreter's audit hooks reported no
import, exec, compile, open, os/subprocess/socket/ctypes/pickle event ("never imports or executes anything", measured) -/
theorem decode_audit_silent : Gen.decodeAuditEvents = [] := by decide

/-- the dump registry and `simple_types` cover exactly the twelve modelled types -/
theorem dump_registry_is_modelled :
    Gen.dumpRegistryTypes = ["builtins.NoneType", "builtins.NotImplementedType", "builtins.bool", "builtins.bytes",
      "builtins.complex", "builtins.ellipsis", "builtins.float", "builtins.frozenset", "builtins.int",
      "builtins.slice", "builtins.str", "builtins.tuple"]
    ∧ Gen.simpleTypes = ["builtins.NoneType", "builtins.NotImplementedType", "builtins.bool", "builtins.bytes",
      "builtins.complex", "builtins.ellipsis", "builtins.float", "builtins.int", "builtins.str"] :=
  ⟨rfl, rfl⟩

/-! ### non-vacuity: concrete non-trivial values meet the hypotheses -/

/-- a nested value with a NaN payload, -0.0, a lone surrogate, a frozenset of tuples and a slice -/
def sample : Val :=
  .tuple [.int (-49), .float 0x7FF0000000000001, .float 0x8000000000000000, .str [0x61, 0xD800, 0x1F600],
          .fset [.tuple [.int 1, .bytes [0, 255]], .tuple []], .slice (.int 1) .none (.tuple [.bool true]),
          .complex 0x7FF8000000000000 0xFFF0000000000000, .int (10 ^ 300)]

example : sample.wf = true ∧ dumpable sample = true ∧ InDomain sample = true := by
  -- the 301-digit integer is in the domain by its size; running `natDigits` on it is what would be slow
  have hbig : intOk (10 ^ 300) = true := intOk_of_natAbs_lt _ 300 (by decide +kernel) (by decide) (by decide)
  refine ⟨by decide, by decide, ?_⟩
  simp only [sample, InDomain, InDomainL, hbig]
  decide +kernel
example : ∃ e, dump sample = .ok e ∧ load e = .ok sample := by
  have hbig : intOk (10 ^ 300) = true := intOk_of_natAbs_lt _ 300 (by decide +kernel) (by decide) (by decide)
  have hdom : InDomain sample = true := by simp only [sample, InDomain, InDomainL, hbig]; decide +kernel
  obtain ⟨e, he⟩ := dump_total sample (by decide) hdom
  exact ⟨e, he, load_dump sample e (by decide) he⟩
example : dumpable (.tuple [.int 1, .tuple [.other 0]]) = false
    ∧ dump (.tuple [.int 1, .tuple [.other 0]]) = .error .typeError := ⟨rfl, rfl⟩
/-- the hypotheses of `dump_injective` / `dump_prefix_free` are met by every encodable value (here the sample, `rest = []`) -/
example : ∃ e, dump sample = .ok e ∧ dump sample = .ok (e ++ []) ∧ sample.wf = true := by
  have hbig : intOk (10 ^ 300) = true := intOk_of_natAbs_lt _ 300 (by decide +kernel) (by decide) (by decide)
  have hdom : InDomain sample = true := by simp only [sample, InDomain, InDomainL, hbig]; decide +kernel
  obtain ⟨e, he⟩ := dump_total sample (by decide) hdom
  exact ⟨e, he, by simpa using he, by decide⟩
/-- and the look-alikes (`True` and `1`, `(1,)` and `1`) really do encode differently -/
example (e : Bytes) (h1 : dump (.bool true) = .ok e) : dump (.int 1) ≠ .ok e := fun h2 => by
  cases dump_injective _ _ e (by decide) (by decide) h1 h2
example (e : Bytes) (h1 : dump (.tuple [.int 1]) = .ok e) : dump (.int 1) ≠ .ok e := fun h2 => by
  cases dump_injective _ _ e (by decide) (by decide) h1 h2
/-- a truncated tuple (two items announced, one present) is refused: reading past the end raises -/
example : load [Gen.tagTupL1, 2, Gen.tagNone] = .error .typeError := by
  simp [load, dec_tag_tupL1, decTup, decN, dec_tag_none, dec]

end Rpyc.Props.C04
