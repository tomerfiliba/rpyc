import RpycModel.Proto.LedgerInv
/-
C08 — every request gets exactly one response, to its own requester.

The machine is `Rpyc.Proto.Ledger` (`RpycModel/Proto/Ledger.lean`: `_async_request`, `_dispatch`,
`_dispatch_request`, `_seq_request_callback`, the wait loop of `AsyncResult`); the invariant and its proof
are in `RpycModel/Proto/LedgerLemmas.lean` and `LedgerInv.lean`.  Everything below is about *every* event
sequence (any mix of synchronous, asynchronous and nested requests, any handler outcomes, any number
outstanding at once, any hand-built response frames), from any starting values of the two counters.

`C08_statement` is the full property over every way a request can leave its `try:` suite: value, reference,
an `Exception`, a `BaseException` that is not an `Exception` (CancelledError, GeneratorExit, user classes,
SystemExit / KeyboardInterrupt under the default configuration: the `except:` is bare), undecodable
arguments, unencodable result (answered since the repair of F2) and an exception whose own payload cannot be
built or encoded (answered since the repair `C08:unserializable-exception-no-response`).  The one outcome it
leaves out is the one the configuration routes elsewhere: SystemExit / KeyboardInterrupt on a side whose
`propagate_*_locally` switch is on (`raiseLocal`; `configured_local_propagation` shows what happens then).
The model follows the repaired code and `exactly_one` proves the statement in full; reverting a repair —
or narrowing the bare `except:` — in the model's `dispatchRequest`/`sendException` breaks
`exactly_one_dispatch`.
-/
namespace Rpyc.Props.C08
open Rpyc.Proto.Ledger

/-- `_request_handlers()` has exactly one entry per `HANDLE_*` constant, and the three message types
`_dispatch` distinguishes are the three `MSG_*` constants, pairwise distinct -/
theorem tables_are_modelled :
    Gen.Proto.handlerTable.map Prod.fst = Gen.Proto.handleConsts.map Prod.fst
    ∧ (Gen.Proto.handleConsts.map Prod.fst).Nodup
    ∧ Gen.Proto.dispatchedMsgs = [Gen.Proto.msgRequest, Gen.Proto.msgReply, Gen.Proto.msgException]
    ∧ Gen.Proto.dispatchedMsgs.Nodup
    ∧ RKind.reply.code ≠ RKind.exc.code := by
  decide

/-- **obligation on the code** (measured on the live `Connection._dispatch` by the constants generator): a response — reply
or exception — whose payload cannot be decoded is delivered to its waiter as an error instead of leaving `_dispatch` -/
theorem obligation_decode_guarded : Gen.Proto.responseDecodeGuarded = true := decode_guarded

/-- The sequence numbers of the request frames a side has put on the wire are strictly
increasing, and all below its counter: no number is ever reused on a connection. -/
theorem seq_fresh {s : St} (h : Reach s) (x : Side) :
    (s.wire.filterMap (reqOf x)).Pairwise (· < ·) ∧ ∀ r ∈ s.wire.filterMap (reqOf x), r < (s.get x).seq := by
  have d := h.inv.dir x
  rw [d.wireReq]
  exact ⟨d.sorted, d.below⟩

/-- every successful `_async_request` uses the current counter value and advances the counter -/
theorem issue_allocates {s s' : St} {x : Side} {k : Kind} (h : step s ⟨x, .issue k⟩ = some s') :
    s'.wire = s.wire ++ [(x, .req (s.get x).seq)] ∧ (s'.get x).seq = (s.get x).seq + 1
    ∧ (s'.get x.peer).inbox = (s.get x.peer).inbox ++ [.req (s.get x).seq]
    ∧ registered (s'.get x).callbacks (s.get x).seq = true := by
  obtain ⟨me, pr, w, ⟨-, -, hl⟩, rfl⟩ := step_iff.mp h
  cases hl
  simp [registered, register]

/-- In every reachable state, each request has been executed at most once by the peer
that received it and has produced at most one response there; the response frames a side has put on the wire
under a number are exactly those (plus hand-built ones, if the harness injected any). -/
theorem at_most_once {s : St} (h : Reach s) (y : Side) (r : Nat) :
    nSeq r (s.get y).executed ≤ 1 ∧ nKey r (s.get y).answered ≤ 1
    ∧ nWireResp y r s.wire = nKey r (s.get y).answered + nKey r (s.get y.peer).injected := by
  have d := h.inv.dir y.peer
  simp only [Side.peer_peer] at d
  have hc := d.count r
  have ho := d.once r
  have he := d.exec r
  have hw := d.wireResp r
  simp only [Side.peer_peer] at hw
  refine ⟨by omega, by omega, hw⟩

/-- the response bears the request's own number: finishing the request at the top of the stack writes
exactly one frame `resp k r v` with the `r` of that `handling r` frame, or (exception leaving
`_dispatch_request`) writes nothing -/
theorem response_bears_own_seq {s s' : St} {x : Side} {o : Outcome} {v : Nat}
    (h : step s ⟨x, .finish o v⟩ = some s') :
    ∃ r rest, (s.get x).stack = .handling r :: rest ∧
      ((∃ k, dispatchRequest o = .respond k ∧ s'.wire = s.wire ++ [(x, .resp k r v)]
          ∧ (s'.get x.peer).inbox = (s.get x.peer).inbox ++ [.resp k r v]
          ∧ (s'.get x).answered = (s.get x).answered ++ [(r, k, v)]
          ∧ (s'.get x).dead = false)
       ∨ (dispatchRequest o = .propagate ∧ s'.wire = s.wire ∧ (s'.get x).dead = true)) := by
  obtain ⟨me, pr, w, ⟨hm, -, hl⟩, rfl⟩ := step_iff.mp h
  cases hl
  case respond r rest k hst hk => exact ⟨r, rest, hst, Or.inl ⟨k, hk, by simp, by simp, by simp, by simpa using hm⟩⟩
  case propagate r rest hst hk => exact ⟨r, rest, hst, Or.inr ⟨hk, by simp, by simp⟩⟩

/-- A response bearing `q` that a side receives goes to the waiter registered
under `q` — which is removed from the table — and to nobody else; with no waiter under `q` it is dropped and
nothing else changes. -/
theorem routed {s s' : St} {x : Side} {k : RKind} {q v : Nat} {rest : List Msg}
    (h : step s ⟨x, .deliver⟩ = some s') (hin : (s.get x).inbox = .resp k q v :: rest) :
    (s'.get x).inbox = rest ∧ s'.get x.peer = s.get x.peer ∧ s'.wire = s.wire ∧
    (if registered (s.get x).callbacks q then
        (s'.get x).results = (s.get x).results ++ [(q, k, v)]
        ∧ (s'.get x).callbacks = unregister q (s.get x).callbacks
        ∧ registered (s'.get x).callbacks q = false
        ∧ (∀ t, t ≠ q → nKey t (s'.get x).callbacks = nKey t (s.get x).callbacks)
        ∧ (s'.get x).dropped = (s.get x).dropped
     else
        (s'.get x).results = (s.get x).results ∧ (s'.get x).callbacks = (s.get x).callbacks
        ∧ (s'.get x).dropped = (s.get x).dropped ++ [q]) := by
  obtain ⟨me, pr, w, ⟨-, -, hl⟩, rfl⟩ := step_iff.mp h
  cases hl
  case request hin' => rw [hin] at hin'; cases hin'
  case response hin' hreg =>
    rw [hin] at hin'; cases hin'
    simp only [St.put_get_self, St.put_get_peer, St.put_wire, hreg, if_true, true_and]
    exact ⟨registered_unregister _ _, fun t ht => by rw [nKey_unregister, if_neg (Ne.symm ht)], trivial⟩
  case drop hin' hreg =>
    rw [hin] at hin'; cases hin'
    simp [hreg]

/-- **routed (a response this side cannot decode).** A response whose payload cannot be decoded by the receiver (an
exception class it cannot rebuild, a reference it no longer knows) still goes to the waiter registered under its
number — as an error — and the waiter is removed; with no waiter it is dropped; nothing else changes and nothing
leaves `serve()`.  (This rests on the obligation `decode_guarded`, measured on the live `_dispatch`.) -/
theorem undecodable_response_is_delivered {s s' : St} {x : Side} {k : RKind} {q v : Nat} {rest : List Msg}
    (h : step s ⟨x, .deliverFail⟩ = some s') (hin : (s.get x).inbox = .resp k q v :: rest) :
    (s'.get x).inbox = rest ∧ s'.get x.peer = s.get x.peer ∧ s'.wire = s.wire ∧ (s'.get x).dead = (s.get x).dead ∧
    (if registered (s.get x).callbacks q then
        (s'.get x).results = (s.get x).results ++ [(q, k, v)]
        ∧ (s'.get x).undecodable = (s.get x).undecodable ++ [q]
        ∧ (s'.get x).callbacks = unregister q (s.get x).callbacks
        ∧ registered (s'.get x).callbacks q = false
     else
        (s'.get x).results = (s.get x).results ∧ (s'.get x).callbacks = (s.get x).callbacks
        ∧ (s'.get x).dropped = (s.get x).dropped ++ [q]) := by
  obtain ⟨me, pr, w, ⟨-, -, hl⟩, rfl⟩ := step_iff.mp h
  cases hl
  case undecodable hin' hreg =>
    rw [hin] at hin'; cases hin'
    simp only [St.put_get_self, St.put_get_peer, St.put_wire, hreg, if_true, true_and]
    exact registered_unregister _ _
  case undecodableDrop hin' hreg =>
    rw [hin] at hin'; cases hin'
    simp [hreg]

/-- what the code did before `_dispatch` guarded the decoding (`runWith false`: the machine with the guard switched off;
`run` is `runWith Gen.Proto.responseDecodeGuarded`, the same machine with the measured constant put in: `run_eq_runWith`): the response
is consumed, nobody is given anything, the waiter stays registered for ever — the requester of an answered request
never gets its response.  This is the counterexample the obligation `decode_guarded` excludes. -/
theorem unguarded_decode_loses_response :
    ∃ s, runWith false (St.init 0 0)
        [⟨.A, .issue .async⟩, ⟨.B, .deliver⟩, ⟨.B, .finish .raise 7⟩, ⟨.A, .deliverFail⟩] = some s
      ∧ s.b.answered = [(0, .exc, 7)] ∧ s.a.inbox = [] ∧ s.a.results = [] ∧ s.a.callbacks = [(0, .async)]
      ∧ s.a.dropped = [] :=
  ⟨_, rfl, rfl, rfl, rfl, rfl, rfl⟩

/-- **routed (over a whole run).** Each of a side's requests is either still registered or has been given
exactly one outcome, never both and never two; every outcome given is a response the peer produced for that
very number (or a hand-built frame the harness wrote): nobody receives a value that was not sent. -/
theorem each_waiter_one_outcome {s : St} (h : Reach s) (x : Side) (r : Nat) :
    nKey r (s.get x).callbacks + nKey r (s.get x).results = nSeq r (s.get x).issued
    ∧ nKey r (s.get x).callbacks + nKey r (s.get x).results ≤ 1
    ∧ (∀ e ∈ (s.get x).results, e ∈ (s.get x.peer).answered ∨ e ∈ (s.get x).injected) := by
  have d := h.inv.dir x
  have hw := d.waiter r
  have ho := d.once r
  exact ⟨by omega, by omega, d.provRes⟩

/-- a side that received no hand-built frame never drops a response: every response finds its waiter -/
theorem honest_nothing_dropped {s : St} (h : Reach s) (x : Side) (hinj : (s.get x).injected = []) :
    (s.get x).dropped = [] := (h.inv.dir x).honest hinj

/-- the counting invariant of DESIGN.md Appendix C.3, with the fourth place a request can be on the pinned
code (abandoned by an exception that left `_dispatch_request`) -/
theorem counting {s : St} (h : Reach s) (x : Side) (r : Nat) :
    nReq r (s.get x.peer).inbox + nHand r (s.get x.peer).stack + nKey r (s.get x.peer).answered
      + nSeq r (s.get x.peer).abandoned = nSeq r (s.get x).issued
    ∧ nSeq r (s.get x).issued ≤ 1 := by
  have d := h.inv.dir x
  have := d.count r
  exact ⟨by omega, d.once r⟩

/-- **The full property**: after every event sequence, with every handler outcome (every outcome under the
default configuration; with a `propagate_*_locally` switch on, every outcome but the one it routes locally). -/
def C08_statement : Prop :=
  ∀ (sa sb : Nat) (es : List Ev) (s : St), run (St.init sa sb) es = some s →
    (∀ e ∈ es, e.act.notLocal = true) → Good s

/-- For every outcome class `_dispatch_request` sends exactly one message: a reply
for a value or a reference, the exception otherwise — an `Exception`, any other `BaseException`, arguments that
cannot be decoded, a result that cannot be encoded, an exception that cannot itself be serialized.  Only the
configured local propagation of SystemExit / KeyboardInterrupt leaves it without a response. -/
theorem exactly_one_dispatch :
    dispatchRequest .value = .respond .reply ∧ dispatchRequest .ref = .respond .reply
    ∧ dispatchRequest .raise = .respond .exc ∧ dispatchRequest .raiseBase = .respond .exc
    ∧ dispatchRequest .undecodableArgs = .respond .exc
    ∧ dispatchRequest .unencodableResult = .respond .exc ∧ dispatchRequest .unserializableExc = .respond .exc
    ∧ (∀ o, o ≠ .raiseLocal → dispatchRequest o ≠ .propagate) :=
  ⟨by decide, by decide, by decide, by decide, by decide, by decide, by decide, dispatch_never_propagates⟩

/-- After every event sequence — every mix of synchronous, asynchronous
and nested requests, every handler outcome, any number outstanding — nobody has died, and every request
sent is in the peer's inbox, or being handled, or has been answered: exactly one of the three, exactly
once. -/
theorem exactly_one : C08_statement :=
  fun sa sb es _ h hloc => Reach.good ⟨sa, sb, es, h⟩ (run_alive h hloc (alive_init sa sb))

/-- what the configuration asks for instead: with `propagate_SystemExit_locally` (or the KeyboardInterrupt
switch) on, a handler raising that exception is executed, nothing is sent, and the exception leaves the
serving side's `serve()` — by configuration, not a violation of the statement -/
theorem configured_local_propagation :
    ∃ s, run (St.init 0 0) [⟨.A, .issue .sync⟩, ⟨.B, .deliver⟩, ⟨.B, .finish .raiseLocal 0⟩] = some s
      ∧ s.b.dead = true ∧ s.b.executed = [0] ∧ s.b.answered = [] ∧ s.wire = [(.A, .req 0)] :=
  ⟨_, rfl, rfl, rfl, rfl, rfl⟩

/-- **usable afterwards.** After every such event sequence the connection stays usable: either side can issue the next
request (synchronous or asynchronous), a handler at the top of a stack can finish with any outcome, and a
side whose serve loop or wait loop is at the top receives the next message of a non-empty inbox. -/
theorem stays_usable (sa sb : Nat) (es : List Ev) (s : St) (h : run (St.init sa sb) es = some s)
    (hloc : ∀ e ∈ es, e.act.notLocal = true) (x : Side) :
    (∀ k, ∃ s', step s ⟨x, .issue k⟩ = some s')
    ∧ (∀ r rest o v, (s.get x).stack = .handling r :: rest → ∃ s', step s ⟨x, .finish o v⟩ = some s')
    ∧ (canServe (s.get x).stack = true → (s.get x).inbox ≠ [] → ∃ s', step s ⟨x, .deliver⟩ = some s') := by
  have hl := run_alive h hloc (alive_init sa sb)
  have enabled : ∀ {a me pr w}, LStep x (s.get x) (s.get x.peer) s.wire a me pr w → ∃ s', step s ⟨x, a⟩ = some s' :=
    fun hs => ⟨_, step_iff.mpr ⟨_, _, _, ⟨(hl x).1, (hl x.peer).1, hs⟩, rfl⟩⟩
  refine ⟨fun k => enabled (.issue k), ?_, ?_⟩
  · intro r rest o v hst
    cases hk : dispatchRequest o
    · exact enabled (.respond hst hk)
    · exact enabled (.propagate hst hk)
  · intro hcs hne
    cases hin : (s.get x).inbox with
    | nil => exact absurd hin hne
    | cons m rest =>
      cases m with
      | req r => exact enabled (.request hcs hin)
      | resp k q v =>
        cases hreg : registered (s.get x).callbacks q
        · exact enabled (.drop hcs hin hreg)
        · exact enabled (.response hcs hin hreg)

/-- **exactly one, end to end.** When a side has received no hand-built frame and nothing is in flight any
more (both inboxes empty, the peer handling nothing), every request it sent has been answered exactly once
by the peer, that answer has been delivered exactly once — to the waiter registered under the request's own
number — and no waiter is left in the table. -/
theorem quiescent_all_answered (sa sb : Nat) (es : List Ev) (s : St) (h : run (St.init sa sb) es = some s)
    (hloc : ∀ e ∈ es, e.act.notLocal = true) (x : Side)
    (hinj : (s.get x).injected = []) (hq1 : (s.get x).inbox = []) (hq2 : (s.get x.peer).inbox = [])
    (hq3 : (s.get x.peer).stack = []) (r : Nat) (hr : r ∈ (s.get x).issued) :
    nKey r (s.get x.peer).answered = 1 ∧ nKey r (s.get x).results = 1 ∧ nKey r (s.get x).callbacks = 0
    ∧ (∀ e ∈ (s.get x).results, e ∈ (s.get x.peer).answered) := by
  have hreach : Reach s := ⟨sa, sb, es, h⟩
  have hl := run_alive h hloc (alive_init sa sb)
  have d := hreach.inv.dir x
  have hc := d.count r
  have hw := d.waiter r
  have hf := d.flow r
  have ho := d.once r
  have hdrop := d.honest hinj
  have hpos := (nSeq_pos_iff r _).mpr hr
  rw [hq2, hq3, (hl x.peer).2] at hc
  rw [hinj, hq1, hdrop] at hf
  simp only [nReq_nil, nHand_nil, nSeq_nil, nKey_nil, nResp_nil] at hc hf
  refine ⟨by omega, by omega, by omega, ?_⟩
  intro e he
  rcases d.provRes e he with h' | h'
  · exact h'
  · rw [hinj] at h'; cases h'

/-- **send failure.** An `_async_request` whose `_send` raises consumes a sequence number and leaves the
table of waiters exactly as it was: the callback registered for it has been unregistered (no waiter is left
under a number that was never sent); nothing is written and nothing else changes. -/
theorem send_failure_unregisters {s s' : St} (h : Reach s) {x : Side} (hs : step s ⟨x, .issueFail⟩ = some s') :
    (s'.get x).callbacks = (s.get x).callbacks ∧ (s'.get x).seq = (s.get x).seq + 1
    ∧ registered (s'.get x).callbacks (s.get x).seq = false
    ∧ (s'.get x).issued = (s.get x).issued ∧ s'.wire = s.wire ∧ s'.get x.peer = s.get x.peer := by
  have d := h.inv.dir x
  obtain ⟨me, pr, w, ⟨-, -, hl⟩, rfl⟩ := step_iff.mp hs
  cases hl
  simp only [St.put_get_self, St.put_get_peer, St.put_wire, unregister_register_fresh _ _ _ d.fresh_callbacks, true_and]
  exact ⟨(not_registered_iff _ _).mpr d.fresh_callbacks, trivial⟩

/-! ### non-vacuity: a concrete run with every kind of event and all answered outcome classes -/

/-- asynchronous and synchronous requests outstanding together, a nested callback (B's handler calls A
back, A's handler calls B again), a reply that arrives while a deeper wait loop is on top, an unencodable
result, undecodable arguments, a failed send, an await, a duplicate and an unmatched hand-built response -/
def sample : List Ev :=
  [⟨.A, .issue .async⟩,                 -- A: seq 0 (async)
   ⟨.A, .issueFail⟩,                    -- A: seq 1 consumed, nothing sent
   ⟨.A, .issue .sync⟩,                  -- A: seq 2 (sync), waiting 2
   ⟨.B, .deliver⟩,                      -- B handles 0
   ⟨.B, .issue .sync⟩,                  -- B's handler calls back: B seq 0, waiting
   ⟨.A, .deliver⟩,                      -- A (waiting 2) handles B's 0
   ⟨.A, .issue .sync⟩,                  -- A's handler calls B again: A seq 3
   ⟨.B, .deliver⟩,                      -- B (waiting 0) handles A's 2
   ⟨.B, .finish .unencodableResult 7⟩,  -- answered with an exception
   ⟨.B, .deliver⟩,                      -- B handles A's 3
   ⟨.B, .finish .ref 9⟩,
   ⟨.A, .deliver⟩,                      -- A receives EXC 2 while waiting 3 is on top: buried wait loop
   ⟨.A, .deliver⟩,                      -- A receives REPLY 3: waiting 3 returns
   ⟨.A, .finish .value 5⟩,              -- A's handler answers B's 0; then waiting 2 returns too
   ⟨.B, .deliver⟩,                      -- B receives REPLY 0
   ⟨.B, .finish .raise 4⟩,              -- B answers A's 0 with an exception
   ⟨.A, .inject .reply 2 99⟩,           -- duplicate response for A's 2: dropped
   ⟨.A, .inject .reply 50 1⟩,           -- unmatched number: dropped
   ⟨.A, .await 0⟩,
   ⟨.A, .deliver⟩,                      -- EXC 0 delivered to the awaited async result
   ⟨.A, .deliver⟩, ⟨.A, .deliver⟩,      -- the two hand-built frames
   ⟨.A, .issue .async⟩, ⟨.B, .deliver⟩, ⟨.B, .finish .undecodableArgs 0⟩, ⟨.A, .deliver⟩,
   ⟨.A, .issue .sync⟩, ⟨.B, .deliver⟩, ⟨.B, .finish .unserializableExc 6⟩, ⟨.A, .deliver⟩,
   ⟨.A, .issue .sync⟩, ⟨.B, .deliver⟩, ⟨.B, .finish .raiseBase 8⟩, ⟨.A, .deliver⟩]

example : ∃ s, run (St.init 0 0) sample = some s
    ∧ s.a.results = [(2, .exc, 7), (3, .reply, 9), (0, .exc, 4), (4, .exc, 0), (5, .exc, 6), (6, .exc, 8)]
    ∧ s.b.results = [(0, .reply, 5)]
    ∧ s.a.dropped = [2, 50] ∧ s.a.callbacks = [] ∧ s.b.callbacks = []
    ∧ s.b.executed = [2, 3, 0, 5, 6] ∧ s.a.executed = [0]
    ∧ s.a.stack = [] ∧ s.b.stack = [] ∧ s.a.seq = 7 ∧ s.a.issued = [0, 2, 3, 4, 5, 6] :=
  ⟨_, rfl, rfl, rfl, rfl, rfl, rfl, rfl, rfl, rfl, rfl, rfl, rfl⟩

/-- a response the requester cannot decode (e.g. an ExceptionGroup) arriving while another wait loop is serving:
it reaches its own waiter, the other request is unaffected -/
example : ∃ s, run (St.init 0 0) [⟨.A, .issue .async⟩, ⟨.A, .issue .sync⟩, ⟨.B, .deliver⟩, ⟨.B, .finish .raise 3⟩,
      ⟨.B, .deliver⟩, ⟨.B, .finish .value 4⟩, ⟨.A, .deliverFail⟩, ⟨.A, .deliver⟩] = some s
    ∧ s.a.results = [(0, .exc, 3), (1, .reply, 4)] ∧ s.a.undecodable = [0] ∧ s.a.callbacks = [] ∧ s.a.stack = [] :=
  ⟨_, rfl, rfl, rfl, rfl, rfl⟩

example : ∃ s, run (St.init 0 0) sample = some s ∧ Good s := by
  have h : ∃ s, run (St.init 0 0) sample = some s := ⟨_, rfl⟩
  obtain ⟨s, hs⟩ := h
  exact ⟨s, hs, exactly_one 0 0 sample s hs (by decide)⟩

end Rpyc.Props.C08
