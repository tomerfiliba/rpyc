import RpycModel.Srv.ServerContain
/-
C16 — a server keeps serving good clients whatever bad clients do.
Only property theorems and their non-vacuity examples live here (namespace Rpyc.Props.C16); the automaton is
RpycModel/Srv/Server.lean, the containment relation `Eff` and everything derived from it are in
RpycModel/Srv/ServerEffects.lean and ServerContain.lean.

Quantifier: every sequence (no bound on length or on the number of clients) of client actions — connect with good,
failing or no credentials, call, send any byte string (`Op.ofBytes`: cut into frames by `classify`, which is total on
all byte strings), disconnect gracefully or abruptly at any point — for the threaded, forking and pool automata, with
and without an authenticator.

On the pinned code the statement is false for the pool server: `nbThreads` clients that hold an incomplete frame open
occupy every worker, and with an authenticator one client that sends no credentials occupies the accept thread.
`C16_statement` stays visible, `C16_pool_counterexample` / `C16_pool_stall_counterexample` refute it with concrete
witnesses, `C16_partial` proves everything else.
-/
namespace Rpyc.Props.C16
open Rpyc Rpyc.Srv

/-! ### the statements -/

/-- (1) the accept loop is alive, free and has taken every connection, after any history of client actions -/
def AcceptSurvives (cfg : Cfg) : Prop :=
  ∀ ops : List Op, (∀ op ∈ ops, op.c16 = true) → Accepting (run (init cfg) ops)

/-- (2) a well-behaved client that is being served stays served and gets every request answered - pings, calls that lend
it an object, uses of object ids (its own, foreign, released), releases - with the reply its own history entitles it to
(`answered`: a request/response ledger that the other clients' events do not enter), whatever the history before and
whatever the other clients do meanwhile -/
def GoodClientUnaffected (cfg : Cfg) : Prop :=
  ∀ (before : List Op) (g : Nat) (ops : List Op), (∀ op ∈ before, op.c16 = true) →
    Ready ((run (init cfg) before).cli g) → OthersAndCalls g ops →
    answered g ((run (init cfg) before).cli g).table ops (runObs (run (init cfg) before) ops)

/-- (3) distinct connections have distinct service instances and distinct object tables, always -/
def Isolation (cfg : Cfg) : Prop := ∀ ops : List Op, Iso (run (init cfg) ops)

/-- the configurations of the code as it is: how the pool's end-of-stream path treats a reused descriptor number is read
off the live code on every run (`Gen.Srv.poolDropSparesNewcomer`), and so are the accept loop's reaction to a failing
`accept()` and the order in which the pool's `close()` ends streams and joins workers -/
def ofCode (cfg : Cfg) : Prop :=
  cfg.spare = Gen.Srv.poolDropSparesNewcomer ∧ cfg.acceptTough = Gen.Srv.acceptSurvivesTransientError ∧
  cfg.closeUnblocks = Gen.Srv.poolCloseUnblocksWorkers

/-- the property at full strength, for the server kinds of its quantifier -/
def C16_statement : Prop :=
  ∀ cfg : Cfg, ofCode cfg → cfg.kind ≠ .oneshot → (cfg.kind = .pool → 0 < cfg.nb) →
    AcceptSurvives cfg ∧ GoodClientUnaffected cfg ∧ Isolation cfg

/-! ### threaded and forking servers: everything holds -/

/-- (threaded, forking) for every sequence of client actions — hostile bytes, truncated frames,
absurd lengths, stalled or failing authentication, abrupt disconnects — the listener stays open, the accept thread alive
and free, and no connection is left waiting -/
theorem accept_survives (cfg : Cfg) (hk : cfg.kind = .threaded ∨ cfg.kind = .forking) : AcceptSurvives cfg := by
  intro ops hops
  refine accepting_run (accepting_init cfg) ?_ ops hops ?_
  · rcases hk with h | h
    · exact Or.inl h
    · exact Or.inr (Or.inl h)
  · intro op _ k; right
    rcases hk with h | h <;> simp [Srv.init, h]

/-- ... hence a new well-behaved client is served at once, by a service instance of its own -/
theorem new_client_served (cfg : Cfg) (hk : cfg.kind = .threaded ∨ cfg.kind = .forking) (ops : List Op)
    (hops : ∀ op ∈ ops, op.c16 = true) (g : Nat) (hg : ((run (init cfg) ops).cli g).phase = .absent) :
    ∃ t, step (run (init cfg) ops) (.connect g .good) = .ok (t, .ok) ∧ Ready (t.cli g) ∧
      (t.cli g).inst = some (run (init cfg) ops).nextInst := by
  have hne : (run (init cfg) ops).cfg.kind ≠ .oneshot := by
    rw [run_cfg]; rcases hk with h | h <;> simp [Srv.init, h]
  obtain ⟨t, h1, h2, h3, _⟩ := connect_served (accept_survives cfg hk ops hops) hne g hg
  exact ⟨t, h1, h2, h3⟩

/-- (every kind, every history, the server's own close included) no two connections share a service
instance or an entry of their object tables; both are allocated from counters -/
theorem isolation (cfg : Cfg) : Isolation cfg := fun ops => (Iso.init cfg).run ops

/-- (threaded, forking) after any history, whatever the other clients do — each of them
only ever changes its own record (`step_kept`) — every request of a served client, of whatever kind, is answered
as its own history says -/
theorem good_client_unaffected (cfg : Cfg) (hk : cfg.kind = .threaded ∨ cfg.kind = .forking) :
    GoodClientUnaffected cfg := by
  intro before g ops _ hr hops
  have hpool : cfg.kind ≠ .pool := by rcases hk with h | h <;> simp [h]
  exact answered_run g (Or.inl ⟨by rw [run_cfg]; exact hk, run_queue cfg hpool before⟩) (isolation cfg before) hr ops
    (fun hp => absurd (by rw [← hp, run_cfg]; rfl) hpool) hops

/-- ... so an object lent to one client does not resolve on another client's connection: the call fails there -/
theorem foreign_reference_fails (cfg : Cfg) (hk : cfg.kind ≠ .pool) (ops : List Op) (i g oid : Nat) (hne : i ≠ g)
    (ho : oid ∈ ((run (init cfg) ops).cli i).table) (hr : Ready ((run (init cfg) ops).cli g)) :
    ∃ t, step (run (init cfg) ops) (.call g (.probe oid)) = .ok (t, .reply .keyError) := by
  obtain ⟨t, ht, _⟩ := call_answered g (.probe oid) (by rw [run_cfg]; exact hk) hr
  rw [foreign_id_fails (isolation cfg ops) i g oid hne ho] at ht
  exact ⟨t, ht⟩

/-! ### the pool server: what holds, under which hypotheses -/

/-- the accept loop of the pool survives as long as no client stalls its authentication: hostile frames, failing
credentials and abrupt disconnects never occupy or kill the accept thread -/
theorem accept_survives_pool (cfg : Cfg) (hk : cfg.kind = .pool) (ops : List Op) (hops : ∀ op ∈ ops, op.c16 = true)
    (hns : ∀ op ∈ ops, ∀ k, op ≠ .connect k .silent) : Accepting (run (init cfg) ops) := by
  refine accepting_run (accepting_init cfg) ?_ ops hops (fun op hop k => Or.inl (hns op hop k))
  exact Or.inr (Or.inr ⟨hk, fun j => by simp [Srv.init]⟩)

/-- a served client of the pool is unaffected under the hypothesis that fewer than `nbThreads` workers are blocked at
every point of the run (the proof forces it: see `C16_pool_counterexample`): whatever the other clients do, every call
of a served client is answered correctly -/
theorem good_client_unaffected_pool (cfg : Cfg) (hk : cfg.kind = .pool) (hspare : cfg.spare = true) (before : List Op)
    (g : Nat) (ops : List Op)
    (hb : ∀ op ∈ before, op.c16 = true) (hr : Ready ((run (init cfg) before).cli g))
    (hfree : FreeWorkerAlong (run (init cfg) before) ops) (hops : OthersAndCalls g ops) :
    answered g ((run (init cfg) before).cli g).table ops (runObs (run (init cfg) before) ops) := by
  obtain ⟨hup, hq⟩ := run_pool_inv cfg hk before hb
  exact answered_run g (Or.inr ⟨by rw [run_cfg]; exact hk, by rw [run_cfg]; exact hspare, hup, hq⟩) (isolation cfg before)
    hr ops (fun _ => hfree) hops

/-- **a new client of the pool is served** at once, by a service instance of its own, after any history in which nobody
stalled its authentication -/
theorem new_client_served_pool (cfg : Cfg) (hk : cfg.kind = .pool) (ops : List Op)
    (hops : ∀ op ∈ ops, op.c16 = true) (hns : ∀ op ∈ ops, ∀ k, op ≠ .connect k .silent) (g : Nat)
    (hg : ((run (init cfg) ops).cli g).phase = .absent) :
    ∃ t, step (run (init cfg) ops) (.connect g .good) = .ok (t, .ok) ∧ Ready (t.cli g) ∧
      (t.cli g).inst = some (run (init cfg) ops).nextInst := by
  have hne : (run (init cfg) ops).cfg.kind ≠ .oneshot := by rw [run_cfg]; simp [Srv.init, hk]
  obtain ⟨t, h1, h2, h3, _⟩ := connect_served (accept_survives_pool cfg hk ops hops hns) hne g hg
  exact ⟨t, h1, h2, h3⟩

/-- each step of `good_client_unaffected_pool`: a served client's request is answered as soon as one worker is free -/
theorem pool_call_answered (cfg : Cfg) (hk : cfg.kind = .pool) (ops : List Op) (hops : ∀ op ∈ ops, op.c16 = true)
    (g : Nat) (r : ReqKind) (hr : Ready ((run (init cfg) ops).cli g))
    (hfree : (run (init cfg) ops).blocked.length < cfg.nb) :
    ∃ t, step (run (init cfg) ops) (.call g r) =
      .ok (t, .reply (expected ((run (init cfg) ops).cli g) (run (init cfg) ops).nextObj r)) ∧ Ready (t.cli g) := by
  obtain ⟨hup, hq⟩ := run_pool_inv cfg hk ops hops
  have hk' : (run (init cfg) ops).cfg.kind = .pool := by rw [run_cfg]; exact hk
  have hpu : (run (init cfg) ops).poolUp = true := by rw [hup.2.2.2.2]; simp [hk']
  obtain ⟨t, h1, h2, _⟩ := call_answered_pool g r hk' hpu hq (by rw [run_cfg]; exact hfree) hr
  exact ⟨t, h1, h2⟩

/-- **a foreign object id does not resolve on the pool either**: used on another client's connection, as soon as a worker
is free, the call is answered - with a failure -/
theorem foreign_reference_fails_pool (cfg : Cfg) (hk : cfg.kind = .pool) (ops : List Op)
    (hops : ∀ op ∈ ops, op.c16 = true) (i g oid : Nat) (hne : i ≠ g)
    (ho : oid ∈ ((run (init cfg) ops).cli i).table) (hr : Ready ((run (init cfg) ops).cli g))
    (hfree : (run (init cfg) ops).blocked.length < cfg.nb) :
    ∃ t, step (run (init cfg) ops) (.call g (.probe oid)) = .ok (t, .reply .keyError) := by
  obtain ⟨t, ht, _⟩ := pool_call_answered cfg hk ops hops g (.probe oid) hr hfree
  rw [foreign_id_fails (isolation cfg ops) i g oid hne ho] at ht
  exact ⟨t, ht⟩

/-! ### the pool server: the statement fails (findings `C16:pool:>=nbThreads-incomplete-frame-clients`,
`C16:pool:auth-stall-blocks-accept`) -/

def poolCfg : Cfg :=
  { kind := .pool, auth := false, nb := 2, spare := Gen.Srv.poolDropSparesNewcomer,
    acceptTough := Gen.Srv.acceptSurvivesTransientError, closeUnblocks := Gen.Srv.poolCloseUnblocksWorkers }
/-- three clients connect; two of them send the header of a frame announcing 0xFFFFFFFF bytes and nothing else -/
def starve : List Op :=
  [.connect 1 .good, .connect 2 .good, .connect 3 .good,
   Op.ofBytes 1 ⟨fun _ => none, fun _ => true⟩ [255, 255, 255, 255, 0],
   Op.ofBytes 2 ⟨fun _ => none, fun _ => true⟩ [255, 255, 255, 255, 0]]

/-- the witness as a run: both workers are blocked in a read, client 3 is connected and served, and its call is left
unanswered; when one hostile client goes away the queued request is answered and calls work again -/
theorem C16_pool_witness :
    classify ⟨fun _ => none, fun _ => true⟩ [255, 255, 255, 255, 0] = [.part] ∧
    (run (init poolCfg) starve).blocked.length = 2 ∧
    runObs (run (init poolCfg) starve) [.call 3 .ping, .abruptClose 1, .call 3 .ping] =
      [some .timeout, some .none, some (.reply .pong)] := by
  decide

/-- the full statement is false on the pinned code (worker starvation) -/
theorem C16_pool_counterexample : ¬ C16_statement := by
  intro h
  have h2 := (h poolCfg ⟨rfl, rfl, rfl⟩ (by decide) (by decide)).2.1 starve 3 [.call 3 .ping] (by decide)
    (by simp only [Ready]; decide) (by intro op hop; simp at hop; subst hop; exact ⟨rfl, fun _ => ⟨.ping, rfl⟩⟩)
  have hobs : runObs (run (init poolCfg) starve) [.call 3 .ping] = [some .timeout] := by decide
  rw [hobs] at h2
  simp [answered, callOf] at h2

def stallCfg : Cfg :=
  { kind := .pool, auth := true, nb := 2, spare := Gen.Srv.poolDropSparesNewcomer,
    acceptTough := Gen.Srv.acceptSurvivesTransientError, closeUnblocks := Gen.Srv.poolCloseUnblocksWorkers }
/-- a client connects to a pool server with an authenticator and sends nothing -/
def stall : List Op := [.connect 1 .good, .connect 2 .silent]

/-- the witness: the accept thread is occupied by client 2; client 3 connects at socket level, is not served, its call is
left unanswered; when client 2 goes away it is served -/
theorem C16_pool_stall_witness :
    (run (init stallCfg) stall).acceptBusy = some 2 ∧
    runObs (run (init stallCfg) stall) [.call 1 .ping, .connect 3 .good, .call 3 .ping, .abruptClose 2, .call 3 .ping] =
      [some (.reply .pong), some .ok, some .timeout, some .none, some (.reply .pong)] := by
  decide

/-- the full statement is false on the pinned code (accept thread stalled) -/
theorem C16_pool_stall_counterexample : ¬ C16_statement := by
  intro h
  have h1 := ((h stallCfg ⟨rfl, rfl, rfl⟩ (by decide) (by decide)).1 stall (by decide)).free
  revert h1
  decide

/-! ### the pool server and reused descriptor numbers (`C16:pool:fd-reuse-drops-newcomer`, repaired) -/

/-- **the obligation the pool theorems rest on**: the code's end-of-stream path removes only the connection it was
serving.  It is a measured fact of the live code (`harness/gen_server.py` runs the real `_serve_requests` on stand-in
connections); on a tree where `_drop_connection(fd)` pops whatever `fd_to_conn` holds under that number, this fails -/
theorem pool_drop_spares_newcomer : Gen.Srv.poolDropSparesNewcomer = true := by decide

/-- with it, the blocking `on_disconnect` of a departing client changes nothing for anybody else, whoever connected in the
meantime and whatever descriptor number they were given: only that client's own record changes -/
theorem release_touches_only_its_own (s t : St) (o : Obs) (k g : Nat) (hk : s.cfg.kind = .pool)
    (hs : s.cfg.spare = true) (hst : step s (.releaseHook k) = .ok (t, o)) (hg : g ≠ k)
    (hb : (s.cli g).phase ≠ .backlog) (hq : g ∉ s.queue) : Same (s.cli g) (t.cli g) :=
  (step_kept rfl hst (fun h => hg (Option.some.inj h).symm) hb (by simp [hk]) (fun _ => hs) hq nofun).1

/-- the interleaving: client 1 arms its service's `on_disconnect` to block and goes away; a worker closes its connection
(descriptor number free) and sits in the hook; client 3 connects and is given that number; the hook returns -/
def reuse : List Op :=
  [.connect 1 .good, .call 1 .arm, .connect 2 .good, .abruptClose 1, .connectReuse 3 1, .call 3 .ping, .releaseHook 1]

/-- repaired code: the newcomer is served before and after the release, nothing remains of client 1 -/
theorem reuse_ok :
    runObs (run (init { kind := .pool, auth := false, nb := 2, spare := true }) reuse) [.call 3 .ping, .call 2 .ping] =
      [some (.reply .pong), some (.reply .pong)] ∧
    ((run (init { kind := .pool, auth := false, nb := 2, spare := true }) reuse).cli 1).inFd = false ∧
    ((run (init { kind := .pool, auth := false, nb := 2, spare := true }) reuse).cli 3).inFd = true := by decide

/-- runs with reused descriptor numbers and blocking hooks are runs of the alphabet: the run-level theorems cover them -/
example : ∀ op ∈ reuse, op.c16 = true := by decide
example : Accepting (run (init { kind := .pool, auth := false, nb := 2 }) reuse) :=
  accept_survives_pool _ rfl reuse (by decide) (by intro op hop k h; subst h; simp [reuse] at hop)
/-- client 2, served all along, is answered whatever kind of request it makes while client 1 leaves through its blocking
hook and client 3 arrives on the reused number (`good_client_unaffected_pool` applies: its hypotheses hold) -/
example : Ready ((run (init { kind := .pool, auth := false, nb := 3 }) (reuse.take 3)).cli 2) ∧
    FreeWorkerAlong (run (init { kind := .pool, auth := false, nb := 3 }) (reuse.take 3))
      [.abruptClose 1, .call 2 .lend, .connectReuse 3 1, .call 2 (.probe 0), .releaseHook 1, .call 2 .ping] ∧
    runObs (run (init { kind := .pool, auth := false, nb := 3 }) (reuse.take 3))
      [.abruptClose 1, .call 2 .lend, .connectReuse 3 1, .call 2 (.probe 0), .releaseHook 1, .call 2 .ping] =
      [some .none, some (.reply (.ref 0)), some .ok, some (.reply .resolved), some .none, some (.reply .pong)] :=
  ⟨by simp only [Ready]; decide, FreeWorkerAlong.of_bool _ _ (by decide), by decide⟩

/-- with the pinned `_drop_connection(fd)` (remove whatever is stored under the number)
the worker coming out of client 1's hook closes client 3's connection: its disconnect hook runs, it gets end-of-stream -/
theorem C16_pool_fd_reuse_counterexample :
    runObs (run (init { kind := .pool, auth := false, nb := 2, spare := false }) reuse) [.call 3 .ping, .call 2 .ping] =
      [some .eof, some (.reply .pong)] ∧
    ((run (init { kind := .pool, auth := false, nb := 2, spare := false }) reuse).cli 3).discHooks = 1 := by decide

/-! ### errors from `accept()` (`C16:accept-error-closes-server`, repaired) -/

/-- **the obligation**: the code's accept loop survives an error from `accept()` that is neither EINTR / EAGAIN nor the
listener being gone - measured on the live `Server.accept` on every run (`harness/gen_server.py`: a listener stand-in that
fails once with EMFILE, once with ECONNABORTED); on a tree that turns such an error into EOFError this fails -/
theorem accept_survives_transient_errors : Gen.Srv.acceptSurvivesTransientError = true := by decide

/-- with it, after any history of client actions an error from `accept()` - the process out of descriptors because a client
opened connections up to the limit, a connection aborted while it was being set up - changes nothing at all: same server,
same accept loop, same clients (threaded and forking servers; `run_ignores_accept_faults`: hence every run-level theorem
holds for runs with such errors interleaved anywhere) -/
theorem accept_fault_changes_nothing (cfg : Cfg) (hk : cfg.kind = .threaded ∨ cfg.kind = .forking)
    (ht : cfg.acceptTough = true) (ops : List Op) (hops : ∀ op ∈ ops, op.c16 = true) :
    step (run (init cfg) ops) .acceptFault = .ok (run (init cfg) ops, .none) :=
  accept_fault_harmless _ (by rw [run_cfg]; exact ht) (accept_survives cfg hk ops hops).canAccept

/-- the two together, for the configurations of the code as it is (`ofCode`): the hypothesis `acceptTough = true` is the
measured obligation -/
theorem code_accept_fault_changes_nothing (cfg : Cfg) (hc : ofCode cfg) (hk : cfg.kind = .threaded ∨ cfg.kind = .forking)
    (ops : List Op) (hops : ∀ op ∈ ops, op.c16 = true) :
    step (run (init cfg) ops) .acceptFault = .ok (run (init cfg) ops, .none) :=
  accept_fault_changes_nothing cfg hk (hc.2.1.trans accept_survives_transient_errors) ops hops

/-- ... and for whole runs: a run of the code with such errors interleaved anywhere is the run without them, so every
run-level theorem of this file extends to alphabets with `acceptFault` -/
theorem code_run_ignores_accept_faults (cfg : Cfg) (hc : ofCode cfg) (ops : List Op) :
    run (init cfg) ops = run (init cfg) (ops.filter (fun op => !op.isFault)) :=
  run_ignores_accept_faults (init cfg) (hc.2.1.trans accept_survives_transient_errors) ops

/-- the same for the pool, as long as nobody stalls its authentication (then the accept thread is not in `accept()`) -/
theorem accept_fault_changes_nothing_pool (cfg : Cfg) (hk : cfg.kind = .pool) (ht : cfg.acceptTough = true)
    (ops : List Op) (hops : ∀ op ∈ ops, op.c16 = true) (hns : ∀ op ∈ ops, ∀ k, op ≠ .connect k .silent) :
    step (run (init cfg) ops) .acceptFault = .ok (run (init cfg) ops, .none) :=
  accept_fault_harmless _ (by rw [run_cfg]; exact ht) (accept_survives_pool cfg hk ops hops hns).canAccept

/-- the code that takes the error for the end of the server (`acceptTough := false`)
closes itself - listener gone, the well-behaved client that was being served gets end-of-stream; the repaired code goes
on serving it -/
theorem C16_accept_fault_counterexample :
    runObs (init { kind := .threaded, auth := false, nb := 1, acceptTough := false })
      [.connect 1 .good, .call 1 .ping, .acceptFault, .call 1 .ping, .connect 2 .good] =
      [some .ok, some (.reply .pong), some .none, some .eof, some .refused] ∧
    runObs (init { kind := .threaded, auth := false, nb := 1, acceptTough := true })
      [.connect 1 .good, .call 1 .ping, .acceptFault, .call 1 .ping, .connect 2 .good] =
      [some .ok, some (.reply .pong), some .none, some (.reply .pong), some .ok] := by decide

/-! ### no thread / child process for a new client (`C16:spawn-failure-closes-server`, repaired) -/

/-- **the obligation**: when `_accept_method` cannot start a thread / child for a new client (`spawn()`: RuntimeError,
`os.fork()`: OSError) the code's `Server.accept` comes back normally with that client's socket closed and forgotten -
measured on the live function on every run; on a tree where the exception leaves `accept()` (and `start()` closes the
server) this fails -/
theorem spawn_failure_turns_client_away : Gen.Srv.spawnFailureTurnsClientAway = true := by decide

/-- with it: after any history of client actions (threaded, forking) a client for which no thread / child can be started
is accepted and turned away - it is given end-of-stream, nothing is created for it, nothing of it remains -, every other
client's record is exactly as before, the accept loop is as alive and free as before, and the next client is served -/
theorem spawn_failure_turns_one_client_away (cfg : Cfg) (hk : cfg.kind = .threaded ∨ cfg.kind = .forking)
    (ops : List Op) (hops : ∀ op ∈ ops, op.c16 = true) (k : Nat) (hg : ((run (init cfg) ops).cli k).phase = .absent) :
    ∃ t, step (run (init cfg) ops) (.connectNoSpawn k) = .ok (t, .ok) ∧
      (t.cli k).shut = true ∧ (t.cli k).inst = none ∧
      ((t.cli k).tracked = false ∧ (t.cli k).srvFd = false ∧ (t.cli k).child = false ∧ (t.cli k).connOpen = false ∧
        (t.cli k).inFd = false ∧ (t.cli k).polled = false ∧ t.queue = (run (init cfg) ops).queue ∧
        t.blocked = (run (init cfg) ops).blocked) ∧
      (∀ j, j ≠ k → t.cli j = (run (init cfg) ops).cli j) ∧ Accepting t ∧
      ∀ g, g ≠ k → ((run (init cfg) ops).cli g).phase = .absent →
        ∃ u, step t (.connect g .good) = .ok (u, .ok) ∧ Ready (u.cli g) := by
  have hacc := accept_survives cfg hk (ops := ops) hops
  have hkind : (run (init cfg) ops).cfg.kind = .threaded ∨ (run (init cfg) ops).cfg.kind = .forking := by
    rw [run_cfg]; exact hk
  have hne := fun j (hj : j ≠ k) => rejectNew_cli_ne (run (init cfg) ops) hj
  have hacc' := hacc.rejectNew k
  refine ⟨rejectNew (run (init cfg) ops) k, ?_, ?_⟩
  · exact step_connectNoSpawn hg hkind hacc.canAccept
  · rw [rejectNew_cli_self]
    refine ⟨rfl, rfl, ⟨rfl, rfl, rfl, rfl, rfl, rfl, rfl, rfl⟩, hne, hacc', fun g hgk hga => ?_⟩
    have hne' : (rejectNew (run (init cfg) ops) k).cfg.kind ≠ .oneshot := by
      rcases hkind with h | h <;> simp [h]
    obtain ⟨u, h1, h2, _⟩ := connect_served hacc' hne' g (by rw [hne g hgk]; exact hga)
    exact ⟨u, h1, h2⟩

/-! ### exception replies naming SystemExit & co. (`C16:pool:peer-named-baseexception-kills-workers`, repaired) -/

/-- **the obligation**: a BaseException the peer names (an exception reply naming builtins.SystemExit / KeyboardInterrupt /
GeneratorExit, rebuilt by vinegar and raised where the server waited for that reply) costs the pool neither a worker - the
live `_serve_clients` survives it and serves the connection again - nor its accept loop; a local `sys.exit` still
propagates.  Measured on the live functions on every run.  The automaton has no dying workers: such a frame is a frame
that raises out of `serve()` (`Item.bad`: on the pool the connection stays, elsewhere it ends), which is what the repaired
code does; on a tree where this obligation fails the run theorems for the pool say nothing about the code -/
theorem pool_survives_peer_base_exception : Gen.Srv.poolSurvivesPeerBaseException = true := by decide

/-- everything the property says: in full for the threaded and forking servers; isolation for every kind; for the pool
under the two hypotheses the counterexamples show to be necessary -/
theorem C16_partial (cfg : Cfg) :
    ((cfg.kind = .threaded ∨ cfg.kind = .forking) → AcceptSurvives cfg ∧ GoodClientUnaffected cfg) ∧
    Isolation cfg ∧
    (cfg.kind = .pool → cfg.spare = true →
      (∀ ops : List Op, (∀ op ∈ ops, op.c16 = true) → (∀ op ∈ ops, ∀ k, op ≠ .connect k .silent) →
        Accepting (run (init cfg) ops)) ∧
      (∀ (before : List Op) (g : Nat) (ops : List Op), (∀ op ∈ before, op.c16 = true) →
        Ready ((run (init cfg) before).cli g) → FreeWorkerAlong (run (init cfg) before) ops → OthersAndCalls g ops →
        answered g ((run (init cfg) before).cli g).table ops (runObs (run (init cfg) before) ops))) :=
  ⟨fun hk => ⟨accept_survives cfg hk, good_client_unaffected cfg hk⟩, isolation cfg,
   fun hk hs => ⟨accept_survives_pool cfg hk, good_client_unaffected_pool cfg hk hs⟩⟩

/-! ### non-vacuity: concrete hostile histories meet the hypotheses and reach non-trivial states -/

def hostileEnv : Env := ⟨fun _ => none, fun _ => true⟩

/-- a threaded server behind an authenticator: a good client, garbage, a truncated frame held open, a failed and a
stalled authentication, an abrupt disconnect in the middle of a frame, a second good client -/
def hostile : List Op :=
  [.connect 1 .good, .call 1 .lend,
   .connect 2 .good, .raw 2 [.bad],                                     -- a complete frame with an undecodable payload
   .connect 3 .good, Op.ofBytes 3 hostileEnv [0, 0, 0, 9, 0, 1, 2],     -- truncated frame
   .connect 4 .bad, .connect 5 .silent,
   .connect 6 .good, Op.ofBytes 6 hostileEnv [0, 0, 1], .abruptClose 6, -- gone inside a header
   .connect 7 .good, .call 7 .lend]

def threadedCfg : Cfg := { kind := .threaded, auth := true, nb := 1 }

example : ∀ op ∈ hostile, op.c16 = true := by decide
/-- the frames the model makes of bytes: incomplete; incomplete; an absurd length field; nothing -/
example : classify hostileEnv [0, 0, 0, 9, 0, 1, 2] = [.part] ∧ classify hostileEnv [0, 0, 1] = [.part] ∧
    classify hostileEnv [255, 255, 255, 255, 0, 1, 2, 3] = [.part] ∧ classify hostileEnv [] = [] := by decide
/-- a complete frame of corrupt compressed data raises out of `serve` (`zlib.error` in `Channel.recv`) -/
example : classify hostileEnv [0, 0, 0, 3, 1, 120, 1, 2, 10] = [.bad] := by
  simp [classify, splitFrames, classifyFrame, hostileEnv, unbe, Gen.frameHeaderSize, Gen.frameLenWidth, Gen.flusher]
/-- after all that: accept loop alive and free -/
example : Accepting (run (init threadedCfg) hostile) := accept_survives threadedCfg (Or.inl rfl) hostile (by decide)
/-- clients 1 and 7 served by different instances with different objects, client 2 closed by the server with its hook run,
client 3's reader blocked, client 5 still authenticating -/
example : ((run (init threadedCfg) hostile).cli 1).inst = some 0 ∧ ((run (init threadedCfg) hostile).cli 7).inst = some 4 ∧
    ((run (init threadedCfg) hostile).cli 1).table = [0] ∧ ((run (init threadedCfg) hostile).cli 7).table = [1] ∧
    ((run (init threadedCfg) hostile).cli 2).shut = true ∧ ((run (init threadedCfg) hostile).cli 2).discHooks = 1 ∧
    ((run (init threadedCfg) hostile).cli 3).phase = .blocked ∧ ((run (init threadedCfg) hostile).cli 5).phase = .authing := by
  decide
example : Ready ((run (init threadedCfg) hostile).cli 1) := by simp only [Ready]; decide
/-- client 1 calls while the others go on misbehaving: both calls answered -/
example : runObs (run (init threadedCfg) hostile)
      [.call 1 .ping, Op.ofBytes 7 hostileEnv [9, 9, 9, 9, 9, 9], .abruptClose 5, .call 1 .ping, .call 1 (.probe 1)] =
    [some (.reply .pong), some .none, some .none, some (.reply .pong), some (.reply .keyError)] := by decide
/-- ... and requests of every kind, while the others go on: client 1 is lent object 2, uses it (resolves), uses client 7's
object 1 (fails), releases its own, uses it again (fails).  The run meets `OthersAndCalls`, and what `answered` says of it -/
def goodOps : List Op :=
  [.call 1 .lend, Op.ofBytes 7 hostileEnv [9, 9, 9, 9, 9, 9], .call 1 (.probe 2), .abruptClose 5, .call 1 (.probe 1),
   .call 1 (.drop 2), .call 1 (.probe 2)]
example : OthersAndCalls 1 goodOps := by
  intro op hop
  simp only [goodOps, List.mem_cons, List.not_mem_nil, or_false] at hop
  rcases hop with rfl | rfl | rfl | rfl | rfl | rfl | rfl <;> refine ⟨by decide, ?_⟩ <;>
    first
      | exact fun _ => ⟨_, rfl⟩
      | (intro h; exact absurd h (by decide))
example : runObs (run (init threadedCfg) hostile) goodOps =
    [some (.reply (.ref 2)), some .none, some (.reply .resolved), some .none, some (.reply .keyError),
     some (.reply .done), some (.reply .keyError)] := by decide
example : answered 1 ((run (init threadedCfg) hostile).cli 1).table goodOps (runObs (run (init threadedCfg) hostile) goodOps) :=
  good_client_unaffected threadedCfg (Or.inl rfl) hostile 1 goodOps (by decide) (by simp only [Ready]; decide)
    (by
      intro op hop
      simp only [goodOps, List.mem_cons, List.not_mem_nil, or_false] at hop
      rcases hop with rfl | rfl | rfl | rfl | rfl | rfl | rfl <;> refine ⟨by decide, ?_⟩ <;>
        first
          | exact fun _ => ⟨_, rfl⟩
          | (intro h; exact absurd h (by decide)))
/-- the pool hypotheses are satisfiable: one blocked worker out of two, client 3 served and ready — and its call is
answered (`pool_call_answered`) -/
example : (run (init poolCfg) (starve.take 4)).blocked.length = 1 ∧ poolCfg.nb = 2 := by decide
example : Ready ((run (init poolCfg) (starve.take 4)).cli 3) := by simp only [Ready]; decide
example : runObs (run (init poolCfg) (starve.take 4)) [.call 3 .ping] = [some (.reply .pong)] := by decide
/-- ... along a whole run with a worker blocked throughout: client 3 is lent an object and uses it while client 2 sends an
undecodable frame and leaves (`FreeWorkerAlong` for a non-empty run) -/
example : FreeWorkerAlong (run (init poolCfg) (starve.take 4))
    [.call 3 .lend, .raw 2 [.bad], .call 3 (.probe 0), .abruptClose 2, .call 3 .ping] :=
  FreeWorkerAlong.of_bool _ _ (by decide)
example : runObs (run (init poolCfg) (starve.take 4))
    [.call 3 .lend, .raw 2 [.bad], .call 3 (.probe 0), .abruptClose 2, .call 3 .ping] =
    [some (.reply (.ref 0)), some .none, some (.reply .resolved), some .none, some (.reply .pong)] := by decide

end Rpyc.Props.C16

