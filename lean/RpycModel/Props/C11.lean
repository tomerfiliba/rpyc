import RpycModel.Proto.LifePairLemmas
/-
C11 — every way a connection can end leaves both sides clean, once, nobody hanging.

The automaton is `Rpyc.Proto.Life` (`RpycModel/Proto/Life.lean`): one side of a connection, its flags
(`_closed`, the channel, the hook counter, whether `_cleanup` has completed, whether the tables are cleared)
and its requests (pending, blocked in a wait loop, resolved).  Both sides of a connection are two instances
of it.  Everything below holds after every finite sequence of its events, in any order: local close (also
from inside a callback, also with a `before_closed` hook that serves the connection, raises, or meets EOF),
close received from the peer, both, EOF or an I/O error while receiving (header or body) or while sending a
request or a reply, `serve_all` ending, requests issued and waited for before, during and after.

"Reports closed" is taken at API-call boundaries: `closed ∧ ¬inClose`.  Inside `close()` the flag is set
before the hook runs (`closed ∧ inClose ∧ hookRuns = 0` is reachable: `in_close_window`); a second thread or
the `before_closed` callback can observe that window — it is named in the evidence and not claimed away.
Two threads racing `close()` against a received close are covered as the orders of the events.
-/
namespace Rpyc.Props.C11
open Rpyc.Proto.Life

/-! ### the obligations on the code (facts measured on the live classes by the constants generator, `Gen.Proto.*`) -/

/-- a request made from inside the delivery of a response that meets the end closes the connection -/
theorem obligation_dispatch_closes_on_eof : Gen.Proto.dispatchClosesOnEof = true := dispatch_closes_on_eof
/-- boxing by reference on a closed channel raises EOFError and registers nothing -/
theorem obligation_box_refuses_on_closed_channel : Gen.Proto.boxRefusesOnClosedChannel = true := box_refuses_on_closed_channel
/-- `_cleanup` completes every request still waiting for its answer with EOFError (ready, an error, callbacks run) -/
theorem obligation_cleanup_fails_pending : Gen.Proto.cleanupFailsPending = true := cleanup_fails_pending
/-- a second `_cleanup` on the same connection returns quietly -/
theorem obligation_cleanup_idempotent : Gen.Proto.cleanupIdempotent = true := cleanup_idempotent
/-- when the stream's own close() raises (alone, with a raising disconnect hook, under close() with a raising
`before_closed`), the hook still runs exactly once and all three tables are released -/
theorem obligation_cleanup_survives_channel_close_error : Gen.Proto.cleanupSurvivesChannelCloseError = true :=
  cleanup_survives_channel_close_error

/-- The disconnect hook never runs twice. -/
theorem hook_at_most_once {l : Life} (h : Reach l) : l.hookRuns ≤ 1 := by
  have := h.inv.flags.hook
  split at this <;> omega

/-- By the time a side reports closed (outside a `close()` call in progress)
its disconnect hook has run exactly once. -/
theorem closed_implies_hook_once {l : Life} (h : Reach l) (hc : l.closed = true) (hi : l.inClose = false) :
    l.hookRuns = 1 :=
  (h.inv.flags.clean hc hi).hookOnce

/-- A side that reports closed has released what it held for the peer
(`_local_objects`, `_proxy_cache`, `_request_callbacks` cleared and nothing added since) and its channel is
closed — and this stays so whatever happens afterwards, since it holds in every reachable state. -/
theorem tables_cleared_on_close {l : Life} (h : Reach l) (hc : l.closed = true) (hi : l.inClose = false) :
    l.tablesCleared = true ∧ l.chanClosed = true :=
  have c := h.inv.flags.clean hc hi
  ⟨c.tables, c.channel⟩

/-- `close()` on a closed side changes nothing: no second hook run, no exception, no
state change at all.  (Definitional: it restates the first line of `close()` — `if self._closed: return` — as the
automaton has it; what ties that line to the code is the correspondence, where every run closes twice.) -/
theorem close_idempotent (l : Life) (hc : l.closed = true) : step l .closeAgain = some l := by
  simp [step, hc]

/-- `close()` never raises AttributeError: whatever happened while it was under way (the peer's close served inside
`before_closed`, so that `_cleanup` runs a second time in the `finally`), what a `close()` call raises is only a user
hook's own exception or the stream's own close() error.  (Obligation `cleanup_idempotent`, measured on the code.) -/
theorem close_never_raises_attribute_error {l l' : Life} {r : TryRes} (h : step l (.closeEnd r) = some l') :
    ∃ x : Option CloseExc, l'.closeRaised = l.closeRaised ++ x.toList ∧ x ≠ some .attributeError := by
  cases step_iff.mp h
  exact ⟨(finishClose r l).2, congrArg (· ++ _) (finishClose_closeRaised r l), finishClose_no_attribute_error r l⟩

theorem clean_of_closed {l : Life} (h : Reach l) (hc : l.closed = true) (hi : l.inClose = false) : Clean l :=
  h.inv.flags.clean hc hi

/-- **local close.** `close()` is always possible; once its `try:` suite is over — however it ended: the
HANDLE_CLOSE written, EOFError, a raising `before_closed` hook — the side is cleanly closed.  (Whether the
call then raises the hook's exception is `close_catchall`'s business; the side is clean either way.) -/
theorem local_close_leads_to_closed {l : Life} (h : Reach l) :
    ∃ l1, step l .closeBegin = some l1 ∧ l1.closed = true ∧
      ∀ r l2, step l1 (.closeEnd r) = some l2 → Clean l2 := by
  cases hc : l.closed
  · exact ⟨_, step_iff.mpr (.closeBegin hc), rfl, fun r l2 hs =>
      closeEnd_clean (h.inv.flags.closeBegin hc) (step_iff.mp hs)⟩
  · exact ⟨l, close_idempotent l hc, hc, fun r l2 hs => closeEnd_clean h.inv.flags (step_iff.mp hs)⟩

/-- **close by the peer.** Receiving the peer's HANDLE_CLOSE leaves the side closed with the hook run once
and the tables cleared, and releases every blocked waiter with EOFError. -/
theorem recv_close_leads_to_closed {l l' : Life} (h : Reach l) (hs : step l .recvClose = some l') :
    l'.closed = true ∧ l'.hookRuns = 1 ∧ l'.tablesCleared = true ∧ l'.chanClosed = true
    ∧ (l.inClose = false → Clean l') ∧ Released .eof l l' := by
  cases step_iff.mp hs
  obtain ⟨-, hcl, hch, ht, hh, hin⟩ := cleanup_flags h.inv.flags
  exact ⟨hcl, hh, ht, hch, fun hi => Flags.clean (h.inv.flags.cleanup.congr rfl) hcl (hin.trans hi),
    recvClose_released l⟩

/-- **EOF or an I/O error while receiving**, at any byte of the packet: always possible, and the side
becomes closed — cleanly closed unless it happens inside a `close()` call already in progress, whose
`finally` then cleans up (`local_close_leads_to_closed`); every blocked waiter is released. -/
theorem eof_in_serve_leads_to_closed {l : Life} (h : Reach l) (r : TryRes) :
    ∃ l', step l (.eofInServe r) = some l' ∧ l'.closed = true ∧ l'.chanClosed = true
      ∧ (l.inClose = false → Clean l') ∧ l'.blocked = [] :=
  ⟨_, rfl, endServe_closes r h.inv.flags.chanClosed rfl⟩

/-- **failure while the response to a request is being written** (the case repaired in F8): always
possible, and the side becomes closed, cleanly unless inside a `close()` call in progress; every blocked
waiter is released.  The result, boxed by reference or not, leaves nothing in the tables. -/
theorem fail_send_reply_leads_to_closed {l : Life} (h : Reach l) (ref : Bool) (r : TryRes) :
    ∃ l', step l (.failSendReply ref r) = some l' ∧ l'.closed = true ∧ l'.chanClosed = true
      ∧ (l.inClose = false → Clean l') ∧ l'.blocked = [] :=
  ⟨_, rfl, endServe_closes r (h.inv.flags.boxed _ ref id).chanClosed rfl⟩

/-- **`serve_all` ending**, for whatever reason: its `finally` leaves the side closed. -/
theorem serve_all_exit_leads_to_closed {l : Life} (h : Reach l) (r : TryRes) :
    ∃ l', step l (.serveAllExit r) = some l' ∧ l'.closed = true ∧ (l.inClose = false → Clean l') := by
  have c := closeCall_flags r l h.inv.flags
  exact ⟨_, rfl, c.2.1, fun hi => c.1.clean c.2.1 (c.2.2.trans hi)⟩

/-- **failure of a request made while a response is being delivered** (`_unbox` inspecting the class of a first
reference, a result callback issuing a request): the end is met while serving — always possible, the side becomes
closed (cleanly unless inside a `close()` call in progress), every blocked waiter is released.  (Obligation
`dispatch_closes_on_eof`, measured on the code: before the repair only the MSG_REQUEST branch of `_dispatch` closed.) -/
theorem fail_send_nested_leads_to_closed {l : Life} (h : Reach l) (s : Nat) (r : TryRes) (hs : s ∉ l.issued) :
    ∃ l', step l (.failSendNested s r) = some l' ∧ l'.closed = true ∧ l'.chanClosed = true
      ∧ (l.inClose = false → Clean l') ∧ l'.blocked = [] ∧ (s, Res.eof) ∈ l'.outcomes := by
  obtain ⟨h1, h2, h3, h4⟩ := endServe_closes r
    (l := { l with issued := l.issued ++ [s], chanClosed := true, outcomes := l.outcomes ++ [(s, .eof)] })
    (h.inv.flags.chanClosed.congr rfl) rfl
  refine ⟨_, step_iff.mpr (.failSendNested r hs), h1, h2, h3, h4, ?_⟩
  rw [endServe_outcomes]
  exact List.mem_append_left _ (List.mem_append_right _ List.mem_cons_self)

/-- a failure while a top-level request is being written (the application calling `async_request`, not inside `serve()`)
is not met while serving: the requester gets EOFError, the channel is dead, and the code does not close the side (its
next `serve()` or `close()` does).  (A concrete run, by evaluation.) -/
example : ∃ l, run Life.init [.issue 0 false, .failSendRequest 1] = some l ∧ l.closed = false ∧ l.chanClosed = true
      ∧ l.outcomes = [(1, .eof)] ∧ l.pending = [0] :=
  ⟨_, rfl, rfl, rfl, rfl, rfl⟩

/-- **no_hang (values).** Whatever a requester was given as a value is a response received from the peer
for that very request. -/
theorem no_unsent_value {l : Life} (h : Reach l) (s v : Nat) (hm : (s, Res.value v) ∈ l.outcomes) :
    (s, v) ∈ l.fromPeer := h.inv.vals s v hm

/-- **no_hang (the end reaches everybody who is blocked).** The three ways an end is met while serving —
the peer's close, EOF / I/O error while receiving, failure while replying — release every blocked waiter,
innermost to outermost, with EOFError (or with what `close()` raised in its place: a raising
`before_closed` hook with `close_catchall` off); none of them is given a value. -/
theorem blocked_are_released {l l' : Life} (e : Ev) (hs : step l e = some l')
    (he : e = .recvClose ∨ (∃ r, e = .eofInServe r) ∨ (∃ ref r, e = .failSendReply ref r)) :
    ∃ res, res.isValue = false ∧ Released res l l' := by
  rcases he with rfl | ⟨r, rfl⟩ | ⟨ref, r, rfl⟩ <;> cases step_iff.mp hs
  · exact ⟨.eof, rfl, recvClose_released l⟩
  · exact ⟨_, excRes_isValue _, endServe_released r _⟩
  · exact ⟨_, excRes_isValue _, endServe_released r _⟩

/-- **no_hang (after the end, safety part).** Once the channel is closed — in particular once the side reports
closed — no event gives anybody a value, nobody newly becomes blocked, and the channel stays closed.  (That the
waiters who are blocked get released is `blocked_are_released` for the event that ends the side and
`blocked_waiter_next_serve_releases` / `other_side_is_reached` for the steps that lead there.) -/
theorem after_end {l l' : Life} (h : Reach l) (hc : l.chanClosed = true) (e : Ev) (hs : step l e = some l') :
    NoNewValues l l' ∧ l'.blocked.length ≤ l.blocked.length ∧ l'.chanClosed = true := by
  have hs := step_iff.mp hs
  refine ⟨hs.nnv.resolve_left ?_, hs.no_new_block hc, hs.chanClosed hc⟩
  -- a response is received only on an open channel
  rintro ⟨s, v, rfl⟩
  cases hs with
  | reply _ hch => rw [hc] at hch; cases hch

/-- **no_hang (progress on one side).** A side whose channel is closed (by whatever: a failed request send, a close
inside a callback) and that still has blocked waiters: their next `serve()` — which meets the closed stream — is
always possible, closes the side and releases every one of them without a value.  (The hypothesis `_hc` is not used by
the proof: `eofInServe` is enabled in every state of the automaton, so "progress" here means "the step is enabled and
leads there"; `_hc` records when the code takes that step — a `serve()` on a closed channel meets EOFError.  That the
blocked thread's `poll()` actually returns is the channel law assumed for the pair, not proved: see the
finding `C11:pipe-local-close-does-not-wake-other-thread`.) -/
theorem blocked_waiter_next_serve_releases {l : Life} (h : Reach l) (_hc : l.chanClosed = true) (r : TryRes) :
    ∃ l' res, step l (.eofInServe r) = some l' ∧ l'.closed = true ∧ l'.blocked = [] ∧ res.isValue = false
      ∧ Released res l l' := by
  obtain ⟨l', hs, hcl, _, _, hb⟩ := eof_in_serve_leads_to_closed h r
  obtain ⟨res, hv, hrel⟩ := blocked_are_released (.eofInServe r) hs (Or.inr (Or.inl ⟨r, rfl⟩))
  exact ⟨l', res, hs, hcl, hb, hv, hrel⟩

/-- **no_hang (pending results: `ready` / `error` / callbacks).** On a side that reports closed (outside a `close()`
call) every result is ready: the requests already resolved, and every request still waiting for its answer - `_cleanup`
completed it with EOFError (obligation `cleanup_fails_pending`, measured), so `ar.ready` is True, `ar.error` is True, its
`add_callback` functions have run, and `while not ar.ready:` ends.  (Own timeout not passed: an expired result stays
"expired" by AsyncResult's own rule.) -/
theorem pending_results_ready_after_end {l : Life} (h : Reach l) (hc : l.closed = true) (hi : l.inClose = false)
    (s : Nat) : resultReady l s = true := by
  have hcl : l.cleaned = true := h.inv.flags.done hc hi
  simp [resultReady, resultReadyWith, completedByEndWith, hcl, cleanup_fails_pending]

/-- the other behaviour (the code before the repair, `fails = false`): a request pending at a local close is never ready -
the state in which `while not ar.ready:` spins for ever -/
theorem unrepaired_pending_never_ready :
    ∃ l, run Life.init [.issue 0 false, .closeBegin, .closeEnd .sent] = some l ∧ l.closed = true ∧ l.inClose = false
      ∧ resultReadyWith false l 0 = false := by
  refine ⟨_, rfl, ?_, ?_, ?_⟩ <;> decide

/-- **no_hang (pending requests).** After the end, waiting for a request that was pending returns at once:
with EOFError, or its own timeout if that has passed, (or the raising hook's exception) — never a value,
never blocking. -/
theorem pending_fails_after_end {l : Life} (hc : l.chanClosed = true) (s : Nat) (expired : Bool) (r : TryRes)
    (hp : s ∈ l.pending) (hb : s ∉ l.blocked) :
    ∃ l' res, step l (.wait s expired r) = some l' ∧ res.isValue = false ∧ (s, res) ∈ l'.outcomes
      ∧ s ∉ l'.pending ∧ l'.blocked.length ≤ l.blocked.length := by
  cases expired with
  | true => exact ⟨_, .timeout, step_iff.mpr (.waitExpired r hp hb), rfl, resolveOne_resolves s _ l⟩
  | false =>
    have h := resolveOne_resolves s (excRes (closeCall r l).2) (closeCall r l).1
    rw [(closeCall_reqs r l).blocked] at h
    exact ⟨_, _, step_iff.mpr (.waitClosed r hp hb hc), excRes_isValue _, h⟩

/-- **no_hang (requests issued afterwards).** After the end every new request fails with EOFError at once:
it is never pending, never blocks, and — arguments boxed by reference or not — leaves the tables cleared. -/
theorem issued_afterwards_fails {l : Life} (hc : l.chanClosed = true) (s : Nat) (refArg : Bool)
    (hn : s ∉ l.issued) :
    ∃ l', step l (.issue s refArg) = some l' ∧ (s, Res.eof) ∈ l'.outcomes ∧ l'.pending = l.pending
      ∧ l'.blocked = l.blocked ∧ l'.tablesCleared = l.tablesCleared ∧ l'.closed = l.closed := by
  refine ⟨_, step_iff.mpr (.issueClosed refArg hn hc), List.mem_append_right _ List.mem_cons_self, rfl, rfl, ?_, rfl⟩
  show (l.tablesCleared && !boxRegisters true refArg) = l.tablesCleared
  rw [boxRegisters_closed, Bool.not_false, Bool.and_true]

/-! ### both sides: two automata joined by the channel (`Proto/LifePair.lean`) -/

/-- **the other side is reached.** In every reachable state of the pair: once a side's stream is closed — in particular
once it reports closed, however that came about — its peer cannot keep waiting: each `serve()` of the peer is enabled
(it reads a frame still in flight, e.g. the HANDLE_CLOSE, or end-of-stream), and after at most (frames in flight + 1)
of them the peer is closed too.  With the one-sided theorems: clean, hook once, every blocked waiter released. -/
theorem other_side_is_reached {p : Pair} (h : PReach p) (x : PSide) (r : TryRes)
    (hpeer : (p.get x.peer).chanClosed = true) :
    (∃ p', serveOnce x r p = some p')
    ∧ ((serveUntilClosed x r ((p.to x).length + 1) p).get x).closed = true :=
  ⟨serveOnce_enabled p x r h.inv hpeer, serveUntilClosed_closes x r _ p h.inv hpeer (Nat.lt_succ_self _)⟩

/-- a side that reports closed has a closed stream, so the above applies to its peer -/
theorem closed_side_ends_its_peer {p : Pair} (h : PReach p) (x : PSide) (r : TryRes)
    (hc : (p.get x.peer).closed = true) (hi : (p.get x.peer).inClose = false) :
    ((serveUntilClosed x r ((p.to x).length + 1) p).get x).closed = true := by
  have f := (h.inv.side x.peer).inv.flags
  exact (other_side_is_reached h x r (f.cl (f.done hc hi)).2.1).2

/-- **none returns a value the peer did not send (two-sided).** Whatever value a requester was given is a response its
peer really wrote into the channel for that very request. -/
theorem value_was_written_by_peer {p : Pair} (h : PReach p) (x : PSide) (s v : Nat)
    (hm : (s, Res.value v) ∈ (p.get x).outcomes) : (s, v) ∈ p.sentTo x :=
  (h.inv.side x).got s v ((h.inv.side x).inv.vals s v hm)

/-- A closes (HANDLE_CLOSE written) while B is blocked in a request: B reads the close, is closed with its hook run
once, and its waiter gets EOFError -/
example : ∃ p, prun (Pair.init false false false false)
      [.own .B (.issue 0 false), .own .B (.wait 0 false .eof), .own .A .closeBegin, .closeSent .A] = some p
    ∧ (p.get .A).closed = true ∧ p.toB = [.close]
    ∧ ((serveUntilClosed .B .eof 2 p).get .B).closed = true
    ∧ ((serveUntilClosed .B .eof 2 p).get .B).hookRuns = 1
    ∧ ((serveUntilClosed .B .eof 2 p).get .B).outcomes = [(0, .eof)] :=
  ⟨_, rfl, rfl, rfl, rfl, rfl, rfl⟩

/-- **C11**, clause by clause, for every reachable state of a side: the hook never runs twice; a side that
reports closed is clean (hook once, tables cleared, channel closed); closing again is a no-op; local close,
close by the peer, EOF / I/O error while receiving, and failure while replying each lead to closed (and
release every blocked waiter); nobody is given a value the peer did not send; after the end no event gives
a value or blocks anybody. -/
def C11_statement : Prop :=
  (∀ l, Reach l → l.hookRuns ≤ 1)
  ∧ (∀ l, Reach l → l.closed = true → l.inClose = false → Clean l)
  ∧ (∀ l, l.closed = true → step l .closeAgain = some l)
  ∧ (∀ l, Reach l → ∃ l1, step l .closeBegin = some l1 ∧ l1.closed = true ∧
      ∀ r l2, step l1 (.closeEnd r) = some l2 → Clean l2)
  ∧ (∀ l l', Reach l → step l .recvClose = some l' →
      l'.closed = true ∧ (l.inClose = false → Clean l') ∧ Released .eof l l')
  ∧ (∀ l r, Reach l → ∃ l', step l (.eofInServe r) = some l' ∧ l'.closed = true
      ∧ (l.inClose = false → Clean l') ∧ l'.blocked = [])
  ∧ (∀ l ref r, Reach l → ∃ l', step l (.failSendReply ref r) = some l' ∧ l'.closed = true
      ∧ (l.inClose = false → Clean l') ∧ l'.blocked = [])
  ∧ (∀ l, Reach l → ∀ s v, (s, Res.value v) ∈ l.outcomes → (s, v) ∈ l.fromPeer)
  ∧ (∀ l l' e, Reach l → l.chanClosed = true → step l e = some l' →
      NoNewValues l l' ∧ l'.blocked.length ≤ l.blocked.length ∧ l'.chanClosed = true)

/-- **The full property holds** of the automaton that follows the code in /repo. -/
theorem C11_holds : C11_statement := by
  refine ⟨fun _ h => hook_at_most_once h, fun _ h hc hi => clean_of_closed h hc hi, close_idempotent,
    fun _ h => local_close_leads_to_closed h, ?_, ?_, ?_, fun _ h => no_unsent_value h,
    fun _ _ e h hc hs => after_end h hc e hs⟩
  · intro l l' h hs
    have := recv_close_leads_to_closed h hs
    exact ⟨this.1, this.2.2.2.2.1, this.2.2.2.2.2⟩
  · intro l r h
    obtain ⟨l', h1, h2, _, h4, h5⟩ := eof_in_serve_leads_to_closed h r
    exact ⟨l', h1, h2, h4, h5⟩
  · intro l ref r h
    obtain ⟨l', h1, h2, _, h4, h5⟩ := fail_send_reply_leads_to_closed h ref r
    exact ⟨l', h1, h2, h4, h5⟩

/-! ### the window the statement's "by the time it reports closed" leaves open, and non-vacuity -/

/-- inside `close()` the flag is already set while the hook has not run yet (what a second thread or the
`before_closed` callback can observe); the theorems above speak about API-call boundaries -/
theorem in_close_window : ∃ l, Reach l ∧ l.closed = true ∧ l.inClose = true ∧ l.hookRuns = 0 :=
  ⟨_, ⟨false, false, [.closeBegin], rfl⟩, rfl, rfl, rfl⟩

/-- a sync request answered, an async one pending and one blocked when EOF is met while serving, a waiter
for the pending one afterwards, a request issued afterwards with a by-reference argument, a second close -/
def sampleEof : List Ev :=
  [.issue 0 false, .wait 0 false .eof, .reply 0 7, .issue 1 true, .issue 2 false, .wait 2 false .eof,
   .eofInServe .eof, .wait 1 false .eof, .issue 3 true, .closeBegin, .serveAllExit .eof]

example : ∃ l, run Life.init sampleEof = some l ∧ l.closed = true ∧ l.hookRuns = 1 ∧ l.tablesCleared = true
    ∧ l.outcomes = [(0, .value 7), (2, .eof), (1, .eof), (3, .eof)] ∧ l.pending = [] ∧ l.blocked = []
    ∧ l.fromPeer = [(0, 7)] ∧ l.closeRaised = [] :=
  ⟨_, rfl, rfl, rfl, rfl, rfl, rfl, rfl, rfl, rfl⟩

/-- `close()` whose `before_closed(self.root)` serves the connection and receives the peer's HANDLE_CLOSE
(a transport that accepts a write after the peer has closed): `_cleanup` runs inside and again in the
`finally`; the second run does nothing (obligation `cleanup_idempotent`: before the repair it raised
AttributeError out of `close()`) — the hook has run once, the side is clean, `close()` returns normally, a
further `close()` is a no-op -/
def sampleBothAtOnce : List Ev :=
  [.closeBegin, .issue 0 false, .wait 0 false .eof, .recvClose, .closeEnd .eof, .closeAgain]

example : ∃ l, run Life.init sampleBothAtOnce = some l ∧ l.closed = true ∧ l.inClose = false ∧ l.hookRuns = 1
    ∧ l.tablesCleared = true ∧ l.outcomes = [(0, .eof)] ∧ l.closeRaised = [] :=
  ⟨_, rfl, rfl, rfl, rfl, rfl, rfl, rfl⟩

/-- close from inside a callback while two wait loops are blocked below it, the handler returning a
reference: the reply cannot be written, both waiters get EOFError, nothing is left in the tables -/
def sampleCloseInCallback : List Ev :=
  [.issue 0 false, .wait 0 false .eof, .issue 1 false, .wait 1 false .eof, .closeBegin, .closeEnd .sent,
   .failSendReply true .eof]

example : ∃ l, run Life.init sampleCloseInCallback = some l ∧ l.closed = true ∧ l.hookRuns = 1
    ∧ l.tablesCleared = true ∧ l.outcomes = [(1, .eof), (0, .eof)] ∧ l.blocked = [] ∧ l.pending = [] :=
  ⟨_, rfl, rfl, rfl, rfl, rfl, rfl, rfl⟩

/-- a side whose disconnect hook raises (user code; e.g. a hook that undoes what `on_connect` installed when the
peer vanished before `on_connect` got that far): EOF while a request is blocked — the hook runs once, everything
is released (the clearing is in `_cleanup`'s `finally`), the waiter is released with the hook's exception in
place of EOFError, the side is clean and closing again is a no-op.  All theorems above hold for such a side
too: `Reach` covers both kinds of hook. -/
example : ∃ l, run (Life.initWith true) [.issue 0 false, .wait 0 false .eof, .eofInServe .eof, .closeAgain] = some l
    ∧ l.closed = true ∧ l.inClose = false ∧ l.hookRuns = 1 ∧ l.tablesCleared = true ∧ l.blocked = []
    ∧ l.outcomes = [(0, .closeExc)] :=
  ⟨_, rfl, rfl, rfl, rfl, rfl, rfl, rfl⟩

example : ∃ l, run (Life.initWith true) [.closeBegin, .closeEnd .sent, .closeAgain] = some l ∧ l.closed = true
    ∧ l.hookRuns = 1 ∧ l.tablesCleared = true ∧ l.closeRaised = [.hook] :=
  ⟨_, rfl, rfl, rfl, rfl, rfl⟩

/-- a side whose stream raises from its own close(): `close()` raises that error, yet the hook has run once and
everything is released (obligation `cleanup_survives_channel_close_error`: before the repair `_channel.close()` sat
outside `_cleanup`'s `finally`, and the side stayed closed-but-uncleaned for good) -/
example : ∃ l, run (Life.initWith false true) [.issue 0 true, .closeBegin, .closeEnd .sent, .closeAgain] = some l
    ∧ l.closed = true ∧ l.hookRuns = 1 ∧ l.tablesCleared = true ∧ l.closeRaised = [.channel] :=
  ⟨_, rfl, rfl, rfl, rfl, rfl⟩

/-- a raising `before_closed` hook (`close_catchall` off): the call raises, the side is clean all the same -/
example : ∃ l, run Life.init [.closeBegin, .closeEnd (.hookRaised false)] = some l ∧ l.closed = true
    ∧ l.hookRuns = 1 ∧ l.tablesCleared = true ∧ l.closeRaised = [.user] :=
  ⟨_, rfl, rfl, rfl, rfl, rfl⟩

end Rpyc.Props.C11
