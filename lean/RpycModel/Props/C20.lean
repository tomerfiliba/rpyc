import RpycModel.Files.Lemmas
import RpycModel.Gen.Files
/-
C20 — uploading a file or directory tree to the peer, and downloading one from it, reproduces every file
byte for byte under the same relative names — for every file size relative to the chunk size, any chunk
size ≥ 1, nested and empty directories — and a name filter excludes exactly the entries it rejects.

Namespace Rpyc.Props.C20 holds the property theorems and non-vacuity examples.  Model:
RpycModel/Files/Model.lean; lemmas (and the definitional `invalid_top_level`, `top_level_not_filtered`,
`falsy_filter_is_no_filter`): RpycModel/Files/Lemmas.lean.  No bound on file sizes, tree depth or width.
-/
namespace Rpyc.Props.C20
open Rpyc Rpyc.Files

/-- **The chunk loop copies every file exactly**, for every content and every chunk size ≥ 1: empty
files, one byte, exact multiples of the chunk size, one more or one less. -/
theorem copyLoop_id (chunk : Nat) (hc : 1 ≤ chunk) (src : Bytes) : copyFile chunk src = src :=
  copyFile_eq chunk hc src

/-- **Transfer = prune.** For every tree, filter, chunk size ≥ 1: `upload` creates exactly the source
tree without the entries whose name the filter rejects (with all below them) and without non-files,
every remaining name and every byte unchanged; when nothing is left of the top-level path (it is
neither a directory nor a regular file) it raises `ValueError` unless `ignore_invalid`. -/
theorem transfer_eq_prune (chunk : Nat) (hc : 1 ≤ chunk) (f : Filter) (ignoreInvalid : Bool) (t : Tree) :
    upload chunk f ignoreInvalid t = outcome ignoreInvalid (prune f t) :=
  upload_eq chunk hc f ignoreInvalid t

/-- **`download` does what `upload` does** — in the model: `download…` is the same recursion written down a second
time (the model has no local / remote state), so this is an unfolding; that the real `download*` (remote
`isdir`/`isfile`/`listdir`/`read`, local `makedirs`/`write`) behaves like the model is the correspondence's business. -/
theorem download_is_upload (chunk : Nat) (f : Filter) (ignoreInvalid : Bool) (t : Tree) :
    download chunk f ignoreInvalid t = upload chunk f ignoreInvalid t :=
  download_eq_upload chunk f ignoreInvalid t

/-- **Path by path**: whatever `upload` leaves at the destination consists of exactly those files — same
relative path, same bytes — and directories (empty ones included) of the source all of whose path
components pass the filter; nothing else, nothing twice, in the same order. -/
theorem transfer_items (chunk : Nat) (hc : 1 ≤ chunk) (f : Filter) (ignoreInvalid : Bool) (t : Tree)
    (r : Option Tree) (h : upload chunk f ignoreInvalid t = .ok r) :
    itemsOpt [] r = (items [] t).filter (keeps f 0) := by
  rw [transfer_eq_prune chunk hc] at h
  rw [outcome_ok h]
  exact prune_items f t []

/-- **Without a filter a tree of files and directories arrives identical** — nested and empty directories
included. -/
theorem transfer_no_filter_identity (chunk : Nat) (hc : 1 ≤ chunk) (ignoreInvalid : Bool) (t : Tree)
    (hr : regular t = true) : upload chunk none ignoreInvalid t = .ok (some t) := by
  rw [transfer_eq_prune chunk hc, prune_none_regular t hr]
  rfl

/-- onto an absent destination the history-aware transfer is the plain one (so everything above applies to
the first step of a history) -/
theorem transfer_onto_absent (chunk : Nat) (hc : 1 ≤ chunk) (f : Filter) (ii : Bool) (t : Tree)
    (hd : distinctNames t = true) : uploadOver chunk f ii t none = upload chunk f ii t := by
  rw [transfer_eq_prune chunk hc]
  cases hp : prune f t with
  | none => rw [uploadOver_eq_overlay chunk hc, overSpec, hp]; rfl
  | some pt => rw [uploadOver_under chunk hc f ii t pt none hd hp fun _ h => nomatch h]; rfl

/-- **The last transfer wins.** Transferring `t` onto a destination of the shape `t` transfers to (same names,
files where files are, directories where directories are; any contents) leaves exactly what `t` transfers to:
every file byte for byte from the last source. -/
theorem last_transfer_wins (chunk : Nat) (hc : 1 ≤ chunk) (f : Filter) (ii : Bool) (t d pt : Tree)
    (hd : distinctNames t = true) (hp : prune f t = some pt) (hs : sameShape pt d = true) :
    uploadOver chunk f ii t (some d) = .ok (some pt) :=
  uploadOver_under chunk hc f ii t pt (some d) hd hp fun _ h => Option.some.inj h ▸ hs

/-- in particular for a two-step history to one name: first `a`, then `b` whose transferred shape is that of
`a`'s (a new version of the same tree, or a roll-back to an old one): the destination is `b`'s tree -/
theorem second_transfer_replaces_first (chunk : Nat) (hc : 1 ≤ chunk) (f : Filter) (ii : Bool) (a b pa pb : Tree)
    (hda : distinctNames a = true) (hdb : distinctNames b = true)
    (hpa : prune f a = some pa) (hpb : prune f b = some pb) (hs : sameShape pb pa = true) :
    uploadOver chunk f ii a none = .ok (some pa)
      ∧ uploadOver chunk f ii b (some pa) = .ok (some pb) :=
  ⟨uploadOver_under chunk hc f ii a pa none hda hpa (fun _ h => nomatch h),
   last_transfer_wins chunk hc f ii b pa pb hdb hpb hs⟩

/-- **Re-running a transfer is harmless**: transferring the same source a second time onto what the first transfer
left changes nothing (the destination is again exactly the pruned source). -/
theorem transfer_idempotent (chunk : Nat) (hc : 1 ≤ chunk) (f : Filter) (ii : Bool) (t pt : Tree)
    (hd : distinctNames t = true) (hp : prune f t = some pt) :
    uploadOver chunk f ii t none = .ok (some pt) ∧ uploadOver chunk f ii t (some pt) = .ok (some pt) :=
  ⟨uploadOver_under chunk hc f ii t pt none hd hp (fun _ h => nomatch h),
   last_transfer_wins chunk hc f ii t pt pt hd hp (sameShape_refl pt)⟩

/-- **Round trip**: what an upload (any filter, any chunk size ≥ 1) created, downloaded again without a filter
(any other chunk size ≥ 1), is that same tree — every name and every byte. -/
theorem upload_then_download (chunk chunk' : Nat) (hc : 1 ≤ chunk) (hc' : 1 ≤ chunk') (f : Filter) (ii ii' : Bool)
    (t pt : Tree) (h : upload chunk f ii t = .ok (some pt)) :
    download chunk' none ii' pt = .ok (some pt) := by
  rw [transfer_eq_prune chunk hc] at h
  rw [download_is_upload]
  exact transfer_no_filter_identity chunk' hc' ii' pt (prune_regular f t pt (outcome_ok h).symm)

/-- **A transfer onto any destination** (absent, a file, a directory with whatever in it): the result is the
source pruned by the filter, laid over what was there — files replace files whatever their size or age,
directories are merged entry by entry, entries only the destination has stay; a regular file where a
directory is needed raises `FileExistsError` (from `makedirs`), a directory where a file is to be written
`IsADirectoryError` (from `open`). -/
theorem transfer_onto_any_destination (chunk : Nat) (hc : 1 ≤ chunk) (f : Filter) (ii : Bool) (t : Tree)
    (dst : Option Tree) : uploadOver chunk f ii t dst = overSpec f ii t dst :=
  uploadOver_eq_overlay chunk hc f ii t dst

/-- the default chunk size of every transfer function, as found in the source, is ≥ 1: transfers that do
not pass `chunk_size` are covered by the theorems above (regenerated from /repo on every run) -/
theorem default_chunk_sizes_copy_exactly :
    ∀ p ∈ Gen.Files.defaultChunks, ∀ src : Bytes, copyFile p.2 src = src := by
  intro p hp src
  have h : Gen.Files.defaultChunks.all (fun p => decide (1 ≤ p.2)) = true := by decide
  rw [List.all_eq_true] at h
  exact copyLoop_id p.2 (by simpa using h p hp) src

/-! ### non-vacuity -/

def rejectSuffix (s : String) : Filter := some (fun n => !(nm s).isSuffixOf n)

/-- nested tree with an empty directory, a rejected file, a rejected directory and a fifo -/
def sample : Tree :=
  .dir (.cons (nm "a.txt") (.file [1, 2, 3]) (.cons (nm "empty") (.dir .nil) (.cons (nm "b.tmp") (.file [9])
    (.cons (nm "sub") (.dir (.cons (nm "c.txt") (.file []) (.cons (nm "fifo") .other (.cons (nm "d.tmp") (.dir (.cons (nm "x") (.file [7]) .nil)) .nil))))
      .nil))))

example : upload 2 (rejectSuffix ".tmp") false sample
    = .ok (some (.dir (.cons (nm "a.txt") (.file [1, 2, 3]) (.cons (nm "empty") (.dir .nil)
        (.cons (nm "sub") (.dir (.cons (nm "c.txt") (.file []) .nil)) .nil))))) := by
  have hp : prune (rejectSuffix ".tmp") sample
      = some (.dir (.cons (nm "a.txt") (.file [1, 2, 3]) (.cons (nm "empty") (.dir .nil)
          (.cons (nm "sub") (.dir (.cons (nm "c.txt") (.file []) .nil)) .nil)))) := by decide +kernel
  rw [transfer_eq_prune 2 (by omega), hp]
  rfl

example : (items [] sample).filter (keeps (rejectSuffix ".tmp") 0)
    = [.dirAt [], .fileAt [nm "a.txt"] [1, 2, 3], .dirAt [nm "empty"], .dirAt [nm "sub"], .fileAt [nm "sub", nm "c.txt"] []] := by
  decide +kernel

example : regular (.dir (.cons (nm "e") (.dir .nil) (.cons (nm "f") (.file [0, 255]) .nil))) = true := by decide

/-- a history: version 1, then version 2 with a same-size file changed, then version 1 again (roll-back) -/
example :
    uploadOver 2 none false (.dir (.cons (nm "f") (.file [9, 9, 9]) (.cons (nm "d") (.dir (.cons (nm "g") (.file [5]) .nil)) .nil)))
        (some (.dir (.cons (nm "f") (.file [1, 2, 3]) (.cons (nm "d") (.dir (.cons (nm "g") (.file [4]) .nil)) .nil))))
      = .ok (some (.dir (.cons (nm "f") (.file [9, 9, 9]) (.cons (nm "d") (.dir (.cons (nm "g") (.file [5]) .nil)) .nil)))) :=
  last_transfer_wins 2 (by omega) none false _ _ _ (by decide) (by decide +kernel) (by decide)

/-- an entry the destination has and the new source has not stays (directories are merged, not mirrored) -/
example :
    uploadOver 2 none false (.dir (.cons (nm "f") (.file [9]) .nil)) (some (.dir (.cons (nm "old") (.file [1]) (.cons (nm "f") (.file [2]) .nil))))
      = .ok (some (.dir (.cons (nm "old") (.file [1]) (.cons (nm "f") (.file [9]) .nil)))) := by
  have h : nm "old" ≠ nm "f" := by decide
  simp [uploadOver, uploadDirOver, passes, Entries.find, Entries.set, copyFile, copyLoop, h]

/-- the round trip and the idempotence on the nested sample (filter `.tmp`, chunk sizes 2 and 5) -/
example : ∃ pt, upload 2 (rejectSuffix ".tmp") false sample = .ok (some pt) ∧ download 5 none false pt = .ok (some pt)
    ∧ uploadOver 2 (rejectSuffix ".tmp") false sample (some pt) = .ok (some pt) := by
  -- the sample is a directory, so something is left of it whatever the filter rejects below
  obtain ⟨pt, hp⟩ : ∃ pt, prune (rejectSuffix ".tmp") sample = some pt := ⟨_, rfl⟩
  have hu : upload 2 (rejectSuffix ".tmp") false sample = .ok (some pt) := by
    rw [transfer_eq_prune 2 (by omega), hp]; rfl
  exact ⟨pt, hu, upload_then_download 2 5 (by omega) (by omega) _ false false _ _ hu,
    (transfer_idempotent 2 (by omega) _ false sample pt (by decide +kernel) hp).2⟩

/-- sizes around the chunk size, computed by the loop itself (chunk 3: 0, 1, 2, 3, 4, 6, 10 bytes) -/
example : (List.map (fun n => copyFile 3 (List.range n)) [0, 1, 2, 3, 4, 6, 10])
    = List.map List.range [0, 1, 2, 3, 4, 6, 10] := by decide +kernel

/-- the hypothesis `1 ≤ chunk` is needed: with chunk size 0 the first read is empty and nothing is copied -/
example : copyFile 0 [1, 2, 3] = [] := by decide

end Rpyc.Props.C20

/-! ### instances, duplicates and guards (not property theorems)

`download_eq_prune` is `transfer_eq_prune` through `download_is_upload`; `overwrite_file` is an instance of
`last_transfer_wins`; `transfer_functions_are_modelled` is a guard that cannot fail in Lean (the generator refuses
any other list of functions before Lean sees it). -/
namespace Rpyc.Files.C20Aux
open Rpyc Rpyc.Files Rpyc.Props.C20

theorem download_eq_prune (chunk : Nat) (hc : 1 ≤ chunk) (f : Filter) (ignoreInvalid : Bool) (t : Tree) :
    download chunk f ignoreInvalid t = outcome ignoreInvalid (prune f t) := by
  rw [download_is_upload]; exact transfer_eq_prune chunk hc f ignoreInvalid t

/-- **A transfer overwrites**: whatever regular file is at the destination name — same size or not, newer or
not — afterwards it holds the source's bytes exactly. -/
theorem overwrite_file (chunk : Nat) (hc : 1 ≤ chunk) (f : Filter) (ii : Bool) (b old : Bytes) :
    uploadOver chunk f ii (.file b) (some (.file old)) = .ok (some (.file b)) :=
  last_transfer_wins chunk hc f ii (.file b) (.file old) (.file b) rfl rfl rfl

/-- all six transfer functions are the ones modelled, and `upload`/`download` default to no filter and
`ignore_invalid = False` -/
theorem transfer_functions_are_modelled :
    Gen.Files.defaultChunks.map Prod.fst
        = ["upload", "upload_file", "upload_dir", "download", "download_file", "download_dir"]
      ∧ Gen.Files.plainDefaults = ["upload", "download"] := ⟨rfl, rfl⟩

end Rpyc.Files.C20Aux
