import RpycModel.Srv.RegistryFrame
/-
C18 — the registry reflects exactly the live registrations and cannot be knocked over.

The model is RpycModel/Srv/Registry.lean, the lemmas are in RpycModel/Srv/Registry*.lean.

Reading of the statement: *membership* is the stored table, seen through `view : (NAME code, address code) ↦
last refresh` (codes identify keys up to Python's `==`).  An entry exists from its first register until an
unregister or until a query prunes it; refreshing a stale entry that no query has pruned yet keeps it the same
member.  `intent` is the model's own reading of what a datagram means (it is built from the same helpers `_work`'s
model uses - `load`, `unpack3'`, `lookupCmd`, `iterate'`, `pyUpper`, `allStr` - so it is a convenient name for the
refinement theorems, not an independent specification): `none` for everything that is not a well-formed command,
otherwise the query / register / unregister it asks for.  The clauses of the statement about malformed datagrams and
about "registrations it does not legitimately name" are therefore also stated without `intent`:
`not_a_command_changes_nothing` (on the decoded value) and `touches_only_own_or_stale` (on the sender's host).

Kinds of theorem in this file.  Obligations on generated facts (a changed constant / code shape breaks them by name):
commands_are_modelled, client_requests_understood, reregister_within_pruning, tcp_recv_closes_unreplied,
all_brine_values_hashable, logger_warn_survives, reply_dump_is_guarded, datagram_bounded.  Structural facts the property
theorems are read with: query_order, registration_order, stored_iff_view, received_is_genuine, tcp_client_is_workStep,
tcp_silent_step.  Counterexamples: C18_counterexample_unguarded_reply_dump (repaired defect),
C18_counterexample_silent_client_outlasts_default_client (known finding).  Everything else carries the property.

Case-insensitivity is `str.upper()`: exact for ASCII; for other text it is whatever Python's `upper()` identifies
('straße' and 'STRASSE' meet, 'STRAẞE' does not; 'İstanbul' and its `lower()` do not).  All theorems are for every
environment (`Env`: `str.upper`/`str.lower` of non-ASCII text, frozenset iteration order), every pruning interval,
every clock, every byte string.
-/
namespace Rpyc.Props.C18
open Rpyc Rpyc.Brine Rpyc.Registry

/-- the `cmd_*` methods of `RegistryServer` are exactly the three the model executes, with the argument
counts the model passes (a new command, or a changed signature, breaks this) -/
theorem commands_are_modelled :
    Gen.cmdNames = ["query", "register", "unregister"]
    ∧ Gen.cmdTable = [(nmQuery, 1), (nmRegister, 2), (nmUnregister, 1)] := by decide +kernel

/-- every request the six client methods send (observed on a recording socket) carries the magic `_work` checks and
a command the registry knows after lower-casing, with as many arguments as that command takes -/
theorem client_requests_understood :
    Gen.clientRequests.all (fun r => (r.1.toList.map Char.toNat == Gen.magic)
      && (cmdOfName ((r.2.toList.map Char.toNat).map asciiLower)).isSome) = true
    ∧ Gen.clientRequestArgs.all (fun r =>
        (findCmd ((r.1.toList.map Char.toNat).map asciiLower) Gen.cmdTable).map Prod.snd == some r.2) = true := by decide +kernel

/-- a server that re-registers every `REREGISTER_INTERVAL` is never stale under the default pruning interval -/
theorem reregister_within_pruning : Gen.reregisterIntervalMs < Gen.defaultPruningTimeoutMs := by decide

/-- `TCPRegistryServer._recv` closes the sockets of requests that got no reply before it accepts again
(observed on the live method; reverting that repair breaks this) -/
theorem tcp_recv_closes_unreplied : Gen.tcpRecvClosesUnreplied = true := by decide

/-- **Interpreter obligation.**  Every brine value can be a dict key on the interpreter the check runs under
(`hash()` measured per type; `slice` is hashable from Python 3.12 on).  The model has the other branch too: with an
unhashable `(host, port)` `cmd_register` is refused after `_add_service` has already created an empty inner dict
(`registerUnhashable`), i.e. a refused datagram would alter the table.  `malformed_is_noop`,
`wellformed_changes_only_named` and the rest are proved through this fact and break with it. -/
theorem all_brine_values_hashable : Gen.allBrineValuesHashable = true := brine_values_hashable

/-- what the model does where that obligation fails (Python < 3.12, a `slice` port): refused, no notification, and an
empty inner dict left under the upper-cased first name -/
example : (registerUnhashable { upper := id, lower := id, fsetIter := id } [] [[122, 122]]).sv.length = 1
    ∧ (registerUnhashable { upper := id, lower := id, fsetIter := id } [] [[122, 122]]).notes.length = 0 := by decide +kernel

/-- **Interpreter obligation.**  `_work`'s two `self.logger.warn(...)` calls (wrong magic, unknown command) sit outside
every `try`; with a real `logging.Logger` they do not raise on this interpreter (observed; `Logger.warn` is removed in
Python 3.13, where the first such datagram would end the loop — the model's `warnStep` carries that). -/
theorem logger_warn_survives : Gen.realLoggerSurvivesWarn = true := real_logger_survives_warn

/-- what `_recv` hands to `_work` is at most `MAX_DGRAM_SIZE` bytes, far below what `struct` can frame -/
theorem datagram_bounded (d : Bytes) : (udpRecv d).length ≤ Gen.maxDgramSize ∧ Gen.maxDgramSize < 2 ^ 32 := by
  refine ⟨?_, by decide⟩
  simp [udpRecv, List.length_take]
  omega

/-! ### what a query answers and in which order; the table against the abstract map -/

/-- **A query answers exactly the live registrations, oldest refresh first.**  For a name with an `upper()`
(text or bytes) the command does not fail, its reply is the tuple of the addresses stored under the upper-cased
name whose last refresh is not older than `now - pruning`, in the order of the stable sort by refresh time, and
the abstract map loses exactly the stale entries of that name and nothing else. -/
theorem query_spec (env : Env) (pruning : Int) (sv : Services) (name NAME : Val) (now : Int)
    (hinv : Inv sv) (hup : pyUpper env name = .ok NAME) :
    (cmdQuery env pruning sv name now).out = .ok (.tuple ((answer pruning sv NAME now).map addrVal))
    ∧ (∀ n x, view (cmdQuery env pruning sv name now).sv n x
        = if n = keyCode NAME ∧ staleOpt (now - pruning) (view sv n x) = true then none else view sv n x)
    ∧ Inv (cmdQuery env pruning sv name now).sv := by
  unfold cmdQuery
  rw [hup]
  obtain ⟨g, ho⟩ := queryUpper_good pruning sv NAME now hinv
  exact ⟨ho, g.refines, g.inv⟩

/-- the answer contains an address exactly when the abstract map holds it under that name with a refresh time
within the pruning interval (so: registered, not unregistered, not pruned, not stale) -/
theorem query_members (pruning : Int) (sv : Services) (NAME : Val) (now : Int) (a : Addr) :
    a ∈ answer pruning sv NAME now ↔ ∃ t, (a, t) ∈ innerOf sv NAME ∧ now - pruning ≤ t := by
  unfold answer
  simp only [List.mem_map, List.mem_filter, Bool.not_eq_true', decide_eq_false_iff_not, Int.not_lt]
  constructor
  · rintro ⟨e, ⟨hm, ht⟩, rfl⟩
    exact ⟨e.2, (sortByTime_perm _).mem_iff.mp hm, ht⟩
  · rintro ⟨t, hm, ht⟩
    exact ⟨(a, t), ⟨(sortByTime_perm _).mem_iff.mpr hm, ht⟩, rfl⟩

/-- a stored pair is what the abstract map says: `(a, t)` is in the inner dict of `NAME` iff the view maps
(NAME, a) to `t` -/
theorem stored_iff_view (sv : Services) (NAME : Val) (hinv : Inv sv) (a : Addr) (t : Int) :
    (a, t) ∈ innerOf sv NAME → view sv (keyCode NAME) (addrCode a) = some t := by
  intro hm
  rw [← alFind_innerOf]
  exact alFind_of_mem addrCode _ a t (innerOf_nodup sv NAME hinv) hm

/-- order of the answer: the snapshot is sorted by refresh time, and entries with equal refresh times keep the
order of the inner dict, which is the order in which they (last) joined -/
theorem query_order (inner : Inner) :
    (sortByTime inner).Pairwise (fun a b => a.2 ≤ b.2)
    ∧ (∀ k, (sortByTime inner).filter (fun e => e.2 == k) = inner.filter (fun e => e.2 == k))
    ∧ (sortByTime inner).Perm inner :=
  ⟨sortByTime_sorted inner, fun k => sortByTime_stable k inner, sortByTime_perm inner⟩

/-- a new member joins at the end of the inner dict; a refresh keeps its place and its spelling -/
theorem registration_order (inner : Inner) (a : Addr) (now : Int) :
    (alFind addrCode inner (addrCode a) = none → alSet addrCode inner a now = inner ++ [(a, now)])
    ∧ (alKeys addrCode (alSet addrCode inner a now)
        = if addrCode a ∈ alKeys addrCode inner then alKeys addrCode inner else alKeys addrCode inner ++ [addrCode a]) := by
  refine ⟨?_, alKeys_alSet addrCode inner a now⟩
  fun_induction alSet addrCode inner a now <;> intro h
  -- the empty dict: the new pair is all of it
  · rfl
  -- the head has the address: found, against `h`
  · next hk => rw [alFind, if_pos hk] at h; cases h
  -- another head: it stays, the new pair joins the tail's end
  · next hk ih => rw [alFind, if_neg hk] at h; rw [ih h]; rfl

/-- **Refinement, for every history.**  Starting from the empty registry, after any sequence of datagrams (any
bytes, any hosts, any clock readings) the table denotes exactly what the abstract registry
`(NAME, address) ↦ last refresh` holds after the meanings of those datagrams; the representation invariant
holds throughout. -/
theorem registry_refines (env : Env) (pruning : Int) (evs : List Event) :
    Inv (run env pruning St.init evs).sv
    ∧ ∀ n x, view (run env pruning St.init evs).sv n x = absRun env pruning (fun _ _ => none) evs n x := by
  obtain ⟨i, _, v⟩ := run_good env pruning evs St.init inv_nil balanced_init
  exact ⟨i, v⟩

/-! ### notifications against membership changes -/

/-- **Per step, for every datagram**: the notifications fired contain exactly one `added` for each pair that
became a member, exactly one `removed` for each pair that stopped being one, and nothing else. -/
theorem notifications_exact_step (env : Env) (pruning : Int) (sv : Services) (host : Val) (dgram : Bytes) (now : Int)
    (hinv : Inv sv) (n a : List Nat) :
    countAdd (workStep env pruning sv host dgram now).notes n a
        = (if !mem sv n a && mem (workStep env pruning sv host dgram now).sv n a then 1 else 0)
    ∧ countRem (workStep env pruning sv host dgram now).notes n a
        = (if mem sv n a && !mem (workStep env pruning sv host dgram now).sv n a then 1 else 0) :=
  (workStep_good env pruning sv host dgram now hinv).exact n a

/-- **Per history**: over any history the log of notifications and the membership of the table are in
bijection: for every pair, #added = #removed + (1 if it is a member now, else 0). -/
theorem notifications_exact (env : Env) (pruning : Int) (evs : List Event) (n a : List Nat) :
    countAdd (run env pruning St.init evs).log n a
      = countRem (run env pruning St.init evs).log n a + (if mem (run env pruning St.init evs).sv n a then 1 else 0) :=
  (run_good env pruning evs St.init inv_nil balanced_init).2.1 n a

/-! ### every datagram: the loop goes on; what a malformed one and a well-formed one do -/

/-- **Code obligation.**  `self._send(brine.dump(reply), addrinfo)` sits inside a guard of its own (observed on the live
`_work` with a `brine` whose dump of one reply raises `RecursionError`): a reply that cannot be serialized or sent is
logged and the loop goes on. -/
theorem reply_dump_is_guarded : Gen.replyDumpGuarded = true := reply_dump_guarded

/-- **Why that guard is needed (the defect it repairs).**  With `brine.dump(reply)` bare in the `else:` clause, a command
that returned normally whose reply the interpreter cannot dump ends `_work` (before `cmd_register` refused an address
that cannot be dumped — `registerRefuses` — a REGISTER with a port nested near the recursion limit was accepted, and the
next QUERY for that name by anyone killed the loop).  The witness: any environment in which the dump of the
acknowledgement overflows, any command result `OK`. -/
theorem C18_counterexample_unguarded_reply_dump :
    ∃ (env : Env) (r : CmdRes), r.out = .ok ack ∧ (finishG false env r).alive = false ∧ (finishG true env r).alive = true :=
  ⟨{ upper := id, lower := id, fsetIter := id, dumpOverflows := fun _ => true }, ⟨[], [], .ok ack⟩, rfl,
   finishG_unguarded_dies _ _ ack rfl rfl, finishG_alive _ _⟩

/-- **For every datagram — all byte strings — every table, every environment (recursion limit included), the loop
keeps running.**  No hypothesis. -/
theorem work_total (env : Env) (pruning : Int) (sv : Services) (host : Val) (dgram : Bytes) (now : Int) :
    (workStep env pruning sv host dgram now).alive = true :=
  workStep_alive env pruning sv host dgram now

/-- what the real `_recv` hands over is a genuine datagram in the sense of `stored_can_always_be_sent`: bytes, and at most
`MAX_DGRAM_SIZE` of them -/
theorem received_is_genuine (d : Bytes) (hb : ∀ x ∈ d, x < 256) : Genuine (udpRecv d) := by
  refine ⟨fun x hx => hb x (List.mem_of_mem_take hx), ?_⟩
  have h1 := (datagram_bounded d).1
  have h2 : Gen.maxDgramSize < 2 ^ 29 := by decide
  omega

/-- **The loop never dies, for every history**: any datagrams, any hosts, any clocks, any start state. -/
theorem registry_never_dies (env : Env) (pruning : Int) (st : St) (evs : List Event) :
    allAlive env pruning st evs = true :=
  allAlive_all env pruning evs st

/-- **... and it keeps answering.**  From the empty registry, after any history of fewer than 2^32 genuine datagrams
(what `_recv` returns) from hosts whose text `brine.dump` accepts, everything stored can be dumped again
(`load_storable`: whatever `brine.load` returns can be dumped; a name gains at most one server per datagram), so a
command that runs to its end is answered with exactly what it returned — unless the interpreter's recursion limit
stops `brine.dump` of that reply (`env.dumpOverflows`), in which case nothing is sent and the loop goes on. -/
theorem stored_can_always_be_sent (env : Env) (hE : EnvOk env) (pruning : Int) (evs : List Event)
    (hev : EventsOk evs) (hlen : evs.length < 2 ^ 32) :
    SvStorable (run env pruning St.init evs).sv
    ∧ ∀ host now c xs reply,
        (callCmd env pruning (run env pruning St.init evs).sv host now c xs).out = .ok reply →
        env.dumpOverflows reply = false →
        (finish env (callCmd env pruning (run env pruning St.init evs).sv host now c xs)).reply = some reply := by
  have hs := run_storable env hE pruning evs St.init 0 (by intro e he; simp [St.init] at he)
    (by intro e he; simp [St.init] at he) hev (by omega)
  have hi := (run_good env pruning evs St.init inv_nil balanced_init).1
  exact ⟨hs, fun host now c xs reply ho hov => callCmd_is_answered env pruning _ host now hi hs c xs reply ho hov⟩

/-- **A datagram that is not a well-formed command changes nothing**: table identical (order included),
no notification, no reply, loop running.  No hypothesis on the table. -/
theorem malformed_is_noop (env : Env) (pruning : Int) (sv : Services) (host : Val) (dgram : Bytes) (now : Int)
    (hi : intent env host dgram = .none) :
    (workStep env pruning sv host dgram now).sv = sv ∧ (workStep env pruning sv host dgram now).notes = []
    ∧ (workStep env pruning sv host dgram now).reply = none ∧ (workStep env pruning sv host dgram now).alive = true :=
  workStep_noop env pruning sv host dgram now hi

/-- **A well-formed command changes only the entries it names**: whatever pair's abstract value differs after
the step is named by the datagram's meaning — the queried name's stale entries; (one of the names, the sender's
own (host, port)) for register; the sender's own (host, port) for unregister. -/
theorem wellformed_changes_only_named (env : Env) (pruning : Int) (sv : Services) (host : Val) (dgram : Bytes) (now : Int)
    (hinv : Inv sv) (n x : List Nat)
    (hch : view (workStep env pruning sv host dgram now).sv n x ≠ view sv n x) :
    (intent env host dgram).names (now - pruning) (view sv) n x := by
  rw [(workStep_good env pruning sv host dgram now hinv).refines n x] at hch
  exact absApply_frame pruning now (view sv) _ n x hch

/-- **Whose registrations a datagram can touch, stated without the model's notion of meaning.**  For every datagram:
a pair whose abstract value differs after the step either has an address `(host, port)` of the sender's own host, or
was stale (refresh older than `now - pruning`) and is gone.  So no datagram, however malformed, alters a live
registration of another host. -/
theorem touches_only_own_or_stale (env : Env) (pruning : Int) (sv : Services) (host : Val) (dgram : Bytes) (now : Int)
    (hinv : Inv sv) (n x : List Nat)
    (hch : view (workStep env pruning sv host dgram now).sv n x ≠ view sv n x) :
    (∃ port, x = addrCode (host, port))
    ∨ (∃ t, view sv n x = some t ∧ t < now - pruning ∧ view (workStep env pruning sv host dgram now).sv n x = none) :=
  sender_frame env pruning sv host dgram now hinv n x hch

/-- **The statement's classes of malformed datagram, stated on the decoded value.**  What appears in the statement:
C04's `load`, the literal shape of the decoded value, `strLower` for the command's `lower()`, the generated command table
through `lookupCmd` (argument count, and which command a text names), `allStr` ("every item is text") and `notIterable`;
not `intent`, `unpack3'`, `dispatch`.  The classes: undecodable bytes; a value that cannot be unpacked; a tuple that is
not a triple; a first field that is not the magic text; a command that is not text; a text command that is none of the
three after lower-casing; a tuple of arguments of the wrong length; arguments of the wrong types (a query name that is
neither text nor bytes; register names that cannot be iterated or contain a non-text item).  Each changes nothing at all:
table identical, no notification, no reply, loop running. -/
theorem not_a_command_changes_nothing (env : Env) (pruning : Int) (sv : Services) (host : Val) (d : Bytes) (now : Int) :
    (∀ e, load d = .error e → (workStep env pruning sv host d now).Noop sv)
    ∧ (∀ v, load d = .ok v → notIterable v = true → (workStep env pruning sv host d now).Noop sv)
    ∧ (∀ xs, load d = .ok (.tuple xs) → xs.length ≠ 3 → (workStep env pruning sv host d now).Noop sv)
    ∧ (∀ m c a, load d = .ok (.tuple [m, c, a]) → (∀ s, m = .str s → s ≠ Gen.magic) → (workStep env pruning sv host d now).Noop sv)
    ∧ (∀ m c a, load d = .ok (.tuple [m, c, a]) → (∀ s, c ≠ .str s) → (workStep env pruning sv host d now).Noop sv)
    ∧ (∀ m s a, load d = .ok (.tuple [m, .str s, a]) → strLower env s ∉ [nmQuery, nmRegister, nmUnregister] →
        (workStep env pruning sv host d now).Noop sv)
    ∧ (∀ m s args c, load d = .ok (.tuple [m, .str s, .tuple args]) → lookupCmd env (.str s) = some c → args.length ≠ c.2 →
        (workStep env pruning sv host d now).Noop sv)
    ∧ (∀ m s n name, load d = .ok (.tuple [m, .str s, .tuple [name]]) → lookupCmd env (.str s) = some (.query, n) →
        (∀ t, name ≠ .str t) → (∀ b, name ≠ .bytes b) → (workStep env pruning sv host d now).Noop sv)
    ∧ (∀ m s n names port, load d = .ok (.tuple [m, .str s, .tuple [.tuple names, port]]) →
        lookupCmd env (.str s) = some (.register, n) → (∃ x ∈ names, ∀ t, x ≠ .str t) →
        (workStep env pruning sv host d now).Noop sv)
    ∧ (∀ m s n names port, load d = .ok (.tuple [m, .str s, .tuple [names, port]]) →
        lookupCmd env (.str s) = some (.register, n) → notIterable names = true →
        (workStep env pruning sv host d now).Noop sv) :=
  ⟨fun e h => noop_of_load_error env pruning sv host d now e h,
   fun v h hv => noop_of_not_iterable env pruning sv host d now v h hv,
   fun xs h hl => noop_of_wrong_length env pruning sv host d now xs h hl,
   fun m c a h hm => noop_of_wrong_magic env pruning sv host d now m c a h hm,
   fun m c a h hc => noop_of_non_text_command env pruning sv host d now m c a h hc,
   fun m s a h hs => noop_of_unknown_command env pruning sv host d now m a s h hs,
   fun m s args c h hc hn => noop_of_wrong_arg_count env pruning sv host d now m s args c h hc hn,
   fun m s n name h hc h1 h2 => noop_of_query_bad_name env pruning sv host d now m name s n h hc h1 h2,
   fun m s n names port h hc hb =>
     noop_of_register_bad_names env pruning sv host d now m port s n names h hc ((allStr_none_iff names).mpr hb),
   fun m s n names port h hc hb => noop_of_register_names_not_iterable env pruning sv host d now m names port s n h hc hb⟩

/-- **Case-insensitive.**  A query sees only the upper-cased name: two spellings with the same `upper()` give the same
reply, the same pruning, the same table; for ASCII names lower- or upper-casing a spelling does not change its
`upper()`. -/
theorem query_case_insensitive (env : Env) (pruning : Int) (sv : Services) (s1 s2 : List Nat) (now : Int) :
    (strUpper env s1 = strUpper env s2 →
      cmdQuery env pruning sv (.str s1) now = cmdQuery env pruning sv (.str s2) now)
    ∧ (isAscii s1 = true → strUpper env (s1.map asciiLower) = strUpper env s1 ∧ strUpper env (s1.map asciiUpper) = strUpper env s1) :=
  ⟨cmdQuery_congr env pruning sv s1 s2 now, strUpper_case_insensitive env s1⟩

/-- a server that registers (an address that can be sent back) under one spelling is found, at once, by a query under
any spelling with the same `upper()` -/
theorem register_then_query_finds (env : Env) (pruning : Int) (sv : Services) (host port : Val) (s1 s2 : List Nat) (now : Int)
    (hinv : Inv sv) (hp : 0 ≤ pruning) (hcase : strUpper env s1 = strUpper env s2)
    (hsend : registerRefuses env (host, port) = false) :
    ∃ a, a ∈ answer pruning (cmdRegister env sv host (.tuple [.str s1]) port now).sv (.str (strUpper env s2)) now
      ∧ addrCode a = addrCode (host, port) := by
  have hv := registered_view env sv host port s1 now hinv hsend
  rw [hcase] at hv
  obtain ⟨a, hm, hc⟩ := mem_innerOf_of_view _ _ _ _ hv
  exact ⟨a, (query_members pruning _ _ now a).mpr ⟨now, hm, by omega⟩, hc⟩

/-- **The registry executes exactly what a well-formed request names** (the datagrams the client classes
build): a QUERY / REGISTER / UNREGISTER request with the right number of arguments runs that command on exactly
those arguments. -/
theorem wellformed_is_executed (env : Env) (pruning : Int) (sv : Services) (host : Val) (now : Int)
    (cmd : List Nat) (args : List Val) (e : Bytes) (c : CmdName × Nat)
    (hwf : (request cmd args).wf = true) (hd : dump (request cmd args) = .ok e)
    (hc : lookupCmd env (.str cmd) = some c) (hlen : args.length = c.2) (hov : env.loadOverflows e = false) :
    workStep env pruning sv host e now = finish env (callCmd env pruning sv host now c.1 args) :=
  workStep_request env pruning sv host now cmd args e c hwf hd hc hlen hov

/-! ### the TCP front end -/

/-- **A silent TCP client costs at most the socket timeout, and nothing else.**  For every history of TCP
clients — sending a payload at once (possibly partial, empty or garbage) or nothing — with room for at least
one accepted socket: every client is accepted; the clock after the history is the start plus TIMEOUT per silent
client; a silent client leaves the table untouched and fires nothing. -/
theorem tcp_liveness (env : Env) (pruning : Int) (fdLimit : Nat) (hfd : 0 < fdLimit) (evs : List TcpEv) (ts : TcpSt)
    (hc : ts.conn = []) :
    (∀ o ∈ (tcpRun env pruning fdLimit ts evs).2, o.accepted = true)
    ∧ (tcpRun env pruning fdLimit ts evs).1.clock = ts.clock + Gen.tcpServerTimeoutMs * (evs.countP isSilent) :=
  tcpRun_spec env pruning fdLimit hfd tcp_recv_closes_unreplied evs ts hc

/-- **How long others wait behind silent clients, and whose patience that exceeds.**  `k` silent clients in a row cost
exactly `k × TCPRegistryServer.TIMEOUT`; a client with rpyc's default reply timeout that queues behind them is answered
in time iff `k ≤ silentClientsTolerated = (client default − 1 ms) / server TIMEOUT` (generated constants; with 2000 ms
against 3000 ms that number is 0: one silent client already outlasts a default client's patience — the registry is
delayed, not knocked over). -/
theorem tcp_delay_and_patience (env : Env) (pruning : Int) (fdLimit : Nat) (hfd : 0 < fdLimit) (ts : TcpSt) (hc : ts.conn = [])
    (k p : Nat) :
    (tcpRun env pruning fdLimit ts (List.replicate k (.silent p))).1.clock = ts.clock + Gen.tcpServerTimeoutMs * k
    ∧ (k * Gen.tcpServerTimeoutMs < Gen.tcpClientTimeoutMs ↔ k ≤ silentClientsTolerated) := by
  refine ⟨?_, patience k⟩
  rw [(tcp_liveness env pruning fdLimit hfd _ ts hc).2, List.countP_replicate]
  rfl

/-- what the statement asks of the TCP front end towards rpyc's own clients: a client with the default reply timeout that
queues behind one silent connection still gets its answer in time -/
def C18_tcp_patience_statement : Prop := 1 ≤ silentClientsTolerated

/-- **Known finding** `C18:tcp-silent-client-outlasts-default-client-timeout`: it does not.  The registry spends
`TCPRegistryServer.TIMEOUT` (3000 ms) on a connection that sends nothing, the clients give up after 2000 ms and
`TCPRegistryClient.discover` then returns `()` - a silent wrong answer; one idle connection every 3 s starves every
default client for as long as it goes on.  (`tcp_liveness` / `tcp_delay_and_patience` are the part that holds: nobody is
refused, the cost is exactly TIMEOUT per silent connection.)  Replayed on real sockets by `known_probes` in c18.py. -/
theorem C18_counterexample_silent_client_outlasts_default_client : ¬ C18_tcp_patience_statement := by
  unfold C18_tcp_patience_statement silentClientsTolerated; decide

/-- a silent client leaves the table untouched, fires nothing and costs at most the socket timeout -/
theorem tcp_silent_step (env : Env) (pruning : Int) (fdLimit : Nat) (ts : TcpSt) (p : Nat) :
    (tcpStep env pruning fdLimit ts (.silent p)).1.sv = ts.sv
    ∧ (tcpStep env pruning fdLimit ts (.silent p)).2.step.notes = []
    ∧ (tcpStep env pruning fdLimit ts (.silent p)).2.elapsed ≤ Gen.tcpServerTimeoutMs := by
  obtain ⟨h1, h2⟩ := tcpStep_silent_sv env pruning fdLimit ts p
  refine ⟨h1, h2, ?_⟩
  rw [(tcpStep_elapsed env pruning fdLimit ts (.silent p)).1]
  split <;> omega

/-- no accepted socket outlives the request it belongs to: whatever the client sent, nothing is tracked when
the registry waits in `accept` again -/
theorem tcp_no_socket_left (env : Env) (pruning : Int) (fdLimit : Nat) (ts : TcpSt) (ev : TcpEv) :
    (tcpStep env pruning fdLimit ts ev).1.conn = [] :=
  tcpStep_conn env pruning fdLimit ts ev tcp_recv_closes_unreplied

/-- a TCP client's payload is handled exactly as a datagram with those bytes (first MAX_DGRAM_SIZE of them) -/
theorem tcp_client_is_workStep (env : Env) (pruning : Int) (fdLimit : Nat) (ts : TcpSt) (peer : Nat) (host : Val)
    (payload : Bytes) (hc : ts.conn.length < fdLimit) :
    (tcpStep env pruning fdLimit ts (.client peer host payload)).2.step
      = workStep env pruning ts.sv host (payload.take Gen.maxDgramSize) ts.clock := by
  simp [tcpStep, hc]

/-! ### non-vacuity: concrete, non-trivial states and histories -/

def env0 : Env := { upper := id, lower := id, fsetIter := id }
def hostA : Val := .str [49, 48, 46, 48, 46, 48, 46, 49]
def hostB : Val := .str [49, 48, 46, 48, 46, 48, 46, 50]
def sCalc : List Nat := [99, 97, 108, 99]
def sCALC : List Nat := [67, 65, 76, 67]
def sDb : List Nat := [100, 98]

/-- a table with two names, three servers, a tie in refresh time and a stale entry -/
def table : Services :=
  (regLoop env0 (hostB, .int 7) 5000 [sCalc]
    (regLoop env0 (hostA, .int 9) 5000 [sCALC, sDb]
      (regLoop env0 (hostA, .int 7) 1000 [sCalc] []).1).1).1

example : Inv table := (regLoop_spec env0 _ _ _ _ (regLoop_spec env0 _ _ _ _ (regLoop_spec env0 _ _ _ _ inv_nil).1).1).1

example : SvStorable table := by
  unfold SvStorable
  decide +kernel

/-- the query of the statement on that table: case-insensitive, stale entry dropped (and pruned with one
notification), tie answered in registration order -/
example : (answer 3000 table (.str sCALC) 6000).map addrVal = [addrVal (hostA, .int 9), addrVal (hostB, .int 7)]
    ∧ (cmdQuery env0 3000 table (.str sCalc) 6000).notes.length = 1
    ∧ mem (cmdQuery env0 3000 table (.str sCalc) 6000).sv (keyCode (.str sCALC)) (addrCode (hostA, .int 7)) = false
    ∧ mem (cmdQuery env0 3000 table (.str sCalc) 6000).sv (keyCode (.str sCALC)) (addrCode (hostA, .int 9)) = true :=
  ⟨by rfl, by decide +kernel, by decide +kernel, by decide +kernel⟩

/-- `True == 1 == 1.0`: the same port in three spellings is one registration -/
example : addrCode (hostA, .int 1) = addrCode (hostA, .bool true) ∧ addrCode (hostA, .int 1) = addrCode (hostA, .float 0x3FF0000000000000)
    ∧ addrCode (hostA, .int 1) ≠ addrCode (hostA, .str [49]) := by decide +kernel

/-- the three request shapes of the clients are well-formed, encodable and understood -/
example : ∃ e, dump (request [81, 85, 69, 82, 89] [.str sCalc]) = .ok e
    ∧ workStep env0 3000 table hostB e 6000 = finish env0 (callCmd env0 3000 table hostB 6000 .query [.str sCalc]) := by
  obtain ⟨e, he⟩ := enc_ok (request [81, 85, 69, 82, 89] [.str sCalc]) (by decide +kernel) (by decide +kernel)
  exact ⟨e, he, wellformed_is_executed env0 3000 table hostB 6000 _ _ e (.query, 1) (by decide +kernel) he (lookup_QUERY env0) rfl rfl⟩

/-- a history satisfying the hypotheses of `stored_can_always_be_sent`: garbage, a truncated command, a non-text command -/
example : EnvOk env0 ∧ EventsOk [⟨0, hostA, [255, 255]⟩, ⟨5, hostB, [18, 8, 13, 82, 80]⟩, ⟨5, hostB, [18, 8, 13, 82, 80, 89, 67, 85, 2]⟩] := by
  refine ⟨fun _ _ h => h, ?_⟩
  intro e he
  simp only [List.mem_cons, List.not_mem_nil, or_false] at he
  rcases he with rfl | rfl | rfl <;> exact ⟨by decide +kernel, by decide, by decide⟩

/-- `("RPYC", 5, ())`: a command that is not text is looked up as no command, and `not_a_command_changes_nothing` does the
rest (the finding F5(a) of DESIGN.md, repaired) -/
example : lookupCmd env0 (.int 5) = none := rfl

/-- an unregister by a host that is registered under one name only fires one notification (F5(b), repaired) -/
example : (cmdUnregister table hostB (.int 7)).notes.length = 1 := by decide +kernel

/-- a TCP history with silent clients in front of a query: all accepted, 2 x TIMEOUT later -/
example : (tcpRun env0 3000 1 ⟨table, [], 6000⟩ [.silent 1, .client 2 hostB [255], .silent 3, .client 4 hostB []]).1.clock
    = 6000 + Gen.tcpServerTimeoutMs * 2 :=
  (tcp_liveness env0 3000 1 (by decide) _ ⟨table, [], 6000⟩ rfl).2

end Rpyc.Props.C18
