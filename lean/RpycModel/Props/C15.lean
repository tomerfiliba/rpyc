import RpycModel.Async.Multi
import RpycModel.Gen.Async
/-
C15 — asynchronous results: pending until the reply arrives or the expiry passes, whichever happens
first; that outcome is final; callbacks run exactly once, in registration order (at once if registered
afterwards); waiting raises the timeout error at the expiry instant, never earlier, and later only by a
request the waiting thread is itself serving; a synchronous request is an asynchronous one carrying the
configured timeout.

Namespace Rpyc.Props.C15 holds the property theorems, the guards/obligations on generated constants and non-vacuity
examples (corollaries and witnesses follow in Rpyc.Async.C15Aux); the model is
RpycModel/Async/Model.lean; helper lemmas and the *definitional* lemmas (one-step unfoldings of the
transcription, not property theorems) are in RpycModel/Async/Lemmas.lean.  All theorems hold for every
sequence of events (no bound on length), every instant, every channel content and every timeout value
(`none`, negative, zero, positive).  "Arrival" is the instant the reply is dispatched (`__call__` runs).
-/
namespace Rpyc.Props.C15
open Rpyc Rpyc.Async

/-- **Readiness is final** — under every later event, re-arming and duplicate replies included: still
ready, same value, same exception flag. -/
theorem ready_final (w : World) (hw : Reachable w) (hr : w.ar.isReady = true) (evs : List Ev) :
    (runs w evs).ar.isReady = true ∧ (runs w evs).ar.isExc = w.ar.isExc ∧ (runs w evs).ar.obj = w.ar.obj := by
  have := Frozen.runs evs (hw.inv.frozen hr)
  exact ⟨this.1, this.2.1, this.2.2.1⟩

/-- and the value (or exception) is available from then on: `value` returns (raises) it at once, `wait`
returns, `ready` is true, `expired` false, whatever happened in between. -/
theorem ready_value_available (w : World) (hw : Reachable w) (hr : w.ar.isReady = true) (evs : List Ev) :
    step (runs w evs) .qValue
        = (runs w evs, if w.ar.isExc = some true then .raised w.ar.obj else .value w.ar.obj)
      ∧ step (runs w evs) .wait = (runs w evs, .unit)
      ∧ step (runs w evs) .qReady = (runs w evs, .bool true)
      ∧ step (runs w evs) .qError = (runs w evs, .tri w.ar.isExc)
      ∧ step (runs w evs) .qExpired = (runs w evs, .bool false) := by
  have hf := Frozen.runs evs (hw.inv.frozen hr)
  refine ⟨hf.value, hf.wait, ?_, ?_, ?_⟩
  · simp [step, hf.ready]
  · simp [step, hf.error]
  · simp [step, AR.expired, hf.1]

/-- **Expiry while pending is final** for every later sequence of events that does not re-arm the expiry:
still expired, nothing published, no callback has run (the log is unchanged), registered callbacks are
only kept. -/
theorem expired_final (w : World) (hx : status w = .expired) (evs : List Ev) (hn : noRearm evs) :
    status (runs w evs) = .expired ∧ (runs w evs).cbLog = w.cbLog ∧ (runs w evs).ar.isExc = w.ar.isExc
      ∧ (runs w evs).ar.obj = w.ar.obj ∧ ∃ more, (runs w evs).ar.callbacks = w.ar.callbacks ++ more := by
  have hd := Dead.runs evs (Dead.of_expired ((status_expired_iff w).mp hx)) hn
  exact ⟨(status_expired_iff _).mpr hd.expired, hd.2.2.2.1, hd.2.2.2.2.1, hd.2.2.2.2.2.1, hd.2.2.2.2.2.2.2⟩

/-- what an expired result shows, then and ever after: waiting raises the timeout error at once (the clock
does not move), `ready` and `error` are false, `expired` is true. -/
theorem expired_observations (w : World) (hx : status w = .expired) (evs : List Ev) (hn : noRearm evs) :
    step (runs w evs) .wait = (runs w evs, .timeout)
      ∧ step (runs w evs) .qValue = (runs w evs, .timeout)
      ∧ step (runs w evs) .qReady = (runs w evs, .bool false)
      ∧ step (runs w evs) .qError = (runs w evs, .tri (some false))
      ∧ step (runs w evs) .qExpired = (runs w evs, .bool true) := by
  have hd := Dead.runs evs (Dead.of_expired ((status_expired_iff w).mp hx)) hn
  refine ⟨hd.wait, hd.value, ?_, ?_, ?_⟩
  · simp [step, hd.ready]
  · simp [step, hd.error]
  · simp [step, hd.expired]

/-- every state is exactly one of pending / ready / expired, and a pending result stays pending under an
event unless a reply is dispatched in it or the clock reaches the deadline (nothing else decides) -/
theorem pending_until_decided (w : World) (hw : Reachable w) (hp : status w = .pending) (ev : Ev)
    (hne : ∀ τ, ev ≠ .setExpiry τ) :
    status (step w ev).1 = .pending
      ∨ (status (step w ev).1 = .ready ∧ (step w ev).1.readyAt.isSome ∧ (step w ev).1.live = false)
      ∨ (status (step w ev).1 = .expired ∧ w.ar.ttl.finite = true ∧ w.ar.ttl.tmax ≤ (step w ev).1.now) := by
  cases hs : status (step w ev).1 with
  | pending => exact .inl rfl
  | ready =>
    -- a reachable world satisfies the callback ledger: ready means accepted by `call`, entry popped
    have hr := (status_ready_iff _).mp hs
    obtain ⟨_, hi, _, hl⟩ := (hw.runs [ev]).ledger
    rcases hl with ⟨_, _, t, hra, _⟩ | ⟨hnr, _⟩
    · exact .inr (.inl ⟨rfl, hra ▸ rfl, (hi hr).2⟩)
    · exact absurd (hnr ▸ hr) Bool.false_ne_true
  | expired =>
    have hx := (status_expired_iff _).mp hs
    rw [AR.expired, Bool.and_eq_true, step_ttl w ev hne, Timeout.expired_iff] at hx
    exact .inr (.inr ⟨rfl, hx.2⟩)

/-- For every run from a freshly issued request: while not ready no callback has run and all
registrations are stored in order; once ready, the callback log is *exactly* the list of registrations in
registration order — each once — and the instant of each run is the arrival instant for those
registered before it and the registration instant for those registered after it (`max`). -/
theorem callbacks_once_in_order (t0 : Nat) (evs : List Ev) :
    ((runs (World.init t0) evs).ar.isReady = false →
        (runs (World.init t0) evs).cbLog = []
        ∧ (runs (World.init t0) evs).ar.callbacks = (regsOf (World.init t0) evs).map Prod.fst)
    ∧ ((runs (World.init t0) evs).ar.isReady = true →
        (runs (World.init t0) evs).ar.callbacks = []
        ∧ ∃ t, (runs (World.init t0) evs).readyAt = some t
          ∧ (runs (World.init t0) evs).cbLog = (regsOf (World.init t0) evs).map (fun p => (p.1, max p.2 t))) := by
  have h := (Ledger.runs evs (Ledger.init t0)).2.2
  rw [List.nil_append] at h
  rcases h with ⟨a, b, t, c, _, e⟩ | ⟨a, b, c⟩
  · exact ⟨fun hr => absurd (a ▸ hr) Bool.false_ne_true.symm, fun _ => ⟨b, t, c, e⟩⟩
  · exact ⟨fun _ => ⟨b, c⟩, fun hr => absurd (a ▸ hr) Bool.false_ne_true⟩

/-! ### callbacks that raise or re-enter  (`callR`: `__call__` alone, any callbacks)

The worlds above take callbacks to return.  `callR` is `__call__` with callbacks that may raise and may
re-enter (register more callbacks, read the value, issue a request from inside); which of its two loops the
source has is *measured* on every run (`Gen.Async.callbacksAllRun`). -/

/-- **obligation on the source**: `__call__` runs every callback even when one of them raises, clears the list, and
re-raises the first error after the loop.  (On a tree whose loop stops at the raising callback this is false, and
the check reports it with a concrete replay.) -/
theorem callbacks_all_run : Gen.Async.callbacksAllRun = true := by decide

/-- the clause at full strength, for all callbacks — returning, raising (whatever the class of the error),
re-entrant: when the reply arrives the result is ready with its value, every registered callback has run exactly
once, in registration order, each followed at once by the callbacks it registered from inside itself; nothing
stays stored.  (Whether a callback's error then surfaces in the serving thread or is kept from it is not part of
the statement: `propagates` is left free.) -/
def C15_callbacks_clause : Prop :=
  ∀ (propagates : Bool) (now : Nat) (cbs : List Cb) (e : Bool) (v : Nat),
    (callR Gen.Async.callbacksAllRun propagates false now cbs e v).isReady = true
    ∧ (callR Gen.Async.callbacksAllRun propagates false now cbs e v).isExc = some e
    ∧ (callR Gen.Async.callbacksAllRun propagates false now cbs e v).obj = some v
    ∧ (callR Gen.Async.callbacksAllRun propagates false now cbs e v).log
        = cbs.flatMap (fun x => (x.id, now) :: x.adds.map (fun a => (a, now)))
    ∧ (callR Gen.Async.callbacksAllRun propagates false now cbs e v).stored = []

/-- **Every registered callback runs exactly once, in order — raising ones included.** -/
theorem C15_callbacks : C15_callbacks_clause := by
  intro p now cbs e v
  rw [callbacks_all_run]
  simp [callR, runAll_spec]

/-- **obligation on the source** (measured on every run): `add_callback`'s test-and-append and `__call__`'s
set-ready-and-take-the-list exclude each other. -/
theorem add_callback_atomic : Gen.Async.addCallbackAtomic = true := by decide

/-- the clause: a registration that races with the publication is one of the two serial orders — here "register,
then publish" — so everything proved about event sequences applies to it: the callback runs exactly once -/
def C15_racing_registration_clause : Prop :=
  ∀ (w : World) (c : Nat) (e : Bool) (v : Nat),
    addCallbackRace Gen.Async.addCallbackAtomic w c e v = runs w [.addCallback c, .arrive e v]

theorem C15_racing_registration : C15_racing_registration_clause := by
  intro w c e v
  rw [add_callback_atomic]
  have hs : (addCallback w c).seq = w.seq := by unfold addCallback; split <;> rfl
  simp [addCallbackRace, runs, step, hs]

/-- **Timeouts are exact.** If `wait` raises the timeout error then the result has a finite deadline `D`
(so the timeout was a number ≥ 0), the result is not ready, the clock reads at least `D` — never earlier —
and it reads exactly `max D (instant of the call)`, unless the last thing the waiting thread did was to
serve an unrelated request whose dispatch began at `s ≤ D` and lasted `d` with `D < s + d`: then it reads
`s + d`, the end of that request. -/
theorem timeout_exact (w : World) (h : (wait w).2 = .timeout) :
    w.ar.ttl.finite = true ∧ (wait w).1.ar.isReady = false ∧ (wait w).1.ar.ttl = w.ar.ttl
      ∧ w.ar.ttl.tmax ≤ (wait w).1.now
      ∧ ((wait w).1.now = max w.now w.ar.ttl.tmax
          ∨ ∃ s d pre, (wait w).1.busy = w.busy ++ pre ++ [(s, d)] ∧ s ≤ w.ar.ttl.tmax
              ∧ w.ar.ttl.tmax < s + d ∧ (wait w).1.now = s + d) := by
  rcases wait_cases w with ⟨w', hl, hw⟩ | ⟨w', _, hw⟩ <;> rw [hw] at h ⊢
  · have hnr : w'.ar.isReady = false := by
      cases hr : w'.ar.isReady with
      | false => rfl
      | true => rw [hr] at h; cases h
    obtain ⟨a, b, c, d⟩ := waitLoop_timeout _ w w' hl hnr
    exact ⟨b, hnr, a, c, d⟩
  · cases h

/-- the same for `value` (which is `wait` followed by returning or raising the content) -/
theorem value_timeout_exact (w : World) (h : (value w).2 = .timeout) :
    w.ar.ttl.finite = true ∧ w.ar.ttl.tmax ≤ (value w).1.now
      ∧ ((value w).1.now = max w.now w.ar.ttl.tmax
          ∨ ∃ s d pre, (value w).1.busy = w.busy ++ pre ++ [(s, d)] ∧ s ≤ w.ar.ttl.tmax
              ∧ w.ar.ttl.tmax < s + d ∧ (value w).1.now = s + d) := by
  have hw : (wait w).2 = .timeout := by
    unfold value at h
    split at h
    · split at h <;> cases h
    · exact h
  obtain ⟨a, _, _, c, d⟩ := timeout_exact w hw
  rw [value_fst]; exact ⟨a, c, d⟩

/-- a synchronous request is an asynchronous one carrying the configured timeout (`sync_is_async_plus_timeout`), so it
raises the timeout error no earlier than `τ` after it was issued, and exactly then unless the caller was busy serving
a request -/
theorem sync_timeout_exact (w : World) (τ : Option Int) (h : (syncRequest w τ).2 = .timeout) :
    ∃ t : Int, τ = some t ∧ 0 ≤ t ∧ w.now + t.toNat ≤ (syncRequest w τ).1.now
      ∧ ((syncRequest w τ).1.now = w.now + t.toNat
          ∨ ∃ s d pre, (syncRequest w τ).1.busy = w.busy ++ pre ++ [(s, d)] ∧ s ≤ w.now + t.toNat
              ∧ w.now + t.toNat < s + d ∧ (syncRequest w τ).1.now = s + d) := by
  unfold syncRequest at h ⊢
  obtain ⟨a, c, d⟩ := value_timeout_exact _ h
  -- the new result's deadline is `Timeout.make w.now τ`; its clock and busy log are those of `w`
  rw [(each_request_own_deadline w τ).1] at a c d
  obtain ⟨t, rfl, ht⟩ := (timeout_finite_iff _ _).mp a
  rw [Timeout.make_nonneg _ _ ht] at c d
  refine ⟨t, rfl, ht, c, d.imp_left fun d => ?_⟩
  rw [d]; exact Nat.max_eq_right (Nat.le_add_right ..)

/-! ### several requests on one connection: independent except through the environment

`MWorld` keeps one single-request world (a *view*) per request; replies carry the sequence number of their
request.  The theorems above are about one view and quantify over *all* its event sequences, environment
events (`tick`, `send`, `serve1`, `serveT`, `serveAt`) included. -/

/-- **One connection.** In every run of a multi-request world all per-request views agree on the clock, the
inbound channel and the busy log: the views are projections of one connection, not separate worlds. -/
theorem requests_share_one_connection (t0 : Nat) (es : List MEv) : MAgree (mruns (MWorld.init t0) es) :=
  mruns_agree es _ (MAgree.init t0)

/-- so readiness of one request is final whatever is done with the others: waits on them, their replies
(earlier or later ones, stale ones left over from abandoned requests), their expiry, new requests -/
theorem multi_ready_final (mw : MWorld) (es : List MEv) (k : Nat) (v : World) (hv : mw.views[k]? = some v)
    (hi : Inv v) (hr : v.ar.isReady = true) :
    ∃ v', (mruns mw es).views[k]? = some v' ∧ v'.ar.isReady = true ∧ v'.ar.isExc = v.ar.isExc
      ∧ v'.ar.obj = v.ar.obj := by
  obtain ⟨evs, h, _⟩ := view_after_runs es mw k v hv
  have := Frozen.runs evs (hi.frozen hr)
  exact ⟨_, h, this.1, this.2.1, this.2.2.1⟩

/-- and expiry of one request is final as long as *that* request is not re-armed: nothing done to other
requests can revive it or run its callbacks -/
theorem multi_expired_final (mw : MWorld) (es : List MEv) (k : Nat) (v : World) (hv : mw.views[k]? = some v)
    (hx : status v = .expired) (hn : ∀ τ, MEv.on k (.setExpiry τ) ∉ es) :
    ∃ v', (mruns mw es).views[k]? = some v' ∧ status v' = .expired ∧ v'.cbLog = v.cbLog := by
  obtain ⟨evs, h, p⟩ := view_after_runs es mw k v hv
  have hno : noRearm evs := by
    intro ev hev τ heq
    subst heq
    rcases p _ hev with h1 | h1
    · simp [isEnv] at h1
    · exact hn τ h1
  obtain ⟨a, b, _⟩ := expired_final v hx evs hno
  exact ⟨_, h, a, b⟩

/-! ### generated facts about the source (regenerated from /repo on every run) -/

/-- guard (not a property): the slots of `AsyncResult`, in any order, are exactly the state the model has:
`_is_ready`, `_is_exc`, `_obj`, `_callbacks`, `_ttl` (the fields of `AR`), `_conn` (the surrounding `World`) and
`_lock` (the exclusion that `addCallbackRace`'s `atomic` stands for); another slot is state the model lacks.
State kept elsewhere (on the `Timeout`, the connection, a base class) is not seen by this guard. -/
theorem slots_are_modelled :
    Gen.Async.slots = ["_callbacks", "_conn", "_is_exc", "_is_ready", "_lock", "_obj", "_ttl"] := rfl

/-! ### re-arming (outside the statement's events) -/

/-- `set_expiry` on an expired result makes it pending again when the new deadline lies in the future or
is absent: expiry is final only for as long as the user does not re-arm it. -/
theorem rearm_revives (w : World) (hx : status w = .expired) (τ : Option Int)
    (hτ : ∀ t, τ = some t → t ≠ 0) : status (setExpiry w τ) = .pending := by
  have h := (status_expired_iff w).mp hx
  rw [AR.expired, Bool.and_eq_true, Bool.not_eq_true'] at h
  refine (status_pending_iff _).mpr ⟨h.1, ?_⟩
  show (Timeout.make w.now τ).expired w.now = false
  cases τ with
  | none => rfl
  | some t =>
    rcases Int.lt_or_le t 0 with ht | ht
    · rw [Timeout.make_neg _ _ ht]; rfl
    · -- the new deadline `now + t` lies ahead, since `t ≠ 0`
      have : t ≠ 0 := hτ t rfl
      rw [timeout_deadline _ _ ht, decide_eq_false_iff_not]
      omega

/-! ### non-vacuity: concrete runs meet the hypotheses and show each behaviour -/

/-- reply first: two callbacks before, one after; value available; log in order with instants -/
example :
    run (World.init 0) [.setExpiry (some 3), .addCallback 1, .addCallback 2, .send 1 (.reply 0 false 7), .tick 1,
                        .qReady, .addCallback 3, .tick 9, .qValue, .qExpired]
      = (⟨10, 0, ⟨true, some false, some 7, [], ⟨true, 3⟩⟩, false, [], [(1, 1), (2, 1), (3, 1)], some 1, []⟩,
         [.unit, .unit, .unit, .unit, .unit, .bool true, .unit, .unit, .value (some 7), .bool false]) := by
  decide +kernel

/-- expiry first: wait raises exactly at the deadline; the late reply is discarded, callbacks never run -/
example :
    run (World.init 0) [.setExpiry (some 3), .addCallback 1, .send 5 (.reply 0 false 7), .wait, .tick 4, .serve1,
                        .qReady, .qValue]
      = (⟨7, 0, ⟨false, none, none, [1], ⟨true, 3⟩⟩, false, [], [], none, []⟩,
         [.unit, .unit, .unit, .timeout, .unit, .unit, .bool false, .timeout]) := by
  decide +kernel

/-- later than the deadline only by the request being served: deadline 3, a request arriving at 1 keeps the
thread busy for 4, the timeout error is raised at 5 -/
example :
    (run (World.init 0) [.setExpiry (some 3), .send 1 (.other 4), .send 2 (.reply 0 true 9), .qValue]).2
        = [.unit, .unit, .unit, .timeout]
      ∧ (runs (World.init 0) [.setExpiry (some 3), .send 1 (.other 4), .send 2 (.reply 0 true 9), .qValue]).now = 5
      ∧ (runs (World.init 0) [.setExpiry (some 3), .send 1 (.other 4), .send 2 (.reply 0 true 9), .qValue]).busy = [(1, 4)] := by
  decide +kernel

/-- a negative timeout is no timeout: the reply at 50 is waited for and returned (as an exception) -/
example :
    (run (World.init 0) [.setExpiry (some (-1)), .send 50 (.reply 0 true 9), .qValue]).2
      = [.unit, .unit, .raised (some 9)] := by
  decide +kernel

/-- the hypotheses of `expired_final`, `ready_final` and `pending_until_decided` are met by reachable worlds -/
example : status (runs (World.init 0) [.setExpiry (some 0)]) = .expired := by decide +kernel
example : Reachable (runs (World.init 0) [.arrive false 1]) ∧ (runs (World.init 0) [.arrive false 1]).ar.isReady = true :=
  ⟨⟨0, _, rfl⟩, by decide +kernel⟩
example : status (runs (World.init 0) [.setExpiry (some 2), .tick 1]) = .pending := by decide +kernel

/-- a synchronous request with timeout 2 whose reply comes at 5 fails at 2; with timeout `None` it returns -/
example : (syncRequest { World.init 0 with chan := [(5, .reply 1 false 1)] } (some 2)).2 = .timeout
    ∧ (syncRequest { World.init 0 with chan := [(5, .reply 1 false 1)] } (some 2)).1.now = 2
    ∧ (syncRequest { World.init 0 with chan := [(5, .reply 1 false 1)] } none).2 = .value (some 1) := by
  decide +kernel

/-- a `timed(…, 3)` wrapper first used 5 ticks after it was made: the call at 5 has its deadline at 8, the reply
at 6 is returned; the second call at 10 has its deadline at 13 and times out exactly then -/
example :
    (Timed.call { World.init 5 with chan := [(6, .reply 1 false 7)] } (Timed.make (some 3))).ar.ttl = ⟨true, 8⟩
    ∧ (value (Timed.call { World.init 5 with chan := [(6, .reply 1 false 7)] } (Timed.make (some 3)))).2 = .value (some 7)
    ∧ (value (Timed.call { World.init 10 with chan := [(20, .reply 1 false 7)] } (Timed.make (some 3)))).2 = .timeout
    ∧ (value (Timed.call { World.init 10 with chan := [(20, .reply 1 false 7)] } (Timed.make (some 3)))).1.now = 13 := by
  decide +kernel

/-- two requests: the first (deadline 2) is abandoned, its reply comes at 5 while the second request (issued at
3) is being waited for; the stale reply does nothing to the second request, whose own reply at 6 is returned -/
example :
    let mw := mruns (MWorld.init 0) [.request (some 2), .on 0 (.send 5 (.reply 1 false 11)), .on 0 .qValue,
                                     .on 0 (.tick 1), .request none, .on 1 (.send 3 (.reply 2 false 22))]
    (mstep mw (.on 1 .qValue)).2 = .value (some 22)
      ∧ ((mstep mw (.on 1 .qValue)).1.views.map (fun v => (v.now, v.ar.isReady, v.ar.obj, v.live)))
          = [(6, false, none, false), (6, true, some 22, false)] := by
  decide +kernel

/-- re-arming: expired at 1, re-armed, the reply at 3 is then accepted -/
example :
    (run (World.init 0) [.setExpiry (some 1), .send 3 (.reply 0 false 7), .tick 1, .qExpired, .setExpiry (some 5),
                         .qExpired, .qValue]).2
      = [.unit, .unit, .unit, .bool true, .unit, .bool false, .value (some 7)] := by
  decide +kernel

end Rpyc.Props.C15

/-! ### corollaries, adequacy lemmas and witnesses

Not property theorems: immediate corollaries of the theorems above, the fuel-adequacy lemma of `wait`, facts that hold
by construction of `mstep`, and the witnesses showing what the two measured obligations rest on. -/
namespace Rpyc.Async.C15Aux
open Rpyc Rpyc.Async Rpyc.Props.C15

/-- in particular the callbacks that ran are the callbacks registered: same ones, same order, same count -/
theorem callbacks_each_once (t0 : Nat) (evs : List Ev) (hr : (runs (World.init t0) evs).ar.isReady = true) :
    (runs (World.init t0) evs).cbLog.map Prod.fst = (regsOf (World.init t0) evs).map Prod.fst := by
  obtain ⟨_, t, _, h⟩ := (callbacks_once_in_order t0 evs).2 hr
  rw [h]; simp [List.map_map, Function.comp_def]

/-- the loop of `wait` never needs more iterations than messages in the channel plus two -/
theorem wait_total (w : World) : (wait w).2 ≠ .fuel := by
  rcases wait_cases w with ⟨w', _, hw⟩ | ⟨w', _, hw⟩ <;> rw [hw]
  · cases w'.ar.isReady <;> exact fun h => nomatch h
  · exact fun h => nomatch h

/-- with `None` or a negative timeout, waiting never raises the timeout error -/
theorem no_deadline_no_timeout (w : World) (h : w.ar.ttl.finite = false) : (wait w).2 ≠ .timeout := by
  intro ht
  have := (timeout_exact w ht).1
  rw [h] at this; cases this

/-- `wait` returning normally means the result is ready (so `value` yields its content) -/
theorem wait_returns_ready (w : World) (h : (wait w).2 = .unit) : (wait w).1.ar.isReady = true := by
  rcases wait_cases w with ⟨w', _, hw⟩ | ⟨w', _, hw⟩ <;> rw [hw] at h ⊢
  · cases hr : w'.ar.isReady with
    | true => rfl
    | false => rw [hr] at h; cases h
  · cases h

/-- with the *default* configuration (`sync_request_timeout` as found in the source) a synchronous request
that fails with the timeout error does so no earlier than that many ticks after it was issued -/
theorem default_sync_timeout (w : World) (h : (syncRequest w Gen.Async.syncRequestTimeout).2 = .timeout) :
    ∃ t : Int, Gen.Async.syncRequestTimeout = some t ∧ 0 ≤ t
      ∧ w.now + t.toNat ≤ (syncRequest w Gen.Async.syncRequestTimeout).1.now := by
  obtain ⟨t, h1, h2, h3, _⟩ := sync_timeout_exact w _ h
  exact ⟨t, h1, h2, h3⟩

/-- what the clause rests on: with the loop that stops at a raising callback (`allRun = false`) it fails — the
callback registered after a raising one never runs, although the result is ready, and both stay stored -/
theorem callbacks_lost_without_all_run :
    callR false true false 5 [⟨1, true, []⟩, ⟨2, false, []⟩] false 7 = ⟨true, some false, some 7, [(1, 5)], [1, 2], true⟩
      ∧ callR true true false 5 [⟨1, true, []⟩, ⟨2, false, []⟩] false 7
          = ⟨true, some false, some 7, [(1, 5), (2, 5)], [], true⟩ := by
  decide

/-- without the exclusion the clause fails: on a fresh pending request, the callback registered during the
publication is stored in a result that is already ready and never runs (no log entry) — whereas the serial order
runs it at the arrival instant -/
theorem racing_registration_lost_without_exclusion :
    (addCallbackRace false (World.init 3) 1 false 7).ar.isReady = true
      ∧ (addCallbackRace false (World.init 3) 1 false 7).ar.callbacks = [1]
      ∧ (addCallbackRace false (World.init 3) 1 false 7).cbLog = []
      ∧ (runs (World.init 3) [.addCallback 1, .arrive false 7]).cbLog = [(1, 3)]
      ∧ ¬ Inv (addCallbackRace false (World.init 3) 1 false 7) := by
  refine ⟨by decide, by decide, by decide, by decide, ?_⟩
  intro h
  have := (h (by decide)).1
  revert this
  decide

/-- **Independence.** Whatever happens to the other requests, the view of request `k` evolves as a
single-request run whose events are exactly the events addressed to request `k` plus environment events —
elapsed time, messages entering the channel, somebody serving: events of request A reach request B only that
way (and a reply carrying another request's sequence number does nothing to B, `dispatch_foreign`). -/
theorem other_requests_are_environment (mw : MWorld) (es : List MEv) (k : Nat) (v : World)
    (hv : mw.views[k]? = some v) :
    ∃ evs : List Ev, (mruns mw es).views[k]? = some (runs v evs)
      ∧ ∀ e' ∈ evs, isEnv e' = true ∨ .on k e' ∈ es :=
  view_after_runs es mw k v hv

end Rpyc.Async.C15Aux
