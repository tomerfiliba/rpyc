import RpycModel.Props.C16
/-
C17 — closing a server ends all its clients; departed clients leave nothing behind.
Only property theorems and their non-vacuity examples live here (namespace Rpyc.Props.C17); the automaton is
RpycModel/Srv/Server.lean, the invariant `GOk` and its preservation are in RpycModel/Srv/ServerLemmas.lean, what `close()`
does to one record in RpycModel/Srv/ServerContain.lean.

Quantifier: every sequence (no bound on length or on the number of clients) of connect (with good or failing
credentials, or reset by the client right after the handshake) / call / graceful close / abrupt close / server close,
for the threaded, pool, one-shot and forking automata, with or without an authenticator, any pool size ≥ 1.  TCP vs.
unix sockets is not a distinction of the model (it is one of the correspondence).

On the pinned code the statement is false for the forking server (`ForkingServer.close()` closes the listener
only: the children go on serving, no client sees end-of-stream, no hook runs): `C17_statement` stays visible,
`C17_forking_counterexample` refutes it with a concrete witness, `C17_partial` proves everything else.
-/
namespace Rpyc.Props.C17
open Rpyc Rpyc.Srv

/-- (1) after `close()` the listener is closed and every client that ever connected is terminated -/
def CloseTerminates (cfg : Cfg) : Prop :=
  ∀ s, Reach cfg s → ∃ s', step s .serverClose = .ok (s', .none) ∧ s'.listening = false ∧ s'.closedFlag = true ∧
    ∀ k, (s'.cli k).phase ≠ .absent → Terminated (s'.cli k)

/-- (2) closing twice is harmless: `close()` on a closed server changes nothing -/
def CloseIdempotent (cfg : Cfg) : Prop :=
  ∀ s, Reach cfg s → s.closedFlag = true → step s .serverClose = .ok (s, .none)

/-- (3) while the server runs, a client that has left (gracefully or abruptly, or rejected by the authenticator) is
mentioned by no table, descriptor, queue or registration of the server -/
def NoResidue (cfg : Cfg) : Prop :=
  ∀ s, Reach cfg s → s.closedFlag = false →
    ∀ k, (s.cli k).phase ≠ .absent → (s.cli k).clientOpen = false → Clean s k

/-- (4) a one-shot server takes exactly one connection from its listener, gives a service instance to at most that
one, and once it is finished with it the server is closed -/
def OneShotExactlyOne (cfg : Cfg) : Prop :=
  cfg.kind = .oneshot → ∀ s, Reach cfg s →
    s.accepted ≤ 1 ∧
    (∀ i j, (s.cli i).inst ≠ none → (s.cli j).inst ≠ none → i = j) ∧
    (∀ k, (s.cli k).phase = .done → s.closedFlag = true ∧ s.listening = false) ∧
    (s.closedFlag = false → s.accepted = 0 ∨ ∃ k, s.acceptBusy = some k ∧ (s.cli k).phase = .idle)

/-- the property at full strength: all four, for every server kind -/
def C17_statement : Prop :=
  ∀ cfg, Wf cfg → CloseTerminates cfg ∧ CloseIdempotent cfg ∧ NoResidue cfg ∧ OneShotExactlyOne cfg

/-- (threaded, pool, one-shot) for every op sequence of the statement's alphabet (`Op.c17`:
in it no pool worker is ever blocked and no hook blocks - for states with workers blocked in reads see
`pool_close_ends_blocked_clients`, for blocking hooks `close_passes_client_inside_disconnect_hook` and `closeWaits`),
`close()` returns, the listener is closed, and every client that ever connected — served, waiting in the listen queue,
or already gone — is terminated: end-of-stream for the client, descriptor released, untracked, hook run once -/
theorem close_terminates_clients (cfg : Cfg) (hw : Wf cfg) (hk : cfg.kind ≠ .forking) : CloseTerminates cfg := by
  intro s hr
  obtain ⟨s', hs'⟩ := close_succeeds hw hr
  have hcl := (closedFlag_after_close hs').1
  have hr' := hr.step rfl hs'
  have hg := hr'.ok hw
  refine ⟨s', hs', (hg.closed hcl).1, hcl, ?_⟩
  intro k hk'
  have hc := hg.cli k
  rw [hr'.cfg, hcl] at hc
  rcases hc.phases with hp | hp | hp | hp
  · exact absurd hp hk'
  · exact absurd (hc.backlog hp).2.2 (by simp)
  · exact absurd ((hc.idle hp).forking rfl) hk
  · exact (hc.done hp).terminated

/-- a second `close()` returns and changes nothing (all kinds) -/
theorem close_idempotent (cfg : Cfg) (hw : Wf cfg) : CloseIdempotent cfg := by
  intro s hr hcl
  by_cases hk : s.cfg.kind = .pool
  · exact step_serverClose_pool hk ((hr.ok hw).poolClose_closed hk hcl)
  · rw [step_serverClose_nonpool hk, baseClose, if_pos hcl]

/-- after any sequence of clients connecting and leaving, nothing of a running server mentions a
client that has left (all kinds) -/
theorem no_residue (cfg : Cfg) (hw : Wf cfg) : NoResidue cfg := by
  intro s hr hcl k hk hco
  have hg := hr.ok hw
  have hc := hg.cli k
  have hq : k ∉ s.queue := by simp [hg.q]
  have hb : k ∉ s.blocked := by simp [hg.b]
  rcases hc.phases with hp | hp | hp | hp
  · exact absurd hp hk
  · exact (hc.backlog hp).1.clean hq hb
  · exact absurd ((hc.idle hp).clientOpen.symm.trans hco) (by simp)
  · rw [hcl] at hc
    exact (hc.done hp).clean hq hb

theorem oneshot_exactly_one (cfg : Cfg) (hw : Wf cfg) : OneShotExactlyOne cfg := by
  intro hk s hr
  have hg := hr.ok hw
  have hk' : s.cfg.kind = .oneshot := by rw [hr.cfg]; exact hk
  refine ⟨(hg.oacc hk').1, hg.ouniq hk', ?_, ?_⟩
  · intro k hd
    have hcl := hg.odone hk' k hd
    exact ⟨hcl, (hg.closed hcl).1⟩
  · intro hcl
    cases hb : s.acceptBusy with
    | none => exact Or.inl ((hg.oacc hk').2 hcl hb)
    | some b => exact Or.inr ⟨b, rfl, (hg.busy b hb).2⟩

/-- everything the property says, except termination of the clients of a closed *forking* server -/
theorem C17_partial (cfg : Cfg) (hw : Wf cfg) :
    (cfg.kind ≠ .forking → CloseTerminates cfg) ∧ CloseIdempotent cfg ∧ NoResidue cfg ∧ OneShotExactlyOne cfg :=
  ⟨close_terminates_clients cfg hw, close_idempotent cfg hw, no_residue cfg hw, oneshot_exactly_one cfg hw⟩

/-- what does hold for a forking server: `close()` returns, stops the listener, is idempotent, and the parent holds
no descriptor of any client (it closed its copy right after the fork) -/
theorem forking_close_listener (cfg : Cfg) (hw : Wf cfg) (hk : cfg.kind = .forking) :
    ∀ s, Reach cfg s → ∃ s', step s .serverClose = .ok (s', .none) ∧ s'.listening = false ∧
      ∀ k, (s'.cli k).srvFd = false ∧ (s'.cli k).tracked = false := by
  intro s hr
  obtain ⟨s', hs'⟩ := close_succeeds hw hr
  have hcl := (closedFlag_after_close hs').1
  have hg := (hr.step rfl hs').ok hw
  have hcfg := (hr.step rfl hs').cfg
  refine ⟨s', hs', (hg.closed hcl).1, ?_⟩
  intro k
  have hc := hg.cli k
  rw [hcfg] at hc
  rcases hc.phases with hp | hp | hp | hp
  · exact ⟨(hc.absent hp).2.2.2.1, (hc.absent hp).tracked⟩
  · exact absurd (hc.backlog hp).2.1 (by simp [hk])
  · exact ⟨by simpa [hk] using (hc.idle hp).srvFd, by simpa [hk] using (hc.idle hp).tracked⟩
  · exact ⟨(hc.done hp).2.1, (hc.done hp).2.2.2.1⟩

/-- **close while a client is inside the authenticator** (slow credentials: `connect k .silent`, later `creds k c`).
`Server.accept` puts the socket into `clients` before the authenticator runs, so `close()` reaches it: in any state, a
tracked client whose authentication is in progress is terminated by the close (end-of-stream, released, untracked, never
given a service instance), and credentials that arrive afterwards are read by nobody: it is not served.  (Threaded and
one-shot servers; the extended alphabet is run against the real servers by the correspondence, all four kinds.) -/
theorem close_reaches_authenticating_client (s : St) (k : Nat) (hk : s.cfg.kind ≠ .pool) (hcl : s.closedFlag = false)
    (ha : (s.cli k).phase = .authing) (ht : (s.cli k).tracked = true) (c : Cred) :
    ∃ s', step s .serverClose = .ok (s', .none) ∧ s'.listening = false ∧
      (s'.cli k).shut = true ∧ (s'.cli k).phase = .done ∧ (s'.cli k).tracked = false ∧ (s'.cli k).srvFd = false ∧
      (s'.cli k).inst = (s.cli k).inst ∧
      (supply s' k c).cli k = { s'.cli k with cred := c } := by
  have hc : (baseClose s).cli k = { release (s.cli k) with tracked := false } := by
    rw [baseClose_cli hcl]; simp [closeEffect, ht, shutOne, ha]
  refine ⟨baseClose s, step_serverClose_nonpool hk, baseClose_listening hcl, ?_⟩
  -- the socket is shut down: late credentials are recorded and read by nobody
  rw [supply, if_pos (by rw [hc]; rfl), set_cli_same, hc]
  exact ⟨rfl, rfl, rfl, rfl, rfl, rfl⟩

/-- **a client that resets or vanishes while inside the authenticator** (connected with slow credentials, then gone):
the authenticator's read fails, the exception leaves through the `finally` of `_authenticate_and_serve_client`, which
shuts the socket down and untracks it: nothing of the server mentions the client afterwards (any state; threaded and
forking servers, where the authenticator runs in the client's own thread / child) -/
theorem gone_inside_authenticator_leaves_nothing (s : St) (k : Nat)
    (hk : s.cfg.kind = .threaded ∨ s.cfg.kind = .forking) (ha : (s.cli k).phase = .authing)
    (hs : (s.cli k).shut = false) (ho : (s.cli k).clientOpen = true) :
    ∃ s', step s (.abruptClose k) = .ok (s', .none) ∧ (s'.cli k).tracked = false ∧ (s'.cli k).srvFd = false ∧
      (s'.cli k).child = false ∧ (s'.cli k).shut = true ∧ (s'.cli k).phase = .done ∧ (s'.cli k).inst = (s.cli k).inst := by
  have hcli : (send (s.set k { s.cli k with clientOpen := false }) k [.fin]).cli k =
      { release { s.cli k with clientOpen := false, inbox := (s.cli k).inbox ++ [.fin] } with tracked := false } := by
    rcases hk with hk | hk <;> simp [send, hs, wake, ha, hk, afterEnd]
  refine ⟨_, step_abruptClose (by simp [ha]) ho, ?_⟩
  rw [hcli]
  exact ⟨rfl, rfl, rfl, rfl, rfl, rfl⟩

/-- **close while the thread of a departed client is still inside its service's `on_disconnect`** (a hook that blocks:
`call k .arm`, the client leaves, later `releaseHook k`): the connection is closed - its socket object closed, and still a
member of `clients`, until that thread's `finally` runs.  `Server.close()` must not be stopped by such a socket: in any
state of a threaded / one-shot / forking server it returns, the listener is closed, nothing stays tracked, and every
tracked client that was being served or authenticated is given end-of-stream and its descriptor released; the client
inside the hook stays as it is (its hook has already been entered exactly once) and is finished by `releaseHook` -/
theorem close_passes_client_inside_disconnect_hook (s : St) (k : Nat) (hk : s.cfg.kind ≠ .pool)
    (hcl : s.closedFlag = false) (hp : (s.cli k).phase = .closing) :
    ∃ s', step s .serverClose = .ok (s', .none) ∧ s'.listening = false ∧ (∀ j, (s'.cli j).tracked = false) ∧
      (∀ j, (s.cli j).tracked = true →
        (s.cli j).phase = .idle ∨ (s.cli j).phase = .blocked ∨ (s.cli j).phase = .authing →
        (s'.cli j).shut = true ∧ (s'.cli j).srvFd = false) ∧
      (s'.cli k).phase = .closing ∧ (s'.cli k).discHooks = (s.cli k).discHooks ∧
      ∃ s'', step s' (.releaseHook k) = .ok (s'', .none) ∧ (s''.cli k).phase = .done ∧ (s''.cli k).tracked = false ∧
        (s''.cli k).child = false := by
  obtain ⟨hp', hd, _⟩ := closeEffect_closing hp
  rw [← baseClose_cli hcl] at hp' hd
  refine ⟨baseClose s, step_serverClose_nonpool hk, baseClose_listening hcl, fun j => ?_, fun j ht hph => ?_, hp', hd, ?_⟩
  · rw [baseClose_cli hcl]; exact closeEffect_tracked _
  · rw [baseClose_cli hcl]; exact closeEffect_shut ht hph
  · refine ⟨_, step_releaseHook_nonpool hp' (by rw [baseClose_cfg]; exact hk), ?_⟩
    rw [dedRelease_cli (Or.inr (by simp [baseClose, hcl]))]
    exact ⟨rfl, rfl, rfl⟩

/-- **a client for which no thread / child process could be started** (`spawn()` / `os.fork()` failed: threaded and
forking servers): in any state, if it is accepted at all it is terminated at once - end-of-stream, no descriptor, not
tracked, no child, no connection, no service instance, no hook ever run - and every other record, the queue and the
blocked list are exactly as before: nothing of it remains -/
theorem failed_spawn_leaves_nothing (s t : St) (k : Nat) (h : step s (.connectNoSpawn k) = .ok (t, .ok)) :
    Terminated (t.cli k) ∧ (t.cli k).inst = none ∧ (t.cli k).polled = false ∧
    (∀ j, j ≠ k → t.cli j = s.cli j) ∧ t.queue = s.queue ∧ t.blocked = s.blocked ∧ t.listening = s.listening := by
  rcases (step_ok h).2 with ⟨-, ho⟩ | ⟨-, rfl, -⟩
  · cases ho
  · rw [rejectNew_cli_self]
    exact ⟨turnedAway_terminated, rfl, rfl, fun j hj => rejectNew_cli_ne s hj, rfl, rfl, rfl⟩

/-- ... e.g. on a forking server with a client being served: the unlucky client 2 sees end-of-stream, client 1 goes on
being served, client 3 is served -/
example : runObs (init { kind := .forking, auth := false, nb := 1 })
      [.connect 1 .good, .call 1 .ping, .connectNoSpawn 2, .call 1 .ping, .connect 3 .good, .call 3 .ping] =
    [some .ok, some (.reply .pong), some .ok, some (.reply .pong), some .ok, some (.reply .pong)] ∧
    ((run (init { kind := .forking, auth := false, nb := 1 }) [.connect 1 .good, .connectNoSpawn 2]).cli 2).shut = true ∧
    ((run (init { kind := .forking, auth := false, nb := 1 }) [.connect 1 .good, .connectNoSpawn 2]).cli 2).child = false :=
  by decide

/-! ### closing a pool whose workers are busy reading -/

/-- the obligation: the code's `ThreadPoolServer.close()` ends the connections' streams before it joins the workers -
measured on the live `close()` on every run (stand-in threads and connection recording the order of events); false on a
tree that joins first: there `close()` never returns while one client holds an incomplete frame open -/
theorem pool_close_unblocks_workers : Gen.Srv.poolCloseUnblocksWorkers = true := by decide

/-- **closing a pool with workers blocked in reads** (clients holding incomplete frames open - any number of them, any
state of the queue; the C17 run-level theorems have no such clients in their alphabet): unless application code holds it
up (`hookHolds`: a blocking `on_disconnect`), `close()` returns, the listener is closed, no worker is left blocked, and
every client the pool had in `fd_to_conn` - the ones workers were blocked on included - is given end-of-stream, its
connection closed, its descriptor released, its entry removed -/
theorem pool_close_ends_blocked_clients (s : St) (hk : s.cfg.kind = .pool) (hcl : s.closedFlag = false)
    (hu : s.cfg.closeUnblocks = true) (hh : ∀ k ∈ s.ids, hookHolds (s.cli k) = false) :
    ∃ s', step s .serverClose = .ok (s', .none) ∧ s'.listening = false ∧ s'.closedFlag = true ∧ s'.blocked = [] ∧
      s'.poolUp = false ∧
      ∀ k, (s.cli k).inFd = true →
        (s'.cli k).shut = true ∧ (s'.cli k).inFd = false ∧ (s'.cli k).connOpen = false ∧ (s'.cli k).phase = .done ∧
        (s'.cli k).srvFd = false ∧ (s'.cli k).tracked = false := by
  have hw : closeWaits s = false := by
    have : s.ids.any (fun k => hookHolds (s.cli k)) = false := by
      rw [List.any_eq_false]; intro k hk'; simpa using hh k hk'
    simp [closeWaits, this, hu]
  refine ⟨{ ((baseClose s).mapCli dropEffect) with poolUp := false, blocked := [] },
    step_serverClose_pool hk (by simp [poolClose, hw]), by simp [baseClose, hcl, St.mapCli], by simp [baseClose, hcl, St.mapCli], rfl, rfl, ?_⟩
  intro k hin
  -- what `close()` does to a record, then `_drop_connection` of what is still in `fd_to_conn`
  simp only [mapCli_cli, baseClose_cli hcl]
  obtain ⟨d1, d2, d3, d4, d5, d6⟩ := dropEffect_inFd ((closeEffect_inFd (s.cli k)).trans hin)
  exact ⟨d1, d2, d3, d4, d5, d6.trans (closeEffect_tracked _)⟩

/-- ... for the code as it is: the hypothesis `closeUnblocks = true` is the measured obligation -/
theorem code_pool_close_ends_blocked_clients (s : St) (hk : s.cfg.kind = .pool) (hcl : s.closedFlag = false)
    (hc : s.cfg.closeUnblocks = Gen.Srv.poolCloseUnblocksWorkers) (hh : ∀ k ∈ s.ids, hookHolds (s.cli k) = false) :
    ∃ s', step s .serverClose = .ok (s', .none) ∧ s'.listening = false ∧ s'.blocked = [] ∧
      ∀ k, (s.cli k).inFd = true → (s'.cli k).shut = true ∧ (s'.cli k).connOpen = false ∧ (s'.cli k).inFd = false := by
  obtain ⟨s', h1, h2, _, h4, _, h6⟩ :=
    pool_close_ends_blocked_clients s hk hcl (hc.trans pool_close_unblocks_workers) hh
  exact ⟨s', h1, h2, h4, fun k hk' => ⟨(h6 k hk').1, (h6 k hk').2.2.1, (h6 k hk').2.1⟩⟩

/-- `connect 1; call 1; connect 2; raw 2 [incomplete frame]` -/
def hangOps : List Op := [.connect 1 .good, .call 1 .ping, .connect 2 .good, .raw 2 [.part]]

/-- the witness `hangOps; serverClose` on a pool of two workers.  With the code that joins its workers first
(`closeUnblocks := false`) `close()` does not return (and, not modelled further: the listener is closed, nobody has seen
end-of-stream, no hook has run); with the repaired order it returns and both clients - the idle one and the one a worker
was blocked on - are terminated, each disconnect hook run once -/
theorem C17_pool_close_hang_counterexample :
    (run (init { kind := .pool, auth := false, nb := 2, closeUnblocks := false }) hangOps).blocked = [2] ∧
    (poolClose (run (init { kind := .pool, auth := false, nb := 2, closeUnblocks := false }) hangOps)).isNone = true ∧
    (poolClose (run (init { kind := .pool, auth := false, nb := 2 }) hangOps)).isSome = true ∧
    (run (init { kind := .pool, auth := false, nb := 2 }) (hangOps ++ [.serverClose])).closedFlag = true ∧
    ((run (init { kind := .pool, auth := false, nb := 2 }) (hangOps ++ [.serverClose])).cli 1).shut = true ∧
    ((run (init { kind := .pool, auth := false, nb := 2 }) (hangOps ++ [.serverClose])).cli 2).shut = true ∧
    ((run (init { kind := .pool, auth := false, nb := 2 }) (hangOps ++ [.serverClose])).cli 1).discHooks = 1 ∧
    ((run (init { kind := .pool, auth := false, nb := 2 }) (hangOps ++ [.serverClose])).cli 2).discHooks = 1 ∧
    ((run (init { kind := .pool, auth := false, nb := 2 }) (hangOps ++ [.serverClose])).cli 2).inFd = false ∧
    (run (init { kind := .pool, auth := false, nb := 2 }) (hangOps ++ [.serverClose])).blocked = [] := by decide

/-- the hypotheses of `pool_close_ends_blocked_clients` are met by that state (a worker blocked, nothing holding) -/
example : (∀ k ∈ (run (init { kind := .pool, auth := false, nb := 2 }) hangOps).ids,
      hookHolds ((run (init { kind := .pool, auth := false, nb := 2 }) hangOps).cli k) = false) ∧
    (run (init { kind := .pool, auth := false, nb := 2 }) hangOps).blocked ≠ [] ∧
    ((run (init { kind := .pool, auth := false, nb := 2 }) hangOps).cli 2).inFd = true := by decide

/-- application code does hold `close()` up, with either order: a worker inside a blocking `on_disconnect` is joined -/
example : (poolClose (run (init { kind := .pool, auth := false, nb := 2 })
      [.connect 1 .good, .call 1 .arm, .abruptClose 1])).isNone = true := by decide

/-! ### the pool's table is keyed by descriptor number: a departed client removes only its own entry -/

/-- the obligation: the code's end-of-stream path (`_serve_requests` → `_drop_connection`) removes only the connection it was
serving — measured on the live code on every run; false on a tree whose `_drop_connection(fd)` pops whatever is stored
under that number by then -/
theorem pool_drop_spares_newcomer : Gen.Srv.poolDropSparesNewcomer = true := C16.pool_drop_spares_newcomer

/-- a worker comes back from a departed client's blocking `on_disconnect` (the connection was closed, and its descriptor
number free, all the while): that client is finished with and its entry gone, and no other client's record changes —
whoever connected meanwhile and whichever number it was given -/
theorem departed_removes_only_its_own_entry (s t : St) (o : Obs) (k : Nat) (hk : s.cfg.kind = .pool)
    (hs : s.cfg.spare = true) (hst : step s (.releaseHook k) = .ok (t, o)) :
    (∀ g, g ≠ k → (s.cli g).phase ≠ .backlog → g ∉ s.queue → Same (s.cli g) (t.cli g)) :=
  fun g => C16.release_touches_only_its_own s t o k g hk hs hst

/-- with the pinned `_drop_connection(fd)`: client 1 leaves, client 3 is given its descriptor number while client 1's
`on_disconnect` is still running; when it returns the server removes and closes client 3's connection -/
theorem pool_fd_reuse_counterexample :
    let ops : List Op := [.connect 1 .good, .call 1 .arm, .abruptClose 1, .connectReuse 3 1, .releaseHook 1]
    ((run (init { kind := .pool, auth := false, nb := 2, spare := false }) ops).cli 3).inFd = false ∧
    ((run (init { kind := .pool, auth := false, nb := 2, spare := false }) ops).cli 3).shut = true ∧
    ((run (init { kind := .pool, auth := false, nb := 2, spare := true }) ops).cli 3).inFd = true ∧
    ((run (init { kind := .pool, auth := false, nb := 2, spare := true }) ops).cli 3).shut = false := by decide

/-! ### the forking server: the statement fails (finding `C17:forking:close-leaves-children-serving`) -/

def witnessCfg : Cfg := { kind := .forking, auth := false, nb := 1 }
def witnessOps : List Op := [.connect 1 .good, .call 1 .ping]

/-- the witness as a run: after `serverClose` the listener is closed, but client 1 has not been given end-of-stream, its
child process is alive, its disconnect hook has not run — and its next call is still answered -/
theorem C17_forking_witness :
    let s := run (init witnessCfg) (witnessOps ++ [.serverClose])
    s.listening = false ∧ s.closedFlag = true ∧ (s.cli 1).shut = false ∧ (s.cli 1).child = true ∧
    (s.cli 1).discHooks = 0 ∧ (s.cli 1).connOpen = true ∧
    runObs (init witnessCfg) (witnessOps ++ [.serverClose, .call 1 .ping]) =
      [some .ok, some (.reply .pong), some .none, some (.reply .pong)] := by
  decide

/-- the full statement is false on the pinned code -/
theorem C17_forking_counterexample : ¬ C17_statement := by
  intro h
  obtain ⟨s', hs', _, _, ht⟩ :=
    (h witnessCfg (by intro h; cases h)).1 (run (init witnessCfg) witnessOps) ⟨witnessOps, by decide, rfl⟩
  obtain ⟨hp, -⟩ | ⟨-, rfl⟩ := (step_ok hs').1
  · revert hp; decide
  have h1 := (ht 1 (by decide)).1
  revert h1
  decide

/-! ### non-vacuity: concrete sequences of the alphabet reach non-trivial states that meet the hypotheses -/

/-- three clients on a pool of two workers behind an authenticator: one served and still connected, one that left
abruptly, one rejected; then close, twice -/
def sample : List Op :=
  [.connect 1 .good, .call 1 .ping, .connect 2 .good, .call 2 .lend, .connect 3 .bad, .abruptClose 2, .call 1 .ping,
   .serverClose, .serverClose, .call 1 .ping]

def sampleCfg : Cfg := { kind := .pool, auth := true, nb := 2 }

example : Wf sampleCfg ∧ (∀ op ∈ sample, op.c17 = true) := ⟨fun _ => by decide, by decide⟩
example : Reach sampleCfg (run (init sampleCfg) sample) := ⟨sample, by decide, rfl⟩
/-- what the clients saw: served, served, served, lent an object, rejected (the connect itself succeeds), -, served,
-, -, end-of-stream -/
example : runObs (init sampleCfg) sample =
    [some .ok, some (.reply .pong), some .ok, some (.reply (.ref 0)), some .ok, some .none, some (.reply .pong),
     some .none, some .none, some .eof] := by decide
/-- before the close client 1 is in `fd_to_conn` and registered, client 2 (left) and 3 (rejected) are nowhere -/
example : ((run (init sampleCfg) (sample.take 7)).cli 1).inFd = true ∧
    ((run (init sampleCfg) (sample.take 7)).cli 1).polled = true ∧
    Clean (run (init sampleCfg) (sample.take 7)) 2 ∧ Clean (run (init sampleCfg) (sample.take 7)) 3 ∧
    ((run (init sampleCfg) (sample.take 7)).cli 2).discHooks = 1 := by
  refine ⟨by decide, by decide, ?_, ?_, by decide⟩ <;> exact ⟨by decide, by decide, by decide, by decide, by decide, by decide, by decide, by decide⟩
/-- after it, client 1 is terminated with its hook run once -/
example : Terminated ((run (init sampleCfg) sample).cli 1) ∧ ((run (init sampleCfg) sample).cli 1).discHooks = 1 := by
  exact ⟨⟨by decide, by decide, by decide, by decide, by decide, by decide, by decide, by decide⟩, by decide⟩

/-- slow credentials on a threaded server behind an authenticator: client 2 is inside the authenticator when the server is
closed; it gets end-of-stream, its late (good) credentials do not get it served, nothing remains -/
def slowSample : List Op := [.connect 1 .good, .connect 2 .silent, .serverClose, .creds 2 .good, .call 2 .ping]
example : ((run (init { kind := .threaded, auth := true, nb := 1 }) (slowSample.take 2)).cli 2).phase = .authing ∧
    ((run (init { kind := .threaded, auth := true, nb := 1 }) (slowSample.take 2)).cli 2).tracked = true ∧
    runObs (init { kind := .threaded, auth := true, nb := 1 }) slowSample =
      [some .ok, some .ok, some .none, some .none, some .eof] ∧
    ((run (init { kind := .threaded, auth := true, nb := 1 }) slowSample).cli 2).inst = none ∧
    ((run (init { kind := .threaded, auth := true, nb := 1 }) slowSample).cli 2).tracked = false := by decide

/-- a threaded server: client 1's `on_disconnect` blocks; it leaves (its thread sits in the hook, the closed socket still in
`clients`), the server is closed with client 2 connected, then the hook returns: client 2 was given end-of-stream by the
close, both hooks ran once, nothing is tracked -/
def hookSample : List Op :=
  [.connect 1 .good, .call 1 .arm, .connect 2 .good, .abruptClose 1, .serverClose, .releaseHook 1]
example : ((run (init { kind := .threaded, auth := false, nb := 1 }) (hookSample.take 4)).cli 1).phase = .closing ∧
    ((run (init { kind := .threaded, auth := false, nb := 1 }) (hookSample.take 4)).cli 1).tracked = true ∧
    ((run (init { kind := .threaded, auth := false, nb := 1 }) (hookSample.take 4)).cli 1).srvFd = false ∧
    ((run (init { kind := .threaded, auth := false, nb := 1 }) (hookSample.take 5)).cli 2).shut = true ∧
    ((run (init { kind := .threaded, auth := false, nb := 1 }) (hookSample.take 5)).cli 1).phase = .closing ∧
    ((run (init { kind := .threaded, auth := false, nb := 1 }) hookSample).cli 1).phase = .done ∧
    ((run (init { kind := .threaded, auth := false, nb := 1 }) hookSample).cli 1).discHooks = 1 ∧
    ((run (init { kind := .threaded, auth := false, nb := 1 }) hookSample).cli 2).discHooks = 1 ∧
    ((run (init { kind := .threaded, auth := false, nb := 1 }) hookSample).cli 1).tracked = false := by decide

def oneShotSample : List Op := [.connect 1 .good, .connect 2 .good, .call 2 .ping, .gracefulClose 1]
/-- one-shot: the second connection waits in the listen queue and is reset when the server closes itself -/
example : (run (init { kind := .oneshot, auth := false, nb := 1 }) oneShotSample).closedFlag = true ∧
    (run (init { kind := .oneshot, auth := false, nb := 1 }) oneShotSample).accepted = 1 ∧
    ((run (init { kind := .oneshot, auth := false, nb := 1 }) oneShotSample).cli 2).inst = none ∧
    ((run (init { kind := .oneshot, auth := false, nb := 1 }) oneShotSample).cli 2).shut = true := by decide

end Rpyc.Props.C17
