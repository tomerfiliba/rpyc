import RpycModel.Props.C13
/-
C14 — a thread waiting for a reply returns as soon as that reply has been processed, no matter which
thread happened to receive it; it does not go on waiting for further traffic or for its timeout.

The statement is false of the pinned code (DESIGN.md F3): `serve()` releases the receive lock and notifies
the waiters *before* it dispatches the reply, and `AsyncResult.wait` tests readiness *outside* the receive
lock; a waiter whose readiness test precedes the publication of its result can take the receive lock and
block in `poll()` although its reply has meanwhile been dispatched by the other thread — until its own
deadline, forever if `sync_request_timeout` is None.  The model carries the defect faithfully:
`C14_statement` is the invariant, `C14_counterexample*` are explicit schedules of the executable model
(checked by `decide`), `C14_partial*` say what does hold.
-/
namespace Rpyc.Props.C14
open Rpyc.Conc.Serve

/-- **The property.** In every reachable state, a client whose reply has been processed (`ready`) is not
blocked in `poll()` or asleep on the condition.  (`blocked` in `poll` = nothing to read, deadline not reached,
stream not ended, connection not closed.) -/
def C14_statement : Prop :=
  ∀ s, Reachable s → ∀ t, inCall s t = true → (s.cells (s.loc t).seq).ready = true → blocked s t = false

private def r (t : Tid) (n : Nat) : List Actor := List.replicate n (.run t)

/-- The witness (DESIGN.md Appendix C.1): thread 2 is a background serving thread, thread 1 the caller.
The caller sends its request (`c1 c2 [c3]`); the peer answers; the background thread takes the receive lock,
receives the caller's reply, releases the lock and notifies (`b0 s0 s1 s2 s3 p0 r0 n0 n1 n2`); the caller
tests readiness (false), enters `serve`, takes the lock and polls (`w0 s0 s1 s2 s3`, now at `p0` with an
empty channel); the background thread dispatches the reply (`d0 d1 d2 d3 d4 d5`). -/
def witness (tmo : Option Nat) : List Actor :=
  [.bg 2, .call 1 tmo] ++ r 1 (if tmo.isSome then 3 else 2) ++ [.peer 0 false 7] ++ r 2 10 ++ r 1 5 ++ r 2 6

/-- the caller is blocked in `poll` with its result ready -/
def stalled (s : St) (t : Tid) : Bool :=
  inCall s t && (s.cells (s.loc t).seq).ready && blocked s t && decide ((s.loc t).pc = .p0)

theorem witness_stalls : (run init (witness (some 10))).map (stalled · 1) = some true := by decide

/-- **C14 is false of the pinned code.** -/
theorem C14_counterexample : ¬ C14_statement := by
  intro hst
  obtain ⟨s, e, hs⟩ := Option.map_eq_some_iff.1 witness_stalls
  simp only [stalled, Bool.and_eq_true, decide_eq_true_eq] at hs
  have := hst s (reachable_run .init _ e) 1 hs.1.1.1 hs.1.1.2
  rw [hs.1.2] at this
  cases this

/-- … and the caller stays blocked until its own deadline: in the witness state the only way out of `poll`
is time reaching the expiry of the request (10), although the reply was processed at time 0; no thread
step of the caller is enabled -/
theorem C14_counterexample_until_deadline :
    (run init (witness (some 10))).map (fun s => (enabled s 1, (s.loc 1).dl, s.now, s.chan.isEmpty))
      = some (false, some 10, 0, true) := by decide

/-- with `sync_request_timeout = None` the caller is blocked for ever: no deadline, nothing to read, and
time passing does not help (any number of ticks later it is still not enabled) -/
theorem C14_counterexample_forever (d : Nat) :
    (run init (witness none ++ [.tick d])).map (fun s => (stalled s 1, enabled s 1, (s.loc 1).dl))
      = some (true, false, none) := by
  -- the witness state itself does not depend on `d`: evaluate it once
  have hw : (run init (witness none)).map (fun s =>
      (((s.loc 1).pc, (s.loc 1).dl, s.chan.isEmpty), ((s.cells (s.loc 1).seq).ready, (s.loc 1).bg, s.eof, s.closed)))
      = some ((.p0, none, true), (true, false, false, false)) := by decide
  obtain ⟨s, e, hw⟩ := Option.map_eq_some_iff.1 hw
  simp only [Prod.mk.injEq, List.isEmpty_iff] at hw
  obtain ⟨⟨f1, f2, f3⟩, f4, f5, f6, f7⟩ := hw
  rw [run_append, e]
  simp [run, step, stalled, inCall, blocked, blockedInPoll, blockedOnCond, enabled, stepRun, doP0, expiredAt,
    f1, f2, f3, f4, f5, f6, f7]

/-- second shape of the same defect: the waiter tests readiness *before* the dispatch completes and takes
the receive lock only *after* it (`w0` by the caller, then the background thread's whole `serve`, then the
caller's `s0 s1 s2 s3`) -/
def witnessLate : List Actor :=
  [.bg 2, .call 1 (some 10)] ++ r 1 3 ++ [.peer 0 false 7] ++ r 2 6 ++ r 1 1 ++ r 2 10 ++ r 1 4

theorem C14_counterexample_late : (run init witnessLate).map (stalled · 1) = some true := by decide

/-- third shape: no background thread at all — another *client* receives and dispatches the reply
(thread 2 receives thread 1's reply; thread 1, woken by the notify, takes the lock before the dispatch) -/
def witnessClients : List Actor :=
  [.call 1 none, .call 2 (some 9)] ++ r 1 2 ++ r 2 3 ++ r 2 5 ++ r 1 5 ++ [.peer 0 false 7] ++ r 2 5 ++ r 1 7 ++ r 2 6

theorem C14_counterexample_clients :
    (run init witnessClients).map (fun s => (stalled s 1, s.popper 0, (s.loc 1).dl)) = some (true, some 2, none) := by
  decide

/-- **Partial result 1: the invariant holds whenever the receiver is the waiter itself.**  If the thread
that popped the callback (= received and dispatched the reply) is the waiting thread, it is never blocked
with its result ready: it is on its way out of `wait`. -/
theorem C14_partial_self {s : St} (h : Reachable s) (t : Tid) (hc : inCall s t = true)
    (hr : (s.cells (s.loc t).seq).ready = true) (hp : s.popper (s.loc t).seq = some t) :
    blocked s t = false := by
  have hs := inCall_eq_hasSeq s t ▸ hc
  rcases (invS_of_reachable h).self_dispatch t hs hr hp with e | e | e | e
  · simp [blocked, blockedInPoll, blockedOnCond, e]
  · simp [blocked, blockedInPoll, blockedOnCond, e]
  · simp [blocked, blockedInPoll, blockedOnCond, e]
  · -- the thread that closed the connection completed its own request and is on its way out of `serve`
    have hh := (invS_of_reachable h).raising_pc t e
    have h1 : (s.loc t).pc ≠ .p0 := by intro e'; rw [e'] at hh; cases hh
    have h2 : (s.loc t).pc ≠ .zz := by intro e'; rw [e'] at hh; cases hh
    simp [blocked, blockedInPoll, blockedOnCond, h1, h2]

/-- consequently, a stalled waiter's reply was always dispatched by a *different* thread -/
theorem C14_stall_needs_other_receiver {s : St} (h : Reachable s) (t : Tid) (hc : inCall s t = true)
    (hr : (s.cells (s.loc t).seq).ready = true) (hb : blocked s t = true) :
    s.popper (s.loc t).seq ≠ some t := by
  intro hp
  rw [C14_partial_self h t hc hr hp] at hb
  cases hb

/-- **Partial result 2: in all cases the waiter is released no later than its own deadline.**  Once the
request's expiry time has been reached, the client is not blocked in `poll()` nor asleep on the condition
(inside `serve` its deadline is its request's expiry, and the condition wait never outlasts it). -/
theorem C14_partial_deadline {s : St} (h : Reachable s) (t : Tid) (hc : inCall s t = true) (d : Time)
    (httl : (s.cells (s.loc t).seq).ttl = some d) (hd : d ≤ s.now) : blocked s t = false := by
  have i := invS_of_reachable h
  have hs := inCall_eq_hasSeq s t ▸ hc
  by_cases hp : (s.loc t).pc = .p0
  · have hdl := i.dl_ttl t hs (by rw [hp]; rfl)
    simp [blocked, blockedInPoll, blockedOnCond, hp, hdl, httl, expiredAt, hd]
  · by_cases hz : (s.loc t).pc = .zz
    · have hdl := i.dl_ttl t hs (by rw [hz]; rfl)
      obtain ⟨w, hw, hle⟩ := i.wdl_le t hz d (by rw [hdl, httl])
      have : w ≤ s.now := by
        have : max s.now d = s.now := Nat.max_eq_left hd
        rw [this] at hle; exact hle
      simp [blocked, blockedInPoll, blockedOnCond, hz, hw, expiredAt, this]
    · simp [blocked, blockedInPoll, blockedOnCond, hp, hz]

/-- a ready cell holds the peer's answer: `C13.publication_order` -/
theorem publication {s : St} (h : Reachable s) (q : Seq) (hr : (s.cells q).ready = true) :
    s.completions q = 1 ∧ ∃ e v, (s.cells q).isExc = some e ∧ (s.cells q).obj = some v ∧ s.answer q = some (e, v) :=
  C13.publication_order h q hr

/-- **Partial result 3: no wrong result.**  Whatever a finished call returns is the peer's answer to that
very request (the stall delays the caller; it never hands it a wrong or unpublished value). -/
theorem C14_partial_value {s : St} (h : Reachable s) (t : Tid) (e : Option Bool) (o : Option Nat)
    (hb : (s.loc t).bg = false) (hr : (s.loc t).result = some (.value e o)) :
    ∃ e' v, s.answer (s.loc t).seq = some (e', v) ∧ e = some e' ∧ o = some v :=
  C13.caller_gets_own_reply h t e o hb hr

/-- Whenever a client is blocked although its result is ready:
the result was popped and published by another thread (`receiver ≠ waiter`), and the client is in exactly one of
two positions — inside `poll()` holding the receive lock with nothing to read and the stream open (it acquired the
lock after the receiver's release: the harness's `…waiter-acquires-between-release-and-dispatch` shape), or asleep in
the condition's wait-set (queued behind the receive lock, nobody having notified since: the `…-no-notify-after`
shape).  The harness signatures refine these two positions by the order of the readiness test, the lock
acquisition and the publication in the trace; the model state has no history, so that order is not a Lean
statement. -/
theorem C14_stall_classification {s : St} (h : Reachable s) (t : Tid) (hc : inCall s t = true)
    (hr : (s.cells (s.loc t).seq).ready = true) (hb : blocked s t = true) :
    (∃ u, s.popper (s.loc t).seq = some u ∧ u ≠ t) ∧
    (((s.loc t).pc = .p0 ∧ s.recvLock = some t ∧ s.chan = [] ∧ s.eof = false ∧ s.closed = false) ∨
     ((s.loc t).pc = .zz ∧ t ∈ s.waiters ∧ s.condLock ≠ some t)) := by
  constructor
  · obtain ⟨u, hu⟩ := ready_popped h _ hr
    refine ⟨u, hu, fun e => ?_⟩
    subst e
    exact C14_stall_needs_other_receiver h u hc hr hb hu
  · have hL := invL_of_reachable h
    simp only [blocked, Bool.or_eq_true] at hb
    rcases hb with hb | hb
    · simp only [blockedInPoll, Bool.and_eq_true, decide_eq_true_eq, Bool.not_eq_true', List.isEmpty_iff] at hb
      obtain ⟨⟨⟨⟨hp, hch⟩, _⟩, he⟩, hcl⟩ := hb
      exact .inl ⟨hp, (hL.recv_iff t).1 (by rw [hp]; rfl), hch, he, hcl⟩
    · simp only [blockedOnCond, Bool.and_eq_true, decide_eq_true_eq, Bool.not_eq_true', List.contains_iff_mem] at hb
      obtain ⟨⟨hp, hw⟩, _⟩ := hb
      refine .inr ⟨hp, hw, fun e => ?_⟩
      have := (hL.cond_iff t).2 e
      rw [hp] at this; cases this

/-- A stalled client is released by the next frame, the end of the stream, the closing of the
connection, its deadline or a notify — in that state its next step is enabled (lemma `stalled_waiter_released`) —
and, for a reachable state with its result ready, its uninterrupted continuation from the loop test is exactly three
steps long: it leaves the loop, passes the final readiness test and returns the peer's answer to its own request;
it does not enter `serve` again.  (Under interleaving the same three steps are taken one by one —
`released_waiter_returns` — and the result stays published meanwhile, lemma `ready_stable`.) -/
theorem C14_bounded_stall {s : St} (h : Reachable s) (t : Tid) (_hs : (s.loc t).hasSeq = true)
    (hr : (s.cells (s.loc t).seq).ready = true) :
    (blocked s t = true →
      ((s.loc t).pc = .p0 → (s.chan ≠ [] ∨ s.eof = true ∨ s.closed = true ∨ expiredAt (s.loc t).dl s.now = true) →
          enabled s t = true) ∧
      ((s.loc t).pc = .zz → (t ∉ s.waiters ∨ expiredAt (s.loc t).wdl s.now = true) → enabled s t = true)) ∧
    ((s.loc t).pc = .w0 → ∃ s' e v, run s [.run t, .run t, .run t] = some s' ∧ (s'.loc t).pc = .idle ∧
        s.answer (s.loc t).seq = some (e, v) ∧ (s'.loc t).result = some (.value (some e) (some v))) := by
  refine ⟨fun _ => stalled_waiter_released t, fun hp => ?_⟩
  obtain ⟨_, e, v, he, hv, ha⟩ := publication h _ hr
  -- the cell the client reads stays the one of `s` across the three steps (`c1`, `c2`)
  obtain ⟨l1, e1, q1, a1, _, _⟩ := ready_waiter_step hr (.inl hp)
  have c1 := setLoc_own_cell (s := s) (t := t) q1
  have hp1 : ((setLoc s t l1).loc t).pc = .w9 := by rw [setLoc_loc_self]; exact a1 hp
  obtain ⟨l2, e2, q2, _, a2, _⟩ := ready_waiter_step (by rw [c1]; exact hr) (.inr (.inl hp1))
  have c2 := (setLoc_own_cell q2).trans c1
  have hp2 : ((setLoc (setLoc s t l1) t l2).loc t).pc = .w10 := by rw [setLoc_loc_self]; exact a2 hp1
  obtain ⟨l3, e3, _, _, _, a3⟩ := ready_waiter_step (by rw [c2]; exact hr) (.inr (.inr hp2))
  obtain ⟨p3, r3⟩ := a3 hp2
  refine ⟨setLoc (setLoc (setLoc s t l1) t l2) t l3, e, v, by simp only [run, e1, e2, e3],
    by rw [setLoc_loc_self]; exact p3, ha, ?_⟩
  rw [setLoc_loc_self, r3, c2, he, hv]

/-- Once released, a client whose result is ready does not enter `serve` again: at the
loop test it leaves the loop, passes the final readiness test, and returns the peer's answer to its own request;
and a published result stays published under every step of every actor. -/
theorem released_waiter_returns {s s' : St} (h : Reachable s) (t : Tid) (_hs : (s.loc t).hasSeq = true)
    (hr : (s.cells (s.loc t).seq).ready = true) (hst : step s (.run t) = some s') :
    ((s.loc t).pc = .w0 → (s'.loc t).pc = .w9) ∧
    ((s.loc t).pc = .w9 → (s'.loc t).pc = .w10) ∧
    ((s.loc t).pc = .w10 → (s'.loc t).pc = .idle ∧
        ∃ e v, s.answer (s.loc t).seq = some (e, v) ∧ (s'.loc t).result = some (.value (some e) (some v))) := by
  -- `step` is a function: the step taken is the one `ready_waiter_step` describes
  have key : ∀ hp, ∃ l', s' = setLoc s t l' ∧ _ := fun hp =>
    (ready_waiter_step hr hp).imp fun l' x => ⟨Option.some.inj (hst.symm.trans x.1), x.2⟩
  refine ⟨fun hp => ?_, fun hp => ?_, fun hp => ?_⟩
  · obtain ⟨l', rfl, _, a, _, _⟩ := key (.inl hp)
    rw [setLoc_loc_self]; exact a hp
  · obtain ⟨l', rfl, _, _, a, _⟩ := key (.inr (.inl hp))
    rw [setLoc_loc_self]; exact a hp
  · obtain ⟨l', rfl, _, _, _, a⟩ := key (.inr (.inr hp))
    obtain ⟨_, e, v, he, hv, ha⟩ := Rpyc.Props.C14.publication h _ hr
    rw [setLoc_loc_self]
    exact ⟨(a hp).1, e, v, ha, by rw [(a hp).2, he, hv]⟩

/-- In every run in which only thread `t` (in any
roles, one after the other: caller, polling thread, background thread) and the environment act, `t` is never
blocked with its result ready: `C14_statement` restricted to single-threaded use of the connection.  The hypothesis
is about logical threads of the machine: it covers results that travel by value or as references to builtin classes.
For a reference to a user-class instance the `HANDLE_INSPECT` round trip of `_unbox` is a second logical thread (run by the same
OS thread), so that case is not covered by this corollary; the harness finds no stall there with a single OS thread. -/
theorem C14_holds_without_second_thread (t : Tid) (as : List Actor) (s : St) (hall : ∀ a ∈ as, a.byOrEnv t)
    (hrun : run init as = some s) (hc : inCall s t = true) (hr : (s.cells (s.loc t).seq).ready = true) :
    blocked s t = false := by
  obtain ⟨hreach, hp⟩ := onlyPopper_run as init s hall .init (fun q u e => by simp [init] at e) hrun
  obtain ⟨u, hu⟩ := ready_popped hreach _ hr
  have : u = t := hp _ _ hu
  subst this
  exact C14_partial_self hreach u hc hr hu

/-- `C14_partial_self`, `C14_partial_deadline` and `C14_partial_value` for one client -/
theorem C14_partial {s : St} (h : Reachable s) (t : Tid) (hc : inCall s t = true) :
    ((s.cells (s.loc t).seq).ready = true → s.popper (s.loc t).seq = some t → blocked s t = false) ∧
    (∀ d, (s.cells (s.loc t).seq).ttl = some d → d ≤ s.now → blocked s t = false) ∧
    (∀ e o, (s.loc t).result = some (.value e o) →
        ∃ e' v, s.answer (s.loc t).seq = some (e', v) ∧ e = some e' ∧ o = some v) := by
  refine ⟨C14_partial_self h t hc, fun d => C14_partial_deadline h t hc d, fun e o hr => ?_⟩
  exact C14_partial_value h t e o ((hasSeq_iff _).1 (inCall_eq_hasSeq s t ▸ hc)).1 hr

/-! ### non-vacuity -/

/-- the self-receiver path really occurs: a lone caller receives and dispatches its own reply and is then at
the loop test with `ready`, not blocked -/
example : (run init ([.call 1 (some 5)] ++ r 1 3 ++ [.peer 0 false 7] ++ r 1 16)).map
    (fun s => (inCall s 1, (s.cells (s.loc 1).seq).ready, s.popper (s.loc 1).seq, (s.loc 1).pc, blocked s 1))
    = some (true, true, some 1, .w0, false) := by decide

/-- the deadline path really occurs: in the witness, once time reaches 10 the caller is no longer blocked,
and it then returns the correct value -/
example : (run init (witness (some 10) ++ [.tick 10])).map (fun s => (blocked s 1, enabled s 1)) = some (false, true) := by
  decide
example : (run init (witness (some 10) ++ [.tick 10] ++ r 1 9)).map (fun s => ((s.loc 1).pc, (s.loc 1).result))
    = some (.idle, some (.value (some false) (some 7))) := by decide

end Rpyc.Props.C14
