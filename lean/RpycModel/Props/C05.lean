import RpycModel.Wire.Recv
import RpycModel.Wire.Send
import RpycModel.Wire.DuplexLemmas
/-
C05 — packets arrive whole, in order and unaltered under any fragmentation.

The property theorems over byte strings and their non-vacuity examples (namespace Rpyc.Props.C05, which
RpycModel/Compose/EndToEnd.lean continues with the theorems over values); the model is
RpycModel/Wire/Model.lean (rpyc/core/channel.py over rpyc/core/stream.py), helper lemmas are in
RpycModel/Wire/{Lemmas,Recv,Send,DuplexLemmas}.lean.

Quantifiers.  Packets: any list of byte strings of any length (the explicit guard `Fits` is Python's
own `struct.error` limit of the header's length field).  Fragmentation: a *script* per direction — what
each `recv`/`os.read` and `send`/`os.write` call does — and every theorem holds for all scripts of the
stated kind, of any length: any split / coalescing, transient `socket.timeout` / EAGAIN anywhere, and
(for the safety theorems) a failure or end of stream at any call, i.e. at any byte offset.
zlib is the opaque parameter `z : Zlib`; its round-trip law is the only assumption.
The receiving channel's own `compress` setting does not occur in `recvPacket` (the receiver obeys the
frame's flag byte), so quantifying over the sender's setting `c` covers "compression enabled on
either, both or neither end".
-/
namespace Rpyc.Props.C05
open Rpyc Rpyc.Wire

/-! ### (1) what `Channel.send` writes is the frame, however it is cut into `write` calls -/

/-- the one or three `stream.write` calls of `Channel.send` concatenate to the frame, for every
`MAX_IO_CHUNK` -/
theorem concat_sendWrites (z : ZlibFns) (c : Bool) (maxChunk : Nat) (p : Bytes) (ws : List Bytes)
    (h : sendWrites z c maxChunk p = .ok ws) : frame z c p = .ok ws.flatten :=
  sendWrites_flatten z c maxChunk p ws h

/-- `send` produces writes for every packet whose (compressed) length the header can express -/
theorem sendWrites_total (z : ZlibFns) (c : Bool) (maxChunk : Nat) (p : Bytes) (hf : Fits z c p)
    (hmax : Gen.frameHeaderSize ≤ maxChunk) :
    ∃ ws, sendWrites z c maxChunk p = .ok ws ∧ ws.flatten = frameBytes z c p :=
  sendWrites_ok z c maxChunk p hf hmax

/-- the guard `Fits` of the theorems below excludes nothing smaller than 4 GiB: every packet whose
payload (the data, or its compressed form) is shorter than 2^32 bytes fits the header -/
theorem fits_of_lt_4GiB (z : ZlibFns) (c : Bool) (p : Bytes) (h : (payload z c p).length < 2 ^ 32) : Fits z c p :=
  Nat.lt_of_lt_of_le h lenRange_ge

/-- a packet the header cannot express is refused with `struct.error` before anything is written -/
theorem send_oversized_refused (z : ZlibFns) (c : Bool) (maxChunk : Nat) (p : Bytes) (s : WState)
    (h : ¬ Fits z c p) : chanSend z c maxChunk p s = (.err .structError, s) := by
  simp [chanSend, sendWrites, packHeader_not_fits h]

/-- the layout facts about the generated constants that the theorems below rest on: header size = sum
of the field widths, the flag field can hold 1, the flusher is not empty, a header fits in one chunk -/
theorem constants_sound :
    Gen.frameHeaderSize = Gen.frameLenWidth + Gen.frameFlagWidth ∧ 1 < 256 ^ Gen.frameFlagWidth ∧
    0 < Gen.flusher.length ∧ Gen.frameHeaderSize ≤ Gen.socketMaxIoChunk ∧ Gen.frameHeaderSize ≤ Gen.pipeMaxIoChunk ∧
    1 ≤ Gen.socketMaxIoChunk ∧ 1 ≤ Gen.pipeMaxIoChunk :=
  ⟨hdrSize_eq, one_lt_flagRange, flusher_pos, hdr_le_chunk.1, hdr_le_chunk.2, chunk_pos.1, chunk_pos.2⟩

/-- the code's retry list is exactly the platform's would-block errnos (from the `errno` module), and the
interpreter's exception class relations are the ones the model's fatal/retry branches are written for -/
theorem retry_list_sound :
    (Gen.retryErrnos.contains Gen.eagain = true ∧ Gen.retryErrnos.contains Gen.ewouldblock = true ∧
     Gen.retryErrnos.all (fun e => e == Gen.eagain || e == Gen.ewouldblock) = true) ∧
    (Gen.timeoutIsSocketError = true ∧ Gen.socketErrorIsEnvironmentError = true ∧ Gen.eofErrorIsSocketError = false) :=
  ⟨retry_errnos_are_wouldblock, exception_classes⟩

/-! ### (2) `stream.read(n)`: exactly the next `n` bytes, or `EOFError` + closed, or still waiting -/

/-- For every script: `read(n)` returns exactly the next `n` bytes of the stream and leaves the rest,
or raises `EOFError` having closed the stream, or is still blocked when the script ends.  Never other
bytes, never fewer, never more. -/
theorem readExact_spec (retry : Bool) (maxChunk n : Nat) (s : RState) :
    ((readExact retry maxChunk n s).1 = .ok (s.wire.take n) ∧ n ≤ s.wire.length
        ∧ (readExact retry maxChunk n s).2.wire = s.wire.drop n
        ∧ (readExact retry maxChunk n s).2.closed = s.closed) ∨
    ((readExact retry maxChunk n s).1 = .eof ∧ (readExact retry maxChunk n s).2.closed = true) ∨
    ((readExact retry maxChunk n s).1 = .starved ∧ (readExact retry maxChunk n s).2.script = []
        ∧ (readExact retry maxChunk n s).2.closed = false) :=
  (readExact_cases retry maxChunk n s).2

/-- Under a script without failures (data in pieces of any size ≥ 1, and on a socket any number of
timeouts / would-blocks in between) that has at least `n` data events, `read(n)` succeeds. -/
theorem readExact_complete (retry : Bool) (maxChunk : Nat) (hmax : 1 ≤ maxChunk) (n : Nat) (s : RState)
    (hb : s.script.all (benign retry) = true) (hcl : s.closed = false)
    (hw : n ≤ s.wire.length) (hp : n ≤ progress s.script) :
    (readExact retry maxChunk n s).1 = .ok (s.wire.take n) ∧
    (readExact retry maxChunk n s).2.wire = s.wire.drop n ∧
    (readExact retry maxChunk n s).2.closed = false := by
  have := readExact_benign retry maxChunk hmax n (k := 0) ⟨hcl, by simpa using hb, hp⟩ hw
  exact ⟨this.1, this.2.1, this.2.2.1⟩

/-! ### (3) every packet sequence is received exactly, under every failure-free fragmentation -/

/-- For every list of packets, every compression setting of the sender, every stream class
(`retry`), every chunk size ≥ 1 and every failure-free receive script with enough data events (each
delivers at least one byte, so `wire length` events always suffice — a one-byte dribble is the worst
case): `recv()` called once per packet returns exactly the packets sent, in order, consuming exactly
their frames (`rest`, whatever follows, is untouched) and leaving the stream open. -/
theorem recvAll_frames (z : Zlib) (c retry : Bool) (maxChunk : Nat) (hmax : 1 ≤ maxChunk)
    (ps : List Bytes) (rest : Bytes) (script : List RecvEv)
    (hf : ∀ p ∈ ps, Fits z.toZlibFns c p)
    (hb : script.all (benign retry) = true)
    (hp : (wireOf z.toZlibFns c ps).length ≤ progress script) :
    recvMany z.toZlibFns retry maxChunk ps.length ⟨wireOf z.toZlibFns c ps ++ rest, script, false⟩
      = (ps, .done, (recvMany z.toZlibFns retry maxChunk ps.length
            ⟨wireOf z.toZlibFns c ps ++ rest, script, false⟩).2.2) ∧
    (recvMany z.toZlibFns retry maxChunk ps.length ⟨wireOf z.toZlibFns c ps ++ rest, script, false⟩).2.2.wire = rest ∧
    (recvMany z.toZlibFns retry maxChunk ps.length ⟨wireOf z.toZlibFns c ps ++ rest, script, false⟩).2.2.closed = false := by
  obtain ⟨h1, h2, h3, h4, _⟩ := recvMany_benign z c retry maxChunk hmax (k := 0) ps rest
    (s := ⟨wireOf z.toZlibFns c ps ++ rest, script, false⟩) hf rfl ⟨rfl, by simpa using hb, hp⟩
  exact ⟨Prod.ext h1 (Prod.ext h2 rfl), h3, h4⟩

/-! ### (4) whatever the transport does, only whole, unaltered packets in order — then `EOFError` + closed -/

/-- For every receive script (failures, timeouts, end of stream at any call — i.e. at any byte offset),
for a stream that is any prefix of the frames sent (the sender or the network may have died anywhere),
and for any number `n` of `recv()` calls: the packets returned are a prefix of the packets sent — never
a shortened, padded, merged or reordered packet — and the series ends in exactly one of three ways: all
`n` calls returned; or `EOFError` was raised and the stream is closed; or the reader is still blocked
when the script ends (nothing lost: stream open).  No other exception (`zlib.error`, ...) is possible. -/
theorem recvAll_prefix (z : Zlib) (c retry : Bool) (maxChunk n : Nat) (ps : List Bytes) (wire : Bytes)
    (script : List RecvEv) (hf : ∀ p ∈ ps, Fits z.toZlibFns c p)
    (hw : wire <+: wireOf z.toZlibFns c ps) :
    (recvMany z.toZlibFns retry maxChunk n ⟨wire, script, false⟩).1 <+: ps ∧
    (((recvMany z.toZlibFns retry maxChunk n ⟨wire, script, false⟩).2.1 = .done
        ∧ (recvMany z.toZlibFns retry maxChunk n ⟨wire, script, false⟩).1.length = n) ∨
     ((recvMany z.toZlibFns retry maxChunk n ⟨wire, script, false⟩).2.1 = .err .eofError
        ∧ (recvMany z.toZlibFns retry maxChunk n ⟨wire, script, false⟩).2.2.closed = true) ∨
     ((recvMany z.toZlibFns retry maxChunk n ⟨wire, script, false⟩).2.1 = .starved
        ∧ (recvMany z.toZlibFns retry maxChunk n ⟨wire, script, false⟩).2.2.script = []
        ∧ (recvMany z.toZlibFns retry maxChunk n ⟨wire, script, false⟩).2.2.closed = false)) :=
  recvMany_prefix_aux z c retry maxChunk n ps ⟨wire, script, false⟩ hf hw

/-- once the whole stream has been consumed, one more `recv()` can only end in `EOFError` + closed (or
block): no phantom packet is ever produced from nothing -/
theorem recv_after_end (z : ZlibFns) (retry : Bool) (maxChunk : Nat) (script : List RecvEv) (cl : Bool) :
    ((recvPacket z retry maxChunk ⟨[], script, cl⟩).1 = .err .eofError
        ∧ (recvPacket z retry maxChunk ⟨[], script, cl⟩).2.closed = true) ∨
    ((recvPacket z retry maxChunk ⟨[], script, cl⟩).1 = .starved
        ∧ (recvPacket z retry maxChunk ⟨[], script, cl⟩).2.script = []
        ∧ (recvPacket z retry maxChunk ⟨[], script, cl⟩).2.closed = false) :=
  recvPacket_nil z retry maxChunk ⟨[], script, cl⟩ rfl

/-! ### (5) `stream.write` and `Channel.send` under every send script -/

/-- For every send script (partial sends of any size, a failure at any call): the bytes the transport
has accepted are the previous ones plus a prefix of `data`; the whole of `data` whenever `write` returned
(only this direction is stated); otherwise `EOFError` was raised and the stream is closed (every
`socket.error`, a timeout included, is fatal to a write), or the writer is still blocked when the script ends. -/
theorem writeAll_spec (maxChunk : Nat) (data : Bytes) (s : WState) :
    ∃ m, m ≤ data.length ∧ (writeAll maxChunk data s).2.sent = s.sent ++ data.take m ∧
      (((writeAll maxChunk data s).1 = .ok ∧ m = data.length ∧ (writeAll maxChunk data s).2.closed = s.closed) ∨
       ((writeAll maxChunk data s).1 = .eof ∧ (writeAll maxChunk data s).2.closed = true) ∨
       ((writeAll maxChunk data s).1 = .starved ∧ (writeAll maxChunk data s).2.script = []
          ∧ (writeAll maxChunk data s).2.closed = false)) :=
  (writeAll_sendSpec maxChunk data s).2

/-- For every packet list and every send script: what the transport has accepted is a prefix of the
concatenated frames (so the receiver-side theorem (4) applies to it); it is all of them whenever every
`send` returned (only this direction is stated); otherwise `EOFError` + closed, or blocked. -/
theorem sendAll_prefix (z : ZlibFns) (c : Bool) (maxChunk : Nat) (hmax : Gen.frameHeaderSize ≤ maxChunk)
    (ps : List Bytes) (script : List SendEv) (hf : ∀ p ∈ ps, Fits z c p) :
    (sendMany z c maxChunk ps ⟨[], script, false⟩).2.2.sent <+: wireOf z c ps ∧
    (((sendMany z c maxChunk ps ⟨[], script, false⟩).2.1 = .done
        ∧ (sendMany z c maxChunk ps ⟨[], script, false⟩).1 = ps.length
        ∧ (sendMany z c maxChunk ps ⟨[], script, false⟩).2.2.sent = wireOf z c ps
        ∧ (sendMany z c maxChunk ps ⟨[], script, false⟩).2.2.closed = false) ∨
     ((sendMany z c maxChunk ps ⟨[], script, false⟩).2.1 = .err .eofError
        ∧ (sendMany z c maxChunk ps ⟨[], script, false⟩).2.2.closed = true) ∨
     ((sendMany z c maxChunk ps ⟨[], script, false⟩).2.1 = .starved
        ∧ (sendMany z c maxChunk ps ⟨[], script, false⟩).2.2.script = []
        ∧ (sendMany z c maxChunk ps ⟨[], script, false⟩).2.2.closed = false)) := by
  obtain ⟨_, m, hm, hsent, hend⟩ := sendMany_spec z c maxChunk hmax ps ⟨[], script, false⟩ hf
  have hs0 : (WState.mk [] script false).sent = [] := rfl
  rw [hs0, List.nil_append] at hsent
  refine ⟨by rw [hsent]; exact List.take_prefix _ _, ?_⟩
  rcases hend with ⟨⟨a, b⟩, c', d⟩ | h | h
  · exact Or.inl ⟨a, b, by rw [hsent, c', List.take_length], d⟩
  · exact Or.inr (Or.inl h)
  · exact Or.inr (Or.inr h)

/-! ### end to end: sender's channel → transport → receiver's channel -/

/-- **Exactness.** Any packet sequence, any compression setting at the sender, any stream classes and
chunk sizes, a sending transport that accepts the data in pieces of any sizes, a receiving transport
that delivers what was accepted in pieces of any sizes with any transient conditions in between: the
receiver gets exactly the sequence sent, and both streams stay open. -/
theorem transfer_exact (z : Zlib) (c retry : Bool) (maxS maxR : Nat)
    (hS : Gen.frameHeaderSize ≤ maxS) (hS1 : 1 ≤ maxS) (hR : 1 ≤ maxR)
    (ps : List Bytes) (sscript : List SendEv) (rscript : List RecvEv)
    (hf : ∀ p ∈ ps, Fits z.toZlibFns c p)
    (hsa : sscript.all accepting = true) (hsl : (wireOf z.toZlibFns c ps).length ≤ sscript.length)
    (hrb : rscript.all (benign retry) = true) (hrp : (wireOf z.toZlibFns c ps).length ≤ progress rscript) :
    (sendMany z.toZlibFns c maxS ps ⟨[], sscript, false⟩).2.1 = .done ∧
    (sendMany z.toZlibFns c maxS ps ⟨[], sscript, false⟩).2.2.closed = false ∧
    (recvMany z.toZlibFns retry maxR ps.length
      ⟨(sendMany z.toZlibFns c maxS ps ⟨[], sscript, false⟩).2.2.sent, rscript, false⟩).1 = ps ∧
    (recvMany z.toZlibFns retry maxR ps.length
      ⟨(sendMany z.toZlibFns c maxS ps ⟨[], sscript, false⟩).2.2.sent, rscript, false⟩).2.1 = .done := by
  obtain ⟨s2, s4, _⟩ := sendMany_accepting z.toZlibFns c maxS hS (k := 0) ps hf
    (s := ⟨[], sscript, false⟩) ⟨rfl, by simpa using hsa, hsl⟩
  obtain ⟨_, _, s3, _⟩ := (sendMany_spec z.toZlibFns c maxS hS ps ⟨[], sscript, false⟩ hf).done
    (by simp [s2]) (by simp [s2])
  have hs0 : (WState.mk [] sscript false).sent = [] := rfl
  rw [hs0, List.nil_append] at s3
  rw [s3]
  have hr := recvAll_frames z c retry maxR hR ps [] rscript hf hrb hrp
  rw [List.append_nil] at hr
  exact ⟨s2, s4, congrArg (·.1) hr.1, congrArg (·.2.1) hr.1⟩

/-- **Safety.** With no assumption on either transport (any send script, any receive script, failures
and ends of stream anywhere), and any number of `recv()` calls: the packets received are a prefix of the
packets sent, followed by `EOFError` with the stream closed (or by a reader still waiting). -/
theorem transfer_safe (z : Zlib) (c retry : Bool) (maxS maxR n : Nat) (hS : Gen.frameHeaderSize ≤ maxS)
    (ps : List Bytes) (sscript : List SendEv) (rscript : List RecvEv)
    (hf : ∀ p ∈ ps, Fits z.toZlibFns c p) :
    (recvMany z.toZlibFns retry maxR n
      ⟨(sendMany z.toZlibFns c maxS ps ⟨[], sscript, false⟩).2.2.sent, rscript, false⟩).1 <+: ps ∧
    (((recvMany z.toZlibFns retry maxR n
        ⟨(sendMany z.toZlibFns c maxS ps ⟨[], sscript, false⟩).2.2.sent, rscript, false⟩).2.1 = .done) ∨
     ((recvMany z.toZlibFns retry maxR n
        ⟨(sendMany z.toZlibFns c maxS ps ⟨[], sscript, false⟩).2.2.sent, rscript, false⟩).2.1 = .err .eofError
      ∧ (recvMany z.toZlibFns retry maxR n
        ⟨(sendMany z.toZlibFns c maxS ps ⟨[], sscript, false⟩).2.2.sent, rscript, false⟩).2.2.closed = true) ∨
     ((recvMany z.toZlibFns retry maxR n
        ⟨(sendMany z.toZlibFns c maxS ps ⟨[], sscript, false⟩).2.2.sent, rscript, false⟩).2.1 = .starved)) := by
  have hpre := (sendAll_prefix z.toZlibFns c maxS hS ps sscript hf).1
  obtain ⟨h1, h2⟩ := recvAll_prefix z c retry maxR n ps _ rscript hf hpre
  refine ⟨h1, ?_⟩
  rcases h2 with ⟨a, _⟩ | h | ⟨a, _⟩
  · exact Or.inl a
  · exact Or.inr (Or.inl h)
  · exact Or.inr (Or.inr a)

/-! ### one stream used in both directions, `poll`, and a descriptor whose own `close()` fails

`Rpyc.Wire.Duplex`: `Channel.send`, `Channel.recv`, `Stream.poll` (with `SocketStream.fileno`) and
`stream.close()` on one stream object in any order, continuing after exceptions; `CloseFault` makes
`sock.close()` / `incoming.close()` / `outgoing.close()` raise once. -/

/-- **Interleaving and failing `close()` cannot alter a packet.** Whenever `recv()` returns a packet on the
duplex stream — after any sequence of sends, polls, closes and failures — the one-directional
`recvPacket` returns the same packet from the same reading state and leaves the same reading state, so
theorems (3) and (4) speak about every packet ever returned. -/
theorem duplex_recv_is_recvPacket (z : ZlibFns) (retry : Bool) (maxChunk : Nat) (d : DState) (p : Bytes)
    (h : (dRecv z retry maxChunk d).1 = .ok p) :
    (recvPacket z retry maxChunk d.r).1 = .ok p ∧
    (dRecv z retry maxChunk d).2.r = (recvPacket z retry maxChunk d.r).2 :=
  dRecv_ok z retry maxChunk d p h

/-- `send` — returning, raising or blocked — leaves the incoming byte stream and its script untouched -/
theorem send_transparent_to_reading (z : ZlibFns) (c : Bool) (maxChunk : Nat) (p : Bytes) (d : DState) :
    (dSend z c maxChunk p d).2.r.wire = d.r.wire ∧ (dSend z c maxChunk p d).2.r.script = d.r.script :=
  dSend_reading z c maxChunk p d

/-- `Stream.poll` — answering, raising or blocked — reads nothing and sends nothing -/
theorem poll_transparent (d : DState) :
    (dPoll d).2.r.wire = d.r.wire ∧ (dPoll d).2.r.script = d.r.script ∧
    (dPoll d).2.w.chunks = d.w.chunks ∧ (dPoll d).2.w.script = d.w.script :=
  dPoll_streams d

/-- when `poll` answers, the stream is exactly as before (only the poll script has moved) -/
theorem poll_answer_changes_nothing (d : DState) (b : Bool) (h : (dPoll d).1 = .ok b) :
    (dPoll d).2.r = d.r ∧ (dPoll d).2.w = d.w ∧ (dPoll d).2.fault = d.fault ∧
    (dPoll d).2.inDead = d.inDead ∧ (dPoll d).2.outDead = d.outDead :=
  dPoll_ok d b h

/-- How `poll` can end.  `EOFError` comes with a closed stream; but a failure noticed by poll itself — a
failing `poll()` call, a refused descriptor, a non-EBADF error of `fileno()` — is an `OSError`
(`select_error` / the socket error), not `EOFError`, and (see `poll_failure_is_not_eof_closed`) may leave the
stream open.  On kernel sockets and pipes a dead peer makes `poll()` answer (readable), so that the failure
is met by the following `read` (kernel probes in the evidence); these poll-error paths need a descriptor
invalidated by the application itself, which is outside "a transport that ends or fails". -/
theorem poll_outcome (d : DState) :
    (∃ b, (dPoll d).1 = .ok b) ∨ ((dPoll d).1 = .eof ∧ (dPoll d).2.r.closed = true) ∨
    (dPoll d).1 = .oserr ∨ (dPoll d).1 = .starved :=
  dPoll_outcome d

/-- a healthy open socket stream to start the witnesses below from -/
def freshSock (wire : Bytes) (rs : List RecvEv) (ps : List PollEv) (fault : CloseFault) : DState :=
  ⟨⟨wire, rs, false⟩, ⟨[], [], false⟩, false, fault, false, false, ps⟩

/-- what "a failure noticed in poll yields EOFError + closed" would say — and its witnesses: (a) a failing
`poll()` call: `OSError`, stream left open; (b) `fileno()` failing with ECONNRESET: `OSError`, stream closed;
(c) `fileno()` failing with EBADF: `EOFError`, closed (the one case the code maps). -/
theorem poll_failure_is_not_eof_closed :
    (dPoll (freshSock [] [] [.selErr 5] .none)).1 = .oserr ∧ (dPoll (freshSock [] [] [.selErr 5] .none)).2.r.closed = false ∧
    (dPoll (freshSock [] [] [.fdErr 104] .none)).1 = .oserr ∧ (dPoll (freshSock [] [] [.fdErr 104] .none)).2.r.closed = true ∧
    (dPoll (freshSock [] [] [.fdErr Gen.ebadf] .none)).1 = .eof
      ∧ (dPoll (freshSock [] [] [.fdErr Gen.ebadf] .none)).2.r.closed = true := by
  refine ⟨?_, ?_, ?_, ?_, ?_, ?_⟩ <;> decide

/-- the descriptor's own `close()` raising inside the failure path of `read`: the peer resets, `sock.close()`
raises — the reader gets that `OSError`, not `EOFError`, and `stream.closed` stays `False`; the next `read`
finds the dead descriptor, closes cleanly and raises `EOFError`.  No byte of a packet is involved. -/
theorem close_failure_is_not_eof_closed :
    (dRead true 64000 3 (freshSock [1, 2, 3] [.chunk 1, .err 104] [] .first)).1 = .oserr ∧
    (dRead true 64000 3 (freshSock [1, 2, 3] [.chunk 1, .err 104] [] .first)).2.r.closed = false ∧
    (dRead true 64000 3 (dRead true 64000 3 (freshSock [1, 2, 3] [.chunk 1, .err 104] [] .first)).2).1 = .eof ∧
    (dRead true 64000 3 (dRead true 64000 3 (freshSock [1, 2, 3] [.chunk 1, .err 104] [] .first)).2).2.r.closed = true := by
  refine ⟨?_, ?_, ?_, ?_⟩ <;> decide

/-! ### the clause "whatever transient would-block or timeout conditions it reports", socket vs. pipe -/

/-- an event that is not a failure by the statement's wording: data, a timeout, a would-block — the
platform's `errno.EAGAIN` / `errno.EWOULDBLOCK` as the `errno` module gives them, not rpyc's own retry list -/
def transient : RecvEv → Bool
  | .chunk k => decide (1 ≤ k)
  | .timeout => true
  | .err e => e == Gen.eagain || e == Gen.ewouldblock
  | .eof => false

/-- what the code retries covers what the statement calls transient (rests on `retry_errnos_are_wouldblock`) -/
theorem transient_is_retried (e : Nat) (h : (e == Gen.eagain || e == Gen.ewouldblock) = true) : retryErrno e = true := by
  have hc := retry_errnos_are_wouldblock
  unfold retryErrno
  simp only [Bool.or_eq_true, beq_iff_eq] at h
  rcases h with h | h <;> subst h
  · rw [hc.1]; rfl
  · rw [hc.2.1]; rfl

/-- the clause at full strength for a stream class: under any script of transient events with enough data
events, `read(n)` returns the next `n` bytes -/
def C05_transients_statement (retry : Bool) : Prop :=
  ∀ (maxChunk n : Nat) (wire : Bytes) (script : List RecvEv), 1 ≤ maxChunk → script.all transient = true →
    n ≤ wire.length → n ≤ progress script →
    (readExact retry maxChunk n ⟨wire, script, false⟩).1 = .ok (wire.take n)

/-- sockets (`SocketStream.read` retries): the clause holds -/
theorem C05_transients_socket : C05_transients_statement true := by
  intro maxChunk n wire script hmax hb hw hp
  have hb' : script.all (benign true) = true := by
    rw [List.all_eq_true] at hb ⊢
    intro ev hev
    have := hb ev hev
    cases ev with
    | chunk k => exact this
    | timeout => rfl
    | err e => exact transient_is_retried e this
    | eof => exact this
  exact (readExact_complete true maxChunk hmax n ⟨wire, script, false⟩ hb' rfl hw hp).1

def eagain : Nat := Gen.eagain

/-- pipes (`PipeStream.read` has no retry): the clause fails by the letter — one would-block from `os.read`
and the stream is closed with `EOFError`, the packet lost although its bytes were on their way.  Reachable on a
real pipe only if O_NONBLOCK is set on the read end (by the application, or through a shared open file
description); rpyc creates its pipes blocking and never sets it (demonstration in the evidence, on a real pipe). -/
theorem C05_pipe_wouldblock_counterexample : ¬ C05_transients_statement false := by
  intro h
  have := h 1 1 [0] [.err eagain, .chunk 1] (by decide) (by decide) (by decide) (by decide)
  revert this
  decide

/-- what does hold for pipes: theorems (3) and `transfer_exact` with `retry = false`, i.e. for scripts of
data events only (a blocking pipe shows no others); and the safety theorems (4) for every script. -/
theorem C05_pipe_partial (maxChunk : Nat) (hmax : 1 ≤ maxChunk) (n : Nat) (wire : Bytes) (script : List RecvEv)
    (hb : script.all (benign false) = true) (hw : n ≤ wire.length) (hp : n ≤ progress script) :
    (readExact false maxChunk n ⟨wire, script, false⟩).1 = .ok (wire.take n) :=
  (readExact_complete false maxChunk hmax n ⟨wire, script, false⟩ hb rfl hw hp).1

/-! ### non-vacuity: concrete instances meet the hypotheses; the model computes the expected runs

The sample packets and scripts are phrased over the generated constants (threshold, header size, flusher, errnos),
so a harmless change of a constant does not break them. -/

/-- a toy zlib that really changes the data: prefix byte 120 and reversal -/
def toyZ : Zlib where
  compress b := 120 :: b.reverse
  decompress
    | 120 :: r => some r.reverse
    | _ => none
  round_trip b := by simp

/-- the errno the interpreter turns into `socket.timeout` -/
def etimedout : Nat := Gen.timeoutErrnos.headD eagain

/-- packets: empty, tiny, and one above the compression threshold (so it travels compressed) -/
def samplePackets : List Bytes := [[], [1, 2, 3], List.replicate (Gen.compressionThreshold + 1) 7, [255]]

def sampleSend : List SendEv :=
  (List.replicate (Gen.compressionThreshold + 100) [SendEv.accept 1, .accept 7, .accept 100000]).flatten

def sampleRecv : List RecvEv :=
  (List.replicate (Gen.compressionThreshold + 100)
    [RecvEv.timeout, .chunk 1, .err eagain, .chunk 3, .chunk 70000, .err etimedout]).flatten

def SamplesFit : Prop := ∀ p ∈ samplePackets, Fits toyZ.toZlibFns true p

/- The four frames are the packets (`Gen.compressionThreshold + 5` bytes, `ls` below) plus at most
`Gen.frameHeaderSize + 1 + Gen.flusher.length` bytes each (`wireOf_length_le`; the toy zlib adds one byte); the scripts are
`Gen.compressionThreshold + 100` copies of a block with three data events.  Only the length of the long packet is
used: with its elements in a sum the kernel would start to evaluate them. -/
example : SamplesFit :=
  fits_of_wireOf_lt (Nat.lt_of_le_of_lt
    (wireOf_length_le (b := 1) (fun p => by simp [toyZ]) true (ls := [0, 3, Gen.compressionThreshold + 1, 1])
      (by simp [samplePackets]) (Nat.le_refl _))
    (by simp [Gen.frameHeaderSize, Gen.flusher, Gen.compressionThreshold, Gen.frameLenWidth]))

example : useCompression true (List.replicate (Gen.compressionThreshold + 1) 7) = true := by
  simp [useCompression, Gen.zlibAvailable]

example : sampleSend.all accepting = true ∧ (wireOf toyZ.toZlibFns true samplePackets).length ≤ sampleSend.length := by
  refine ⟨all_flatten_replicate (by decide) _, ?_⟩
  rw [sampleSend, length_flatten_replicate]
  exact wireOf_length_le (b := 1) (fun p => by simp [toyZ]) true (ls := [0, 3, Gen.compressionThreshold + 1, 1])
    (by simp [samplePackets]) (by simp [Gen.frameHeaderSize, Gen.flusher, Gen.compressionThreshold])
example : sampleRecv.all (benign true) = true
    ∧ (wireOf toyZ.toZlibFns true samplePackets).length ≤ progress sampleRecv := by
  refine ⟨all_flatten_replicate (by decide) _, ?_⟩
  rw [sampleRecv, progress_flatten_replicate]
  show _ ≤ _ * 3
  exact wireOf_length_le (b := 1) (fun p => by simp [toyZ]) true (ls := [0, 3, Gen.compressionThreshold + 1, 1])
    (by simp [samplePackets]) (by simp [Gen.frameHeaderSize, Gen.flusher, Gen.compressionThreshold])

/-- the end-to-end theorem applies to the samples: the packets arrive -/
example : (recvMany toyZ.toZlibFns true Gen.socketMaxIoChunk samplePackets.length
    ⟨(sendMany toyZ.toZlibFns true Gen.socketMaxIoChunk samplePackets ⟨[], sampleSend, false⟩).2.2.sent,
     sampleRecv, false⟩).1 = samplePackets := by
  have hle : (wireOf toyZ.toZlibFns true samplePackets).length ≤ (Gen.compressionThreshold + 100) * 3 :=
    wireOf_length_le (b := 1) (fun p => by simp [toyZ]) true (ls := [0, 3, Gen.compressionThreshold + 1, 1])
      (by simp [samplePackets]) (by simp [Gen.frameHeaderSize, Gen.flusher, Gen.compressionThreshold])
  exact (transfer_exact toyZ true true Gen.socketMaxIoChunk Gen.socketMaxIoChunk hdr_le_chunk.1 chunk_pos.1
    chunk_pos.1 samplePackets sampleSend sampleRecv
    (fits_of_wireOf_lt (Nat.lt_of_le_of_lt hle (by simp [Gen.compressionThreshold, Gen.frameLenWidth])))
    (all_flatten_replicate (by decide) _) (by rw [sampleSend, length_flatten_replicate]; exact hle)
    (all_flatten_replicate (by decide) _) (by rw [sampleRecv, progress_flatten_replicate]; exact hle)).2.2.1

/-- two small packets; the peer resets one byte into the second frame: the first packet is delivered,
then `EOFError`, stream closed — nothing of the second packet is -/
example : recvMany toyZ.toZlibFns true 64000 3
    ⟨wireOf toyZ.toZlibFns false [[1, 2], [3, 4, 5]],
     [.chunk (Gen.frameHeaderSize - 1), .timeout, .chunk 100, .chunk 100, .chunk 1, .err 104, .chunk 100], false⟩
    = ([[1, 2]], .err .eofError, ⟨(frameBytes toyZ.toZlibFns false [3, 4, 5]).drop 1, [.chunk 100], true⟩) := by
  decide +kernel

/-- the same stream cut off one byte into the second frame by the *sender's* death, the receiver's
transport healthy: again one packet, then `EOFError` + closed (end of stream) -/
example : (recvMany toyZ.toZlibFns false 64000 3
    ⟨(wireOf toyZ.toZlibFns false [[1, 2], [3, 4, 5]]).take ((frameBytes toyZ.toZlibFns false [1, 2]).length + 1),
     List.replicate 20 (.chunk 4), false⟩).1 = [[1, 2]]
    ∧ (recvMany toyZ.toZlibFns false 64000 3
    ⟨(wireOf toyZ.toZlibFns false [[1, 2], [3, 4, 5]]).take ((frameBytes toyZ.toZlibFns false [1, 2]).length + 1),
     List.replicate 20 (.chunk 4), false⟩).2.1 = .err .eofError := by decide +kernel

/-- a pipe (`retry = false`) treats a would-block as fatal; a socket retries -/
example : (readExact false 64000 2 ⟨[1, 2, 3], [.err eagain, .chunk 5], false⟩).1 = .eof
    ∧ (readExact true 64000 2 ⟨[1, 2, 3], [.err eagain, .chunk 5], false⟩).1 = .ok [1, 2] := by decide +kernel

/-- the writer: a partial send then a timeout — 3 of 5 bytes accepted, `EOFError`, closed -/
example : writeAll 64000 [1, 2, 3, 4, 5] ⟨[], [.accept 3, .timeout, .accept 9], false⟩
    = (.eof, ⟨[[1, 2, 3]], [.accept 9], true⟩) := by decide +kernel

/-- a pipe pair whose `incoming.close()` raises; its write end accepts 3 bytes, fails with EPIPE, then accepts again -/
def brokenClosePipe : DState :=
  ⟨⟨[], [], false⟩, ⟨[], [.accept 3, .err 32, .accept 100], false⟩, true, .first, false, false, []⟩

/-- the excluded case has teeth.  A send fails half-way (3 bytes accepted, then EPIPE); `close()` raises, so the
caller sees `OSError` and the stream stays open with a usable write end; the next `send` returns — and the transport
now holds a partial frame followed by a whole one, which no receiver can parse.  (Outside the claim: ASSUMPTIONS,
descriptor's own close() failing.) -/
example : (dSend toyZ.toZlibFns false 64000 [1, 2] brokenClosePipe).1 = .oserr
    ∧ (dSend toyZ.toZlibFns false 64000 [1, 2] brokenClosePipe).2.r.closed = false
    ∧ (dSend toyZ.toZlibFns false 64000 [7] (dSend toyZ.toZlibFns false 64000 [1, 2] brokenClosePipe).2).1 = .ok ()
    ∧ (dSend toyZ.toZlibFns false 64000 [7] (dSend toyZ.toZlibFns false 64000 [1, 2] brokenClosePipe).2).2.w.sent
        = (frameBytes toyZ.toZlibFns false [1, 2]).take 3 ++ frameBytes toyZ.toZlibFns false [7] := by
  decide +kernel

def writeLens : Except Err (List Bytes) → Option (List Nat)
  | .ok ws => some (ws.map List.length)
  | .error _ => none

/-- the one-write / three-write boundary, at a `MAX_IO_CHUNK` that holds header + 10 bytes + flusher -/
example :
    writeLens (sendWrites toyZ.toZlibFns false (Gen.frameHeaderSize + 10 + Gen.flusher.length) (List.replicate 10 0))
      = some [Gen.frameHeaderSize + 10 + Gen.flusher.length]
    ∧ writeLens (sendWrites toyZ.toZlibFns false (Gen.frameHeaderSize + 10 + Gen.flusher.length) (List.replicate 11 0))
      = some [Gen.frameHeaderSize + 11, 0, Gen.flusher.length]
    ∧ writeLens (sendWrites toyZ.toZlibFns false (Gen.frameHeaderSize + 10 + Gen.flusher.length)
        (List.replicate (10 + Gen.flusher.length + 1) 0))
      = some [Gen.frameHeaderSize + 10 + Gen.flusher.length, 1, Gen.flusher.length] := by
  decide +kernel

end Rpyc.Props.C05
