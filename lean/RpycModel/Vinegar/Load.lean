import RpycModel.Vinegar.Lemmas
/-
The load of a genuine record (what `dumpExc` produced) under the environment hypotheses `Writable` and `Known`, and which
class it is rebuilt as (`foundKind`, `customClass`); what
the load of any payload can do: which events it can produce and which classes it can instantiate; what the received object
shows (`received_get_*`); the fallback record of `_send_exception`.
-/
namespace Rpyc.Vinegar
open Rpyc

def verText (s : SendCfg) : Str := if s.includeVer then Gen.Vinegar.versionString else Gen.Vinegar.versionDenied

/-- the text that travels in the traceback field: the formatted traceback when the sender allows it — the "unavailable"
literal when the traceback module itself fails on this exception —, the "denied" marker otherwise -/
def tbShown (s : SendCfg) (e : ExcRec) : Str :=
  if s.includeTb then
    match e.tbText with
    | .ok t => t
    | .error _ => Gen.Vinegar.tracebackUnavailable
  else Gen.Vinegar.tracebackDenied

theorem tbField_eq (s : SendCfg) (e : ExcRec) : tbField s e = .ok (.str (tbShown s e)) := by
  unfold tbField tbShown
  cases s.includeTb
  · simp
  · cases e.tbText <;> simp [gen_tbFormatGuarded]

theorem dumpExc_ok (s : SendCfg) (e : ExcRec) (hnf : fastPath e = false) (hw : e.walkRaises = none) :
    dumpExc s e = .ok (recordPayload s e (.str (tbShown s e))) := by
  simp [dumpExc, hnf, tbField_eq, hw]

/-- the object the receiver builds from a genuine record once the class is settled -/
def received (s : SendCfg) (e : ExcRec) (cls : ClsRef) : ExcObj :=
  ⟨cls, walkArgs e e.dir,
   (Gen.Vinegar.remoteTbAttr, Val.str (tbShown s e))
     :: (sentAttrs e.dir ++ [(Gen.Vinegar.versionAttr, Val.str (verText s))]).reverse⟩

/-- the receiver's class stores every attribute the sender sends, and the version attribute
(an environment hypothesis: instances get a `__dict__` from `Derived`, and the data attributes of the built-in
classes are writable members; a read-only property would be `swallowed` instead) -/
def Writable (env : Env) (cls : ClsRef) (e : ExcRec) : Prop :=
  (∀ p ∈ sentAttrs e.dir, env.setattr cls p.1 p.2 = .store) ∧ ∀ v, env.setattr cls Gen.Vinegar.versionAttr v = .store

theorem versionCheck_verText (s : SendCfg) (tb : Val) : versionCheck tb (.str (verText s)) = .ok tb := by
  unfold verText
  cases s.includeVer
  · simpa using versionCheck_denied tb
  · simpa using versionCheck_same tb

theorem build_record (env : Env) (s : SendCfg) (e : ExcRec) (cls : ClsRef) (hw : Writable env cls e) :
    build env cls (.tuple (walkArgs e e.dir)) (.tuple (walkAttrs e.dir ++ [versionPair s])) (.str (tbShown s e))
      = .ok (received s e cls) := by
  have hlist : walkAttrs e.dir ++ [versionPair s]
      = (sentAttrs e.dir ++ [(Gen.Vinegar.versionAttr, Val.str (verText s))]).map pairOf := by
    simp [walkAttrs_eq, versionPair, pairOf, verText]
  have hall : ∀ p ∈ sentAttrs e.dir ++ [(Gen.Vinegar.versionAttr, Val.str (verText s))],
      p.1 ≠ argsAttr ∧ env.setattr (ExcObj.mk cls (walkArgs e e.dir) []).cls p.1 p.2 = .store := by
    intro p hp
    rcases List.mem_append.mp hp with h1 | h2
    · obtain ⟨d, _, _, _, ha, _, rfl⟩ := mem_sentAttrs.mp h1
      exact ⟨by rw [← gen_argsName]; simpa using ha, hw.1 _ h1⟩
    · rw [List.mem_singleton.mp h2]
      exact ⟨gen_versionAttr_ne_args, hw.2 _⟩
  unfold build
  simp only [iter]
  rw [hlist, assignAll_store env _ _ hall]
  simp [remoteVersion, ExcObj.get, lookupAttr, gen_versionAttr, versionCheck_verText, received]

theorem isStopMarker_tuple (xs : List Val) : isStopMarker (.tuple xs) = false := rfl

theorem loadCore_tuple (r : RecvCfg) (env : Env) (m c a b t : Val) :
    loadCore r env (.tuple [.tuple [m, c], a, b, t]) = loadRecord r env m c a b t := rfl

/-- Every module name is hashable and the class lookup runs no module code (`hashable_all`, `moduleCodeEvents_nil`: both
measured), so a record load is the import gate, the class lookup and the instantiation. -/
theorem loadRecord_eq (r : RecvCfg) (env : Env) (m c a b t : Val) :
    loadRecord r env m c a b t =
      match resolveClass r env m c with
      | .error err => ⟨importEvents r env m, .error err⟩
      | .ok (cls, nn) => instantiate env (importEvents r env m) cls nn a b t := by
  simp only [loadRecord, hashable_all, moduleCodeEvents_nil, List.append_nil, Bool.not_true, Bool.and_false,
    Bool.false_eq_true, ↓reduceIte]
  rfl

theorem instantiate_eq (env : Env) (evs : List Event) (cls : ClsRef) (nn : Bool) (a b t : Val) :
    instantiate env evs cls nn a b t =
      ⟨evs ++ [.new cls], if nn then .error .typeError else
        match build env cls a b t with
        | .error e => .error e
        | .ok o => .ok (.exc o)⟩ := by
  unfold instantiate
  rw [instantiationEvent_eq]
  cases nn
  · cases build env cls a b t <;> rfl
  · rfl

theorem importEvents_loaded (r : RecvCfg) (env : Env) (m : Val) (h : env.loaded m = true) : importEvents r env m = [] := by
  simp [importEvents, importAttempted, h]

theorem loadExc_record (s : SendCfg) (r : RecvCfg) (env : Env) (e : ExcRec) (cls : ClsRef) (nn : Bool)
    (tb : Val)
    (hres : resolveClass r env (.str e.cls.modname) (.str e.cls.name) = .ok (cls, nn)) :
    loadExc r env (recordPayload s e tb)
      = instantiate env (importEvents r env (.str e.cls.modname)) cls nn (.tuple (walkArgs e e.dir))
          (.tuple (walkAttrs e.dir ++ [versionPair s])) tb := by
  rw [loadExc_eq_core, recordPayload, loadCore_tuple, loadRecord_eq, hres]

theorem loadExc_genuine (s : SendCfg) (r : RecvCfg) (env : Env) (e : ExcRec) (cls : ClsRef)
    (hres : resolveClass r env (.str e.cls.modname) (.str e.cls.name) = .ok (cls, false)) (hw : Writable env cls e) :
    loadExc r env (recordPayload s e (.str (tbShown s e)))
      = ⟨importEvents r env (.str e.cls.modname) ++ [.new cls], .ok (.exc (received s e cls))⟩ := by
  rw [loadExc_record s r env e cls false _ hres, instantiate_eq, build_record env s e cls hw]
  rfl

def ObjKind.isExc : ObjKind → Bool
  | .excClass _ => true
  | _ => false

/-- a built-in class the receiver knows (under either lookup route) -/
def Known (env : Env) (n : Str) (nn : Bool) : Prop :=
  env.loaded (.str Gen.Vinegar.exceptionsModule) = true
    ∧ env.modAttr (.str Gen.Vinegar.exceptionsModule) n = .excClass nn
    ∧ env.builtinAttr n = .excClass nn

/-- the module route is open: custom instantiation allowed and the module is (or has just been) loaded -/
def moduleRoute (r : RecvCfg) (env : Env) (m : Str) : Bool := r.instCustom && inModules r env (.str m)

/-- what the class lookup finds under text names: the module's entry when the module route is open; `builtins`' entry when
custom instantiation is off and `builtins` is the module named; else nothing -/
def foundKind (r : RecvCfg) (env : Env) (m c : Str) : ObjKind :=
  if moduleRoute r env m then env.modAttr (.str m) c
  else if !r.instCustom && m == Gen.Vinegar.exceptionsModule then env.builtinAttr c
  else .missing

theorem resolveClass_str (r : RecvCfg) (env : Env) (m c : Str) :
    resolveClass r env (.str m) (.str c) =
      match foundKind r env m c with
      | .excClass nn => .ok (.real (.str m) c, nn)
      | _ => genericClass env (.str m) (.str c) := by
  unfold resolveClass lookupClass foundKind moduleRoute
  cases r.instCustom
  · -- only `builtins` is looked in
    cases hb : m == Gen.Vinegar.exceptionsModule
    · simp [isBuiltinsName, hb]
    · simp only [isBuiltinsName, hb, getattrKind, Bool.false_eq_true, ↓reduceIte, Bool.false_and, Bool.not_false,
        Bool.and_self]
      cases env.builtinAttr c <;> rfl
  · -- the module named, if it is there
    cases inModules r env (.str m)
    · simp
    · simp only [moduleLookup_str, ↓reduceIte, Bool.and_self]
      cases env.modAttr (.str m) c <;> rfl

theorem genericClass_str (env : Env) (m c : Str) (h : typeNameCheck (m ++ [46] ++ c) = .ok ()) :
    genericClass env (.str m) (.str c) = .ok (.generic (m ++ [46] ++ c), false) := by
  simp only [genericClass, fullName, h]

theorem resolveClass_builtin (r : RecvCfg) (env : Env) {m n : Str} {nn : Bool} (hm : m = Gen.Vinegar.exceptionsModule)
    (hk : Known env n nn) : resolveClass r env (.str m) (.str n) = .ok (.real (.str m) n, nn) := by
  subst hm
  obtain ⟨h1, h2, h3⟩ := hk
  have : foundKind r env Gen.Vinegar.exceptionsModule n = .excClass nn := by
    cases hi : r.instCustom <;> simp [foundKind, moduleRoute, hi, inModules, h1, h2, h3]
  rw [resolveClass_str, this]

/-- the class a non-built-in exception is rebuilt as -/
def customClass (r : RecvCfg) (env : Env) (m c : Str) : ClsRef :=
  if moduleRoute r env m && (env.modAttr (.str m) c).isExc then .real (.str m) c else .generic (m ++ [46] ++ c)

theorem resolveClass_custom (r : RecvCfg) (env : Env) (m c : Str) (hm : m ≠ Gen.Vinegar.exceptionsModule)
    (hname : typeNameCheck (m ++ [46] ++ c) = .ok ()) :
    ∃ nn, resolveClass r env (.str m) (.str c) = .ok (customClass r env m c, nn)
      ∧ (nn = true → customClass r env m c = .real (.str m) c ∧ env.modAttr (.str m) c = .excClass true) := by
  have hfound : foundKind r env m c = if moduleRoute r env m then env.modAttr (.str m) c else .missing := by
    simp [foundKind, hm]
  rw [resolveClass_str, hfound, customClass, genericClass_str env m c hname]
  cases moduleRoute r env m
  · exact ⟨false, rfl, nofun⟩
  · cases hk : env.modAttr (.str m) c with
    | excClass nn => exact ⟨nn, rfl, fun h => ⟨rfl, by rw [h]⟩⟩
    | _ => exact ⟨false, rfl, nofun⟩

theorem customClass_real_iff (r : RecvCfg) (env : Env) (m c : Str) :
    customClass r env m c = .real (.str m) c
      ↔ (r.instCustom = true ∧ inModules r env (.str m) = true ∧ (env.modAttr (.str m) c).isExc = true) := by
  unfold customClass moduleRoute
  constructor
  · intro h
    split at h
    · rename_i hc; simpa [Bool.and_eq_true, and_assoc] using hc
    · cases h
  · intro ⟨h1, h2, h3⟩
    simp [h1, h2, h3]

theorem inModules_iff (r : RecvCfg) (env : Env) (m : Val) :
    inModules r env m = true ↔ (env.loaded m = true ∨ (r.importCustom = true ∧ env.importable m = true)) := by
  unfold inModules importAttempted
  cases env.loaded m <;> cases r.importCustom <;> cases env.importable m <;> simp

/-- a class name `builtins` does not hold (here) as an exception class — a built-in class of the sender's interpreter that
this one lacks —: the generic stand-in `builtins.<name>`, under every switch setting -/
theorem resolveClass_builtin_unknown (r : RecvCfg) (env : Env) (n : Str)
    (hb : (env.builtinAttr n).isExc = false) (hm : (env.modAttr (.str Gen.Vinegar.exceptionsModule) n).isExc = false)
    (hname : typeNameCheck (Gen.Vinegar.exceptionsModule ++ [46] ++ n) = .ok ()) :
    resolveClass r env (.str Gen.Vinegar.exceptionsModule) (.str n)
      = .ok (.generic (Gen.Vinegar.exceptionsModule ++ [46] ++ n), false) := by
  have hfound : (foundKind r env Gen.Vinegar.exceptionsModule n).isExc = false := by
    unfold foundKind
    split
    · exact hm
    · split
      · exact hb
      · rfl
  rw [resolveClass_str, ← genericClass_str env _ n hname]
  cases hk : foundKind r env Gen.Vinegar.exceptionsModule n with
  | excClass nn => rw [hk] at hfound; cases hfound
  | _ => rfl

/-- what an event of a load may be: an import only when allowed and the module was not loaded; never a constructor -/
def EvOK (r : RecvCfg) (env : Env) : Event → Prop
  | .importAttempt m => r.importCustom = true ∧ env.loaded m = false
  | .new _ => True
  | .init _ => False
  | .moduleCode _ _ => False

theorem importEvents_ok (r : RecvCfg) (env : Env) (m : Val) : ∀ ev ∈ importEvents r env m, EvOK r env ev := by
  intro ev hev
  unfold importEvents at hev
  split at hev
  · rename_i h
    rw [List.mem_singleton.mp hev]
    simpa [EvOK, importAttempted] using h
  · cases hev

/-- the classes a load may instantiate: the generic stand-in, or an exception class found where the configuration
allows looking -/
def ClsAllowed (r : RecvCfg) (env : Env) : ClsRef → Prop
  | .generic _ => True
  | .real m c => ∃ nn,
      if r.instCustom then inModules r env m = true ∧ env.modAttr m c = .excClass nn
      else isBuiltinsName m = true ∧ env.builtinAttr c = .excClass nn

theorem genericClass_generic (env : Env) (m c : Val) (cls : ClsRef) (nn : Bool)
    (h : genericClass env m c = .ok (cls, nn)) : ∃ fn, cls = .generic fn := by
  unfold genericClass at h
  split at h
  · cases h
  · split at h
    · cases h
    · cases h; exact ⟨_, rfl⟩

theorem getattrKind_ok (c : Val) (f : Str → ObjKind) (k : ObjKind) (cn : Str) (h : getattrKind c f = .ok (k, cn)) :
    c = .str cn ∧ k = f cn := by
  unfold getattrKind at h
  split at h
  · cases h; exact ⟨rfl, rfl⟩
  · cases h

theorem resolveClass_allowed (r : RecvCfg) (env : Env) (m c : Val) (cls : ClsRef) (nn : Bool)
    (h : resolveClass r env m c = .ok (cls, nn)) : ClsAllowed r env cls := by
  revert h
  fun_cases resolveClass r env m c <;> intro h
  next => cases h
  next hl =>
    cases h
    revert hl
    fun_cases lookupClass r env m c <;> intro hl
    next hi him => exact ⟨nn, by simp [hi, him, moduleLookup_exc env m c _ _ hl]⟩
    next => cases hl
    next hi hb => exact ⟨nn, by simp [hi, hb, ← (getattrKind_ok _ _ _ _ hl).2]⟩
    next => cases hl
  next => obtain ⟨fn, rfl⟩ := genericClass_generic env m c cls nn h; trivial

theorem loadRecord_events (r : RecvCfg) (env : Env) (m c a b t : Val) :
    ∀ ev ∈ (loadRecord r env m c a b t).events, EvOK r env ev := by
  intro ev hev
  rw [loadRecord_eq] at hev
  split at hev
  · exact importEvents_ok r env m ev hev
  · rw [instantiate_eq] at hev
    rcases List.mem_append.mp hev with h | h
    · exact importEvents_ok r env m ev h
    · rw [List.mem_singleton.mp h]
      trivial

theorem loadRecord_out (r : RecvCfg) (env : Env) (m c a b t : Val) (out : Outcome)
    (h : (loadRecord r env m c a b t).out = .ok out) : ∃ o, out = .exc o ∧ ClsAllowed r env o.cls := by
  rw [loadRecord_eq] at h
  split at h
  · cases h
  · rename_i cls nn hres
    rw [instantiate_eq] at h
    cases nn
    · cases hb : build env cls a b t with
      | error err => simp [hb] at h
      | ok o =>
        simp only [hb, Bool.false_eq_true, ↓reduceIte, Except.ok.injEq] at h
        exact ⟨o, h.symm, build_cls env _ _ _ _ o hb ▸ resolveClass_allowed r env m c cls false hres⟩
    · simp at h

theorem loadExc_cases (r : RecvCfg) (env : Env) (p : Val) :
    (∃ m c a b t, loadExc r env p = loadRecord r env m c a b t)
      ∨ ((loadExc r env p).events = [] ∧ ∀ out, (loadExc r env p).out = .ok out →
          out = .stopIterationClass ∨ ∃ t, out = .strExc t ∧ p = .str t) := by
  rw [loadExc_eq_core]
  unfold loadCore
  split
  · exact Or.inr ⟨rfl, fun out h => Or.inl (Except.ok.inj h).symm⟩
  · split
    · exact Or.inr ⟨rfl, fun out h => Or.inr ⟨_, (Except.ok.inj h).symm, rfl⟩⟩
    · split
      · exact Or.inr ⟨rfl, fun out h => nomatch h⟩
      · split
        · exact Or.inr ⟨rfl, fun out h => nomatch h⟩
        · exact Or.inl ⟨_, _, _, _, _, rfl⟩

theorem loadExc_events (r : RecvCfg) (env : Env) (p : Val) : ∀ ev ∈ (loadExc r env p).events, EvOK r env ev := by
  rcases loadExc_cases r env p with ⟨m, c, a, b, t, h⟩ | ⟨h, _⟩
  · rw [h]; exact loadRecord_events r env m c a b t
  · rw [h]; intro ev hev; cases hev

theorem loadExc_out (r : RecvCfg) (env : Env) (p : Val) (o : ExcObj)
    (h : (loadExc r env p).out = .ok (.exc o)) : ClsAllowed r env o.cls := by
  rcases loadExc_cases r env p with ⟨m, c, a, b, t, heq⟩ | ⟨_, hout⟩
  · obtain ⟨o', ho, hcls⟩ := loadRecord_out r env m c a b t _ (heq ▸ h)
    cases ho; exact hcls
  · rcases hout _ h with h | ⟨_, h, _⟩ <;> cases h

theorem sent_full_nodup (s : SendCfg) (e : ExcRec) (h : (e.dir.map (·.name)).Nodup) :
    ((sentAttrs e.dir ++ [(Gen.Vinegar.versionAttr, Val.str (verText s))]).map (·.1)).Nodup := by
  rw [List.map_append, List.nodup_append]
  refine ⟨sentAttrs_nodup e.dir h, by simp, ?_⟩
  intro a ha b hb
  have hb' : b = Gen.Vinegar.versionAttr := by simpa using hb
  subst hb'
  obtain ⟨p, hp, hpn⟩ := List.mem_map.mp ha
  obtain ⟨d, _, _, _, _, hdrop, rfl⟩ := mem_sentAttrs.mp hp
  intro heq
  have hsk := ((dropped_eq_false d).mp hdrop).1
  rw [show d.name = Gen.Vinegar.versionAttr from hpn.trans heq, gen_versionAttr_skipped] at hsk
  cases hsk

theorem received_get_tb (s : SendCfg) (e : ExcRec) (cls : ClsRef) :
    (received s e cls).get Gen.Vinegar.remoteTbAttr = some (.str (tbShown s e)) := by
  simp [received, ExcObj.get, lookupAttr]

theorem received_get_of_mem (s : SendCfg) (e : ExcRec) (cls : ClsRef) (h : (e.dir.map (·.name)).Nodup) {n : Str} {v : Val}
    (hn : Gen.Vinegar.remoteTbAttr ≠ n)
    (hm : (n, v) ∈ sentAttrs e.dir ++ [(Gen.Vinegar.versionAttr, Val.str (verText s))]) :
    (received s e cls).get n = some v := by
  simp only [received, ExcObj.get, lookupAttr, beq_eq_false_iff_ne.mpr hn, Bool.false_eq_true, ↓reduceIte]
  exact lookupAttr_reverse_of_mem _ _ _ (sent_full_nodup s e h) hm

theorem received_get_ver (s : SendCfg) (e : ExcRec) (cls : ClsRef) (h : (e.dir.map (·.name)).Nodup) :
    (received s e cls).get Gen.Vinegar.versionAttr = some (.str (verText s)) :=
  received_get_of_mem s e cls h gen_remoteTb_ne_version (by simp)

theorem received_get_attr (s : SendCfg) (e : ExcRec) (cls : ClsRef) (d : DirEntry) (a : PyObj)
    (h : (e.dir.map (·.name)).Nodup) (hd : d ∈ e.dir) (hv : d.value = some a) (hs : skipped d.name = false)
    (hdata : d.isData = true) (ha : (d.name == Gen.Vinegar.argsName) = false) :
    (received s e cls).get d.name = some (sendable a) := by
  refine received_get_of_mem s e cls h (fun heq => ?_)
    (List.mem_append_left _ (mem_sentAttrs.mpr ⟨d, hd, a, hv, ha, (dropped_eq_false d).mpr ⟨hs, hdata⟩, rfl⟩))
  rw [← heq, gen_remoteTb_skipped] at hs
  cases hs

theorem boxExc_ok (s : SendCfg) (e : ExcRec) (p : Val) (bs : Bytes) (hd : dumpExc s e = .ok p)
    (hb : Brine.dump p = .ok bs) : boxExc s e = .ok p := by
  simp [boxExc, hd, hb]

theorem boxExc_dump_raises (s : SendCfg) (e : ExcRec) (err : Err) (hd : dumpExc s e = .error err) :
    boxExc s e = .ok (fallbackPayload e) := by
  simp [boxExc, hd, gen_fallbackExists]

theorem boxExc_wire_raises (s : SendCfg) (e : ExcRec) (p : Val) (err : Err) (hd : dumpExc s e = .ok p)
    (hb : Brine.dump p = .error err) : boxExc s e = .ok (fallbackPayload e) := by
  simp [boxExc, hd, hb, gen_fallbackExists]

/-- the object built from the fallback record: the note as only argument, the fixed text as traceback, nothing else -/
def fallbackObj (cls : ClsRef) : ExcObj :=
  ⟨cls, [.str Gen.Vinegar.fallbackNote], [(Gen.Vinegar.remoteTbAttr, .str Gen.Vinegar.fallbackTb)]⟩

theorem loadExc_fallback (r : RecvCfg) (env : Env) (e : ExcRec) (cls : ClsRef)
    (hres : resolveClass r env (.str e.cls.modname) (.str e.cls.name) = .ok (cls, false)) :
    loadExc r env (fallbackPayload e)
      = ⟨importEvents r env (.str e.cls.modname) ++ [.new cls], .ok (.exc (fallbackObj cls))⟩ := by
  rw [loadExc_eq_core, fallbackPayload, loadCore_tuple, loadRecord_eq, hres]
  simp [instantiate_eq, build, iter, assignAll, remoteVersion, ExcObj.get, lookupAttr, versionCheck_default, fallbackObj]

end Rpyc.Vinegar
