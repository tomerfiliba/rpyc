import RpycModel.Vinegar.Load
/-
The receiver as this interpreter is measured to be (`Gen.Vinegar.builtinExcTable`, regenerated on every run): which names
of `builtins` are exception classes, whether `cls.__new__(cls)` needs arguments, and which attributes have typed setters.
`Known` and `Writable` (Vinegar/Load.lean), the hypotheses of the general fidelity theorem `builtin_fidelity`
(Props/C09.lean), are discharged for the environment `tableEnv` built
from that table, so that the property can be stated for every built-in exception class of this interpreter without an
environment hypothesis.
-/
namespace Rpyc.Vinegar
open Rpyc

/-- (class name, `__new__` needs arguments, [(attribute with a typed setter, kinds stored faithfully, kinds seen from its getter)]) -/
abbrev Row := List Nat × Bool × List (List Nat × List Nat × List Nat)

/-- the kind codes of the generated table -/
def kindOf : Val → Nat
  | .none => 0 | .notImpl => 1 | .ellipsis => 2 | .bool _ => 3 | .int _ => 4 | .float _ => 5 | .complex _ _ => 6
  | .bytes _ => 7 | .str _ => 8 | .tuple _ => 9 | .fset _ => 10 | .slice _ _ _ => 11 | .other _ => 12

def findIn (rows : List Row) (n : Str) : Option Row := rows.find? (fun r => r.1 == n)
def findRow (n : Str) : Option Row := findIn Gen.Vinegar.builtinExcTable n
/-- the kinds the typed setter of attribute `a` stores (the row's middle column; the getter column is not read here) -/
def findAttr (r : Row) (a : Str) : Option (List Nat) := (r.2.2.find? (fun x => x.1 == a)).map (·.2.1)

/-- what the name `n` of `builtins` is by the table: a listed exception class, with its `__new__` flag, or absent -/
def rowKind (n : Str) : ObjKind :=
  match findRow n with
  | some r => .excClass r.2.1
  | none => .missing

/-- `setattr` on an instance (made by `__new__`) of a subclass of the built-in class `c`: a typed setter stores the kinds
it was measured to store and raises otherwise; every other name lands in the instance `__dict__` -/
def rowSetattr (c a : Str) (v : Val) : SetRes :=
  match findRow c with
  | some r => match findAttr r a with
    | some acc => if acc.contains (kindOf v) then .store else .raises .typeError
    | none => .store
  | none => .store

/-- this interpreter with only `builtins` loaded -/
def tableEnv : Env :=
  { loaded := isBuiltinsName
    importable := fun _ => false
    lazy := fun _ => false
    modAttr := fun m n => if isBuiltinsName m then rowKind n else .missing
    builtinAttr := rowKind
    fmtName := fun _ _ => .error .notModelled
    setattr := fun cls a v => match cls with
      | .real m c => if isBuiltinsName m then rowSetattr c a v else .store
      | .generic _ => .store }

/-- an exception record of the built-in class of row `r`, as Python presents one: `dir()` lists each name once and `args`
among them (measured for every class: `Gen.Vinegar.builtinDirSane`), nothing `dump` calls on it raises (its arguments have a
`repr()`; `getattr` of the class's attributes was measured not to raise: `builtinGetattrClean`), and an attribute with a typed
setter shows a value of a kind its own getter returns (measured: `observed ⊆ stored`, `table_getters_within_setters`) -/
def RecOf (r : Row) (e : ExcRec) : Prop :=
  e.cls = ⟨Gen.Vinegar.exceptionsModule, r.1, .builtin⟩
    ∧ argsCount e.dir = 1
    ∧ (e.dir.map (·.name)).Nodup
    ∧ e.walkRaises = none
    ∧ ∀ d ∈ e.dir, ∀ a acc, d.value = some a → findAttr r d.name = some acc → acc.contains (kindOf (sendable a)) = true

/-! ### obligations about the measured table -/

def strictAsc : List Str → Bool
  | a :: b :: t => decide (a < b) && strictAsc (b :: t)
  | _ => true

theorem pairwise_of_strictAsc : ∀ l : List Str, strictAsc l = true → l.Pairwise (· < ·)
  | [], _ => .nil
  | [a], _ => List.pairwise_singleton _ a
  | a :: b :: t, h => by
    simp only [strictAsc, Bool.and_eq_true, decide_eq_true_eq] at h
    have ih := pairwise_of_strictAsc (b :: t) h.2
    refine List.pairwise_cons.mpr ⟨fun x hx => ?_, ih⟩
    rcases List.mem_cons.mp hx with rfl | hx
    · exact h.1
    · exact List.lt_trans h.1 (List.rel_of_pairwise_cons ih hx)

/-- no class twice.  The generator lists the classes sorted by name, so neighbours are compared (one pass) instead of
all pairs. -/
theorem table_names_nodup : (Gen.Vinegar.builtinExcTable.map (·.1)).Nodup := by
  have h : strictAsc (Gen.Vinegar.builtinExcTable.map (·.1)) = true := by decide +kernel
  exact List.Pairwise.imp (S := (· ≠ ·)) (fun hlt heq => List.lt_irrefl _ (heq ▸ hlt)) (pairwise_of_strictAsc _ h)

/-- no class has a typed setter for the name the version travels under -/
theorem table_version_untyped :
    Gen.Vinegar.builtinExcTable.all (fun r => (findAttr r Gen.Vinegar.versionAttr).isNone) = true := by decide

/-- what a typed getter was seen to return, its setter stores -/
theorem table_getters_within_setters :
    Gen.Vinegar.builtinExcTable.all (fun r => r.2.2.all (fun a => a.2.2.all (fun k => a.2.1.contains k))) = true := by
  decide

theorem table_dir_and_getattr_sane :
    Gen.Vinegar.builtinDirSane = true ∧ Gen.Vinegar.builtinGetattrClean = true ∧ Gen.Vinegar.derivedKeepsNames = true := by
  decide

theorem findIn_of_mem (rows : List Row) (r : Row) (hnd : (rows.map (·.1)).Nodup) (hm : r ∈ rows) :
    findIn rows r.1 = some r := by
  induction rows with
  | nil => cases hm
  | cons x xs ih =>
    simp only [List.map_cons, List.nodup_cons] at hnd
    unfold findIn
    rcases List.mem_cons.mp hm with rfl | hx
    · simp [List.find?]
    · have hne : (x.1 == r.1) = false :=
        beq_eq_false_iff_ne.mpr fun e => hnd.1 (e ▸ List.mem_map_of_mem hx)
      simp only [List.find?, hne]
      exact ih hnd.2 hx

theorem findRow_of_mem (r : Row) (hm : r ∈ Gen.Vinegar.builtinExcTable) : findRow r.1 = some r :=
  findIn_of_mem _ r table_names_nodup hm

theorem isBuiltinsName_builtins : isBuiltinsName (.str Gen.Vinegar.exceptionsModule) = true := by
  simp [isBuiltinsName]

theorem known_of_mem (r : Row) (hm : r ∈ Gen.Vinegar.builtinExcTable) : Known tableEnv r.1 r.2.1 := by
  refine ⟨isBuiltinsName_builtins, ?_, ?_⟩
  · simp [tableEnv, isBuiltinsName_builtins, rowKind, findRow_of_mem r hm]
  · simp [tableEnv, rowKind, findRow_of_mem r hm]

theorem writable_of_recOf (r : Row) (e : ExcRec) (hm : r ∈ Gen.Vinegar.builtinExcTable) (he : RecOf r e) :
    Writable tableEnv (.real (.str e.cls.modname) e.cls.name) e := by
  obtain ⟨hcls, _, _, _, hkinds⟩ := he
  have hmod : e.cls.modname = Gen.Vinegar.exceptionsModule := by rw [hcls]
  have hname : e.cls.name = r.1 := by rw [hcls]
  constructor
  · intro p hp
    obtain ⟨d, hd, o, hv, _, _, rfl⟩ := mem_sentAttrs.mp hp
    simp only [tableEnv, hmod, hname, isBuiltinsName_builtins, ↓reduceIte, rowSetattr, findRow_of_mem r hm]
    cases hfa : findAttr r d.name with
    | none => rfl
    | some acc =>
      have hc := hkinds d hd o acc hv hfa
      simp only [hc, ↓reduceIte]
  · intro v
    have hall := table_version_untyped
    rw [List.all_eq_true] at hall
    have hnone : findAttr r Gen.Vinegar.versionAttr = none := by
      have := hall r hm
      simpa [Option.isNone_iff_eq_none] using this
    simp [tableEnv, hmod, hname, isBuiltinsName_builtins, rowSetattr, findRow_of_mem r hm, hnone]

end Rpyc.Vinegar
