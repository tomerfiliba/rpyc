import RpycModel.Vinegar.Model
/-
Obligations about the generated constants (pairs of constants that must agree: each breaks when `vinegar.py` changes one
side; and the measured switches the model reads), lookup in the attribute list, what `dump` sends (`mem_sentAttrs`,
`walkArgs_eq`) and the attribute loop of `load`.
-/
namespace Rpyc.Vinegar
open Rpyc

/-- the name `dump` treats as the argument tuple is the attribute `load` assigns with `exc.args = ...` -/
theorem gen_argsName : Gen.Vinegar.argsName = argsAttr := by decide
/-- `dump` sends the version under the name `load` reads it from -/
theorem gen_versionAttr : Gen.Vinegar.loadVersionAttr = Gen.Vinegar.versionAttr := by decide
theorem gen_versionAttr_ne_args : Gen.Vinegar.versionAttr ≠ argsAttr := by decide
theorem gen_remoteTb_ne_version : Gen.Vinegar.remoteTbAttr ≠ Gen.Vinegar.versionAttr := by decide
/-- the version travels under a private name, so `dump` never forwards a received one -/
theorem gen_versionAttr_skipped : skipped Gen.Vinegar.versionAttr = true := by decide
/-- ... and so does the traceback -/
theorem gen_remoteTb_skipped : skipped Gen.Vinegar.remoteTbAttr = true := by decide
/-- the marker `dump` sends when the version is withheld is the one `load` compares with: no warning -/
theorem versionCheck_denied (tb : Val) : versionCheck tb (.str Gen.Vinegar.versionDenied) = .ok tb := by
  unfold versionCheck
  have h : (Gen.Vinegar.versionDenied == Gen.Vinegar.loadVersionCompare) = true := by decide
  simp [h]
/-- a peer of the same version: the major versions agree, no warning -/
theorem versionCheck_same (tb : Val) : versionCheck tb (.str Gen.Vinegar.versionString) = .ok tb := by
  unfold versionCheck
  have h1 : (Gen.Vinegar.versionString == Gen.Vinegar.loadVersionCompare) = false := by decide
  have h2 : (majorOf Gen.Vinegar.versionString == Gen.Vinegar.versionMajor) = true := by decide
  simp [h1, h2]
/-- an absent version (the fallback record carries none) reads as the marker: no warning either -/
theorem versionCheck_default (tb : Val) : versionCheck tb (.str Gen.Vinegar.loadVersionDefault) = .ok tb := by
  unfold versionCheck
  have h : (Gen.Vinegar.loadVersionDefault == Gen.Vinegar.loadVersionCompare) = true := by decide
  simp [h]
/-- the marker path of `dump` exists and (after the repair) requires empty arguments -/
theorem gen_fastPath_shape : Gen.Vinegar.stopFastPathExists = true ∧ Gen.Vinegar.stopFastPathRequiresNoArgs = true := by decide
theorem gen_sliceHashable : Gen.Vinegar.sliceHashable = true := by decide
/-- measured on a probe module with a PEP 562 canary: looking the peer-chosen class name up runs no module code -/
theorem gen_moduleLookupPure : Gen.Vinegar.moduleLookupPure = true := by decide
theorem moduleCodeEvents_nil (r : RecvCfg) (env : Env) (m c : Val) : moduleCodeEvents r env m c = [] := by
  simp [moduleCodeEvents, gen_moduleLookupPure]
theorem moduleLookup_str (env : Env) (m : Val) (c : Str) : moduleLookup env m (.str c) = .ok (env.modAttr m c, c) := by
  simp [moduleLookup, gen_moduleLookupPure]
theorem moduleLookup_exc (env : Env) (m c : Val) (nn : Bool) (cn : Str)
    (h : moduleLookup env m c = .ok (.excClass nn, cn)) : env.modAttr m cn = .excClass nn := by
  unfold moduleLookup at h
  split at h
  · simp only [gen_moduleLookupPure, Bool.not_true, Bool.false_and, Bool.false_eq_true, ↓reduceIte] at h
    obtain ⟨h1, rfl⟩ := Prod.mk.inj (Except.ok.inj h)
    exact h1
  · split at h <;> cases h
/-- measured on a probe class with canaries: the instance is made by `cls.__new__(cls)`; `__init__` does not run -/
theorem gen_instantiatesByNew : Gen.Vinegar.instantiatesByNew = true := by decide
theorem instantiationEvent_eq (c : ClsRef) : instantiationEvent c = .new c := by
  simp [instantiationEvent, gen_instantiatesByNew]
/-- measured: `instantiate_oldstyle_exceptions` changes no outcome -/
theorem gen_oldstyleSwitchInert : Gen.Vinegar.oldstyleSwitchInert = true := by decide
theorem loadExc_eq_core (r : RecvCfg) (env : Env) (p : Val) : loadExc r env p = loadCore r env p := by
  simp [loadExc, gen_oldstyleSwitchInert]
/-- measured: a callable value is not sent -/
theorem gen_skipsCallables : Gen.Vinegar.skipsCallables = true := by decide
/-- obligation on the source: formatting the traceback is guarded (a failure of the traceback module must not cost the
exception its arguments) -/
theorem gen_tbFormatGuarded : Gen.Vinegar.tbFormatGuarded = true := by decide
theorem gen_fallbackExists : Gen.Vinegar.fallbackExists = true := by decide

mutual
theorem hashable_all : ∀ v : Val, hashable v = true
  | .slice a b c => by simp [hashable, gen_sliceHashable, hashable_all a, hashable_all b, hashable_all c]
  | .tuple xs => by simp [hashable, hashableL_all xs]
  | .none | .notImpl | .ellipsis | .bool _ | .int _ | .float _ | .complex _ _ | .bytes _ | .str _ | .fset _ | .other _ => by
    simp [hashable]
theorem hashableL_all : ∀ xs : List Val, hashableL xs = true
  | [] => by simp [hashableL]
  | x :: xs => by simp [hashableL, hashable_all x, hashableL_all xs]
end

theorem lookupAttr_append (n : Str) (xs ys : List (Str × Val)) :
    lookupAttr n (xs ++ ys) = match lookupAttr n xs with
      | some v => some v
      | none => lookupAttr n ys := by
  induction xs with
  | nil => simp [lookupAttr]
  | cons p ps ih =>
    obtain ⟨k, v⟩ := p
    simp only [List.cons_append, lookupAttr]
    split <;> simp_all

theorem lookupAttr_none_of_not_mem (n : Str) (xs : List (Str × Val)) (h : ∀ p ∈ xs, p.1 ≠ n) : lookupAttr n xs = none := by
  induction xs with
  | nil => rfl
  | cons p ps ih =>
    obtain ⟨k, v⟩ := p
    have hk : k ≠ n := h (k, v) (by simp)
    simp only [lookupAttr]
    rw [if_neg (by simpa using hk)]
    exact ih (fun q hq => h q (by simp [hq]))

/-- reversed, because `load` leaves the instance attributes most recent first -/
theorem lookupAttr_reverse_of_mem (n : Str) (v : Val) (xs : List (Str × Val))
    (hnd : (xs.map (·.1)).Nodup) (hm : (n, v) ∈ xs) : lookupAttr n xs.reverse = some v := by
  induction xs with
  | nil => cases hm
  | cons p ps ih =>
    obtain ⟨k, w⟩ := p
    simp only [List.map_cons, List.nodup_cons] at hnd
    simp only [List.reverse_cons, lookupAttr_append]
    rcases List.mem_cons.mp hm with heq | hmem
    · cases heq
      have : lookupAttr n ps.reverse = none := by
        apply lookupAttr_none_of_not_mem
        intro q hq
        have hq' : q ∈ ps := by simpa using hq
        intro hqn
        exact hnd.1 (by rw [← hqn]; exact List.mem_map_of_mem hq')
      simp [this, lookupAttr]
    · rw [ih hnd.2 hmem]

/-- the (name, value) pairs `dump` sends for a `dir` list -/
def sentAttrs : List DirEntry → List (Str × Val)
  | [] => []
  | d :: ds =>
    if d.name == Gen.Vinegar.argsName then sentAttrs ds
    else if dropped d then sentAttrs ds
    else match d.value with
      | none => sentAttrs ds
      | some o => (d.name, sendable o) :: sentAttrs ds

/-- an entry of the attribute list as it travels: the tuple `(name, value)` -/
def pairOf (p : Str × Val) : Val := .tuple [.str p.1, p.2]

theorem walkAttrs_eq (ds : List DirEntry) : walkAttrs ds = (sentAttrs ds).map pairOf := by
  induction ds with
  | nil => rfl
  | cons d ds ih =>
    simp only [walkAttrs, sentAttrs]
    split
    · exact ih
    · split
      · exact ih
      · cases hv : d.value <;> simp [ih, pairOf]

theorem dropped_eq_false (d : DirEntry) : dropped d = false ↔ skipped d.name = false ∧ d.isData = true := by
  simp [dropped, gen_skipsCallables]

theorem mem_sentAttrs {ds : List DirEntry} {p : Str × Val} : p ∈ sentAttrs ds ↔
    ∃ d ∈ ds, ∃ o, d.value = some o ∧ (d.name == Gen.Vinegar.argsName) = false ∧ dropped d = false
      ∧ p = (d.name, sendable o) := by
  induction ds with
  | nil => simp [sentAttrs]
  | cons x xs ih =>
    simp only [List.mem_cons, or_and_right, exists_or, exists_eq_left, ← ih, sentAttrs]
    cases x.name == Gen.Vinegar.argsName <;> cases dropped x <;> cases x.value <;> simp

theorem sentAttrs_names_sublist (ds : List DirEntry) : ((sentAttrs ds).map (·.1)).Sublist (ds.map (·.name)) := by
  induction ds with
  | nil => exact .slnil
  | cons x xs ih =>
    simp only [sentAttrs, List.map_cons]
    split
    · exact ih.cons _
    · split
      · exact ih.cons _
      · split
        · exact ih.cons _
        · exact ih.cons_cons _

theorem sentAttrs_nodup (ds : List DirEntry) (h : (ds.map (·.name)).Nodup) : ((sentAttrs ds).map (·.1)).Nodup :=
  h.sublist (sentAttrs_names_sublist ds)

/-- how many times `dir(val)` lists `args` -/
def argsCount (ds : List DirEntry) : Nat := (ds.filter (fun d => d.name == Gen.Vinegar.argsName)).length

theorem walkArgs_eq (e : ExcRec) (ds : List DirEntry) :
    walkArgs e ds = (List.replicate (argsCount ds) (e.args.map sendable)).flatten := by
  induction ds with
  | nil => rfl
  | cons d ds ih =>
    simp only [walkArgs, argsCount, List.filter_cons]
    split <;> simp [ih, argsCount, List.replicate_succ]

theorem walkArgs_once (e : ExcRec) (ds : List DirEntry) (h : argsCount ds = 1) : walkArgs e ds = e.args.map sendable := by
  simp [walkArgs_eq, h]

theorem assignAttr_cls (env : Env) (o o' : ExcObj) (n v : Val) (h : assignAttr env o n v = .ok o') : o'.cls = o.cls := by
  -- every branch that succeeds returns `o` itself or `o` with `args` / `attrs` replaced
  revert h
  fun_cases assignAttr env o n v <;> intro h
  · cases h                -- `args`, not iterable
  · cases h; rfl           -- `args` replaced
  · cases h; rfl           -- attribute stored
  · cases h; rfl           -- `AttributeError` swallowed: `o` itself
  · cases h                -- `setattr` raises
  · cases h                -- the name is not a string

theorem assignAll_cls (env : Env) (items : List Val) : ∀ (o o' : ExcObj), assignAll env o items = .ok o' → o'.cls = o.cls := by
  intro o o'
  fun_induction assignAll env o items with
  | case1 => intro h; cases h; rfl                       -- no items: `o` itself
  | case2 => intro h; cases h                            -- the item is not a pair
  | case3 => intro h; cases h                            -- the assignment fails
  | case4 o _ _ n v _ o1 h1 ih => intro h; rw [ih h, assignAttr_cls env o o1 n v h1]

theorem assignAll_store (env : Env) (ps : List (Str × Val)) : ∀ (o : ExcObj),
    (∀ p ∈ ps, p.1 ≠ argsAttr ∧ env.setattr o.cls p.1 p.2 = .store) →
    assignAll env o (ps.map pairOf) = .ok { o with attrs := ps.reverse ++ o.attrs } := by
  induction ps with
  | nil => intro o _; simp [assignAll]
  | cons p ps ih =>
    intro o h
    obtain ⟨hn, hs⟩ := h p (by simp)
    have hne : (p.1 == argsAttr) = false := by simpa using hn
    simp only [List.map_cons, assignAll, pairOf, unpack2, iter, assignAttr, hne, hs, Bool.false_eq_true, ↓reduceIte]
    rw [ih]
    · simp
    · intro q hq
      exact h q (List.mem_cons_of_mem _ hq)

theorem build_cls (env : Env) (cls : ClsRef) (args attrs tb : Val) (o : ExcObj)
    (h : build env cls args attrs tb = .ok o) : o.cls = cls := by
  -- `build` starts from `⟨cls, _, []⟩`, runs the attribute loop and adds one attribute
  revert h
  fun_cases build env cls args attrs tb <;> intro h
  · cases h                -- `args` not iterable
  · cases h                -- `attrs` not iterable
  · cases h                -- the attribute loop fails
  · cases h                -- the version check fails
  · next h1 _ _ => cases h; exact assignAll_cls env _ _ _ h1

end Rpyc.Vinegar
