/-
L0 — bytes, the exception classes of the models (`Err`), big-endian integers, Python's decimal text for
integers and the `int(bytes)` grammar, UTF-8 over code points (lone surrogates are representable because
Python strings can hold them).

Bytes are modelled as `List Nat`; real byte strings are the lists whose members are < 256.  Theorems
that quantify over "all byte strings" quantify over all lists of naturals, which is a superset.
-/
namespace Rpyc

abbrev Bytes := List Nat

/-- exception classes the models can raise; messages are never modelled.  `recursionError` is also what the brine
decoder's model answers when its fuel runs out (never, under `load`: Brine/Fuel.lean). -/
inductive Err where
  | typeError | valueError | unicodeDecodeError | unicodeEncodeError | attributeError
  | structError | keyError | eofError | zlibError | recursionError | indexError
  | stopIteration | timeoutError | notModelled
  deriving DecidableEq, Repr, Inhabited

def Err.name : Err → String
  | .typeError => "TypeError" | .valueError => "ValueError"
  | .unicodeDecodeError => "UnicodeDecodeError" | .unicodeEncodeError => "UnicodeEncodeError"
  | .attributeError => "AttributeError" | .structError => "struct.error" | .keyError => "KeyError"
  | .eofError => "EOFError" | .zlibError => "zlib.error" | .recursionError => "RecursionError"
  | .indexError => "IndexError" | .stopIteration => "StopIteration" | .timeoutError => "TimeoutError"
  | .notModelled => "NOT-MODELLED"

/-! ### big-endian fixed-width integers (`struct` formats `!B`, `!L`, and the raw bits of `!d`) -/

def beN : Nat → Nat → Bytes
  | 0, _ => []
  | k+1, n => beN k (n / 256) ++ [n % 256]

def unbe (bs : Bytes) : Nat := bs.foldl (fun acc b => acc * 256 + b) 0

@[simp] theorem beN_length (k n : Nat) : (beN k n).length = k := by
  induction k generalizing n with
  | zero => rfl
  | succ k ih => simp [beN, ih]

theorem take_beN_append (k n : Nat) (l : Bytes) : (beN k n ++ l).take k = beN k n :=
  List.take_left' (beN_length k n)

theorem drop_beN_append (k n : Nat) (l : Bytes) : (beN k n ++ l).drop k = l :=
  List.drop_left' (beN_length k n)

theorem unbe_append_single (bs : Bytes) (b : Nat) : unbe (bs ++ [b]) = unbe bs * 256 + b := by
  simp [unbe, List.foldl_append]

theorem unbe_beN (k n : Nat) (h : n < 256 ^ k) : unbe (beN k n) = n := by
  induction k generalizing n with
  | zero => simp [beN, unbe] at *; omega
  | succ k ih =>
    have h1 : n / 256 < 256 ^ k := by
      rw [Nat.pow_succ] at h
      omega
    rw [beN, unbe_append_single, ih _ h1]
    omega

theorem beN_bytes (k n : Nat) : ∀ b ∈ beN k n, b < 256 := by
  induction k generalizing n with
  | zero => simp [beN]
  | succ k ih =>
    intro b hb
    simp [beN] at hb
    rcases hb with hb | hb
    · exact ih _ _ hb
    · omega

/-! ### decimal text of integers: `str(int)` and `int(bytes)` -/

def natDigits (n : Nat) : Bytes :=
  if n < 10 then [48 + n] else natDigits (n / 10) ++ [48 + n % 10]
decreasing_by omega

/-- `str(i).encode()` -/
def intRepr (i : Int) : Bytes :=
  if i < 0 then 45 :: natDigits i.natAbs else natDigits i.natAbs

def isSpace (b : Nat) : Bool := b == 32 || (9 ≤ b && b ≤ 13)
def isDigit (b : Nat) : Bool := 48 ≤ b && b ≤ 57

/-- Body of Python's decimal integer grammar after leading whitespace and sign: digits with single
underscores between digits, then optional trailing whitespace.  Returns value and digit count. -/
def parseDigitsGo (acc nd : Nat) (prevUnderscore : Bool) : Bytes → Option (Nat × Nat)
  | [] => if prevUnderscore || nd == 0 then none else some (acc, nd)
  | b :: rest =>
    if isDigit b then parseDigitsGo (acc * 10 + (b - 48)) (nd + 1) false rest
    else if b == 95 && !prevUnderscore && nd != 0 then parseDigitsGo acc nd true rest
    else if isSpace b && !prevUnderscore && nd != 0 && rest.all isSpace then some (acc, nd)
    else none

def splitSign : Bytes → Bool × Bytes
  | 45 :: r => (true, r)
  | 43 :: r => (false, r)
  | s => (false, s)

def finishInt (maxDigits : Nat) (neg : Bool) : Option (Nat × Nat) → Option Int
  | none => none
  | some (v, nd) =>
    if maxDigits != 0 && nd > maxDigits then none
    else some (if neg then - (v : Int) else (v : Int))

/-- `int(bs)` for a bytes argument, base 10, with the interpreter's digit limit (`0` = none).
`none` is `ValueError`. -/
def parseInt (maxDigits : Nat) (bs : Bytes) : Option Int :=
  finishInt maxDigits (splitSign (bs.dropWhile isSpace)).1
    (parseDigitsGo 0 0 false (splitSign (bs.dropWhile isSpace)).2)

theorem natDigits_ne_nil (n : Nat) : natDigits n ≠ [] := by
  unfold natDigits; split <;> simp

theorem natDigits_all_digit (n : Nat) : ∀ b ∈ natDigits n, isDigit b = true := by
  fun_induction natDigits n with
  | case1 n h => simp [isDigit]; omega
  | case2 n h ih =>
    intro b hb
    rcases List.mem_append.1 hb with hb | hb
    · exact ih b hb
    · simp at hb; subst hb; simp [isDigit]; omega

theorem natDigits_length_le_of_lt : ∀ (k n : Nat), n < 10 ^ (k + 1) → (natDigits n).length ≤ k + 1 := by
  intro k
  induction k with
  | zero => intro n h; rw [natDigits, if_pos (by omega)]; simp
  | succ k ih =>
    intro n h
    rw [natDigits]
    split
    · simp
    · have := ih (n / 10) (by rw [Nat.pow_succ] at h; omega)
      simp; omega

theorem intRepr_length_le (i : Int) : (intRepr i).length ≤ (natDigits i.natAbs).length + 1 := by
  unfold intRepr; split <;> simp

theorem parseDigitsGo_natDigits (n acc nd : Nat) (pu : Bool) (tl : Bytes) :
    parseDigitsGo acc nd pu (natDigits n ++ tl)
      = parseDigitsGo (acc * 10 ^ (natDigits n).length + n) (nd + (natDigits n).length) false tl := by
  fun_induction natDigits n generalizing acc nd pu tl with
  | case1 n h =>
    have hd : isDigit (48 + n) = true := by simp [isDigit]; omega
    simp [parseDigitsGo, hd]
  | case2 n h ih =>
    have hd : isDigit (48 + n % 10) = true := by simp [isDigit]; omega
    rw [List.append_assoc, ih]
    simp only [List.singleton_append, parseDigitsGo, hd, if_true, List.length_append,
      List.length_singleton]
    congr 1
    · rw [Nat.add_sub_cancel_left, Nat.pow_succ]
      have := Nat.div_add_mod n 10
      rw [Nat.add_mul, Nat.mul_assoc]
      omega

theorem parseDigitsGo_natDigits_self (n : Nat) :
    parseDigitsGo 0 0 false (natDigits n) = some (n, (natDigits n).length) := by
  have h := parseDigitsGo_natDigits n 0 0 false []
  simp only [List.append_nil, Nat.zero_mul, Nat.zero_add] at h
  rw [h, parseDigitsGo, if_neg (by simpa using natDigits_ne_nil n)]

theorem natDigits_no_prefix (n : Nat) :
    (natDigits n).dropWhile isSpace = natDigits n ∧ splitSign (natDigits n) = (false, natDigits n) := by
  obtain ⟨d, ds, hds⟩ := List.exists_cons_of_ne_nil (natDigits_ne_nil n)
  have hd : 48 ≤ d ∧ d ≤ 57 := by simpa [isDigit, hds] using natDigits_all_digit n d
  rw [hds]
  constructor
  · have hsp : isSpace d = false := by simp [isSpace]; omega
    simp [List.dropWhile, hsp]
  · unfold splitSign
    split
    · rename_i heq; simp at heq; omega
    · rename_i heq; simp at heq; omega
    · rfl

theorem parseInt_intRepr (maxDigits : Nat) (i : Int)
    (h : maxDigits = 0 ∨ (natDigits i.natAbs).length ≤ maxDigits) :
    parseInt maxDigits (intRepr i) = some i := by
  have hlim : (maxDigits != 0 && decide ((natDigits i.natAbs).length > maxDigits)) = false := by
    rcases h with h | h
    · simp [h]
    · simp; intro _; omega
  unfold parseInt intRepr
  split
  · -- '-' is not whitespace; the sign and the magnitude recombine to `i`
    rename_i hneg
    rw [show List.dropWhile isSpace (45 :: natDigits i.natAbs) = 45 :: natDigits i.natAbs from rfl]
    simp only [splitSign, parseDigitsGo_natDigits_self, finishInt, hlim, Bool.false_eq_true, if_false, if_true]
    rw [Int.ofNat_natAbs_of_nonpos (Int.le_of_lt hneg), Int.neg_neg]
  · rename_i hpos
    obtain ⟨h1, h2⟩ := natDigits_no_prefix i.natAbs
    rw [h1, h2]
    simp only [parseDigitsGo_natDigits_self, finishInt, hlim, Bool.false_eq_true, if_false]
    rw [Int.natAbs_of_nonneg (Int.not_lt.1 hpos)]

/-! ### UTF-8 over code points

`sp = true` is Python's `surrogatepass` error handler (surrogate code points are encoded and decoded
like any other three-byte character), `sp = false` is `strict`. -/

def isSurrogate (c : Nat) : Bool := 0xD800 ≤ c && c ≤ 0xDFFF

def utf8EncCp (c : Nat) : Bytes :=
  if c < 0x80 then [c]
  else if c < 0x800 then [0xC0 + c / 64, 0x80 + c % 64]
  else if c < 0x10000 then [0xE0 + c / 4096, 0x80 + c / 64 % 64, 0x80 + c % 64]
  else [0xF0 + c / 262144, 0x80 + c / 4096 % 64, 0x80 + c / 64 % 64, 0x80 + c % 64]

/-- `str.encode("utf8", errors)`; `none` is `UnicodeEncodeError` -/
def utf8Enc (sp : Bool) : List Nat → Option Bytes
  | [] => some []
  | c :: cs =>
    if isSurrogate c && !sp then none
    else match utf8Enc sp cs with
      | none => none
      | some r => some (utf8EncCp c ++ r)

def isCont (b : Nat) : Bool := 0x80 ≤ b && b < 0xC0

/-- one code point from the front of a byte string; `none` = invalid (`UnicodeDecodeError`) -/
def utf8DecCp (sp : Bool) : Bytes → Option (Nat × Bytes)
  | [] => none
  | b0 :: rest =>
    if b0 < 0x80 then some (b0, rest)
    else if b0 < 0xC2 then none
    else if b0 < 0xE0 then
      match rest with
      | b1 :: r => if isCont b1 then some ((b0 - 0xC0) * 64 + (b1 - 0x80), r) else none
      | _ => none
    else if b0 < 0xF0 then
      match rest with
      | b1 :: b2 :: r =>
        let c := (b0 - 0xE0) * 4096 + (b1 - 0x80) * 64 + (b2 - 0x80)
        if isCont b1 && isCont b2 && 0x800 ≤ c && (sp || !isSurrogate c) then some (c, r) else none
      | _ => none
    else if b0 < 0xF5 then
      match rest with
      | b1 :: b2 :: b3 :: r =>
        let c := (b0 - 0xF0) * 262144 + (b1 - 0x80) * 4096 + (b2 - 0x80) * 64 + (b3 - 0x80)
        if isCont b1 && isCont b2 && isCont b3 && 0x10000 ≤ c && c < 0x110000 then some (c, r) else none
      | _ => none
    else none

/-- `bytes.decode("utf-8", errors)` with fuel (one unit per code point) -/
def utf8DecFuel (sp : Bool) : Nat → Bytes → Option (List Nat)
  | _, [] => some []
  | 0, _ :: _ => none
  | f+1, b :: bs =>
    match utf8DecCp sp (b :: bs) with
    | none => none
    | some (c, r) => match utf8DecFuel sp f r with
      | none => none
      | some cs => some (c :: cs)

def utf8Dec (sp : Bool) (bs : Bytes) : Option (List Nat) := utf8DecFuel sp bs.length bs

theorem sixbits2 (c : Nat) : c / 64 * 64 + c % 64 = c := Nat.div_add_mod' c 64

theorem sixbits3 (c : Nat) : c / 4096 * 4096 + c / 64 % 64 * 64 + c % 64 = c := by
  have h := sixbits2 (c / 64)
  rw [Nat.div_div_eq_div_mul] at h
  calc _ = (c / 4096 * 64 + c / 64 % 64) * 64 + c % 64 := by rw [Nat.add_mul, Nat.mul_assoc]
    _ = c := by rw [h, sixbits2]

theorem sixbits4 (c : Nat) :
    c / 262144 * 262144 + c / 4096 % 64 * 4096 + c / 64 % 64 * 64 + c % 64 = c := by
  have h := sixbits3 (c / 64)
  rw [Nat.div_div_eq_div_mul, Nat.div_div_eq_div_mul] at h
  calc _ = (c / 262144 * 4096 + c / 4096 % 64 * 64 + c / 64 % 64) * 64 + c % 64 := by
        rw [Nat.add_mul, Nat.add_mul, Nat.mul_assoc, Nat.mul_assoc]
    _ = c := by rw [h, sixbits2]

theorem isCont_add_mod (x : Nat) : isCont (0x80 + x % 64) = true := by
  have := Nat.mod_lt x (show 0 < 64 by decide)
  simp [isCont]; omega

theorem utf8DecCp_encCp (sp : Bool) (c : Nat) (rest : Bytes) (hc : c < 0x110000)
    (hs : isSurrogate c = false ∨ sp = true) :
    utf8DecCp sp (utf8EncCp c ++ rest) = some (c, rest) := by
  -- per length class: the lead byte selects the decoder's branch, the continuation bytes pass
  -- `isCont`, and the six-bit digits recompose to `c`
  fun_cases utf8EncCp c
  case case1 h => simp [utf8DecCp, h]
  case case2 h1 h2 =>
    rw [List.cons_append, List.cons_append, List.nil_append, utf8DecCp,
      if_neg (by omega), if_neg (by omega), if_pos (by omega)]
    simp only [isCont_add_mod, if_true, Nat.add_sub_cancel_left, sixbits2]
  case case3 h1 h2 h3 =>
    have hsp : (sp || !isSurrogate c) = true := by rcases hs with hs | hs <;> simp [hs]
    rw [List.cons_append, List.cons_append, List.cons_append, List.nil_append, utf8DecCp,
      if_neg (by omega), if_neg (by omega), if_neg (by omega), if_pos (by omega)]
    simp only [isCont_add_mod, Nat.add_sub_cancel_left, sixbits3, hsp, Nat.not_lt.1 h2, Bool.and_self,
      decide_true, if_true]
  case case4 h1 h2 h3 =>
    rw [List.cons_append, List.cons_append, List.cons_append, List.cons_append, List.nil_append, utf8DecCp,
      if_neg (by omega), if_neg (by omega), if_neg (by omega), if_neg (by omega), if_pos (by omega)]
    simp only [isCont_add_mod, Nat.add_sub_cancel_left, sixbits4, hc, Nat.not_lt.1 h3, Bool.and_self,
      decide_true, if_true]

theorem utf8EncCp_ne_nil (c : Nat) : utf8EncCp c ≠ [] := by
  fun_cases utf8EncCp c <;> simp

theorem utf8EncCp_length_pos (c : Nat) : 0 < (utf8EncCp c).length :=
  List.length_pos_iff.2 (utf8EncCp_ne_nil c)

theorem utf8Enc_cons_some (sp : Bool) (c : Nat) (cs : List Nat) (bs : Bytes)
    (h : utf8Enc sp (c :: cs) = some bs) :
    (isSurrogate c = false ∨ sp = true) ∧ ∃ r, utf8Enc sp cs = some r ∧ bs = utf8EncCp c ++ r := by
  simp only [utf8Enc] at h
  split at h
  · simp at h
  · rename_i hsur
    split at h
    · simp at h
    · rename_i r hr
      simp at h
      refine ⟨?_, r, hr, h.symm⟩
      cases hsp : sp <;> cases hsu : isSurrogate c <;> simp [hsp, hsu] at hsur ⊢

theorem utf8DecFuel_enc (spE spD : Bool) (hmode : spE = true → spD = true) (cs : List Nat) (bs : Bytes)
    (hv : ∀ c ∈ cs, c < 0x110000) (h : utf8Enc spE cs = some bs) (f : Nat) (hf : cs.length ≤ f) :
    utf8DecFuel spD f bs = some cs := by
  induction cs generalizing bs f with
  | nil => simp [utf8Enc] at h; subst h; cases f <;> simp [utf8DecFuel]
  | cons c cs ih =>
    obtain ⟨hs0, r, hr, rfl⟩ := utf8Enc_cons_some spE c cs bs h
    obtain ⟨f', rfl⟩ : ∃ f', f = f' + 1 := ⟨f - 1, by simp at hf; omega⟩
    have hdec := utf8DecCp_encCp spD c r (hv c (by simp)) (hs0.imp_right hmode)
    obtain ⟨b, t, ht⟩ := List.exists_cons_of_ne_nil (utf8EncCp_ne_nil c)
    rw [ht, List.cons_append] at hdec ⊢
    have ih' := ih r (fun c' hc' => hv c' (by simp [hc'])) hr f' (by simp at hf; omega)
    simp [utf8DecFuel, hdec, ih']

theorem utf8Enc_length_ge (sp : Bool) (cs : List Nat) (bs : Bytes) (h : utf8Enc sp cs = some bs) :
    cs.length ≤ bs.length := by
  induction cs generalizing bs with
  | nil => simp
  | cons c cs ih =>
    obtain ⟨_, r, hr, rfl⟩ := utf8Enc_cons_some sp c cs bs h
    have := ih r hr
    have := utf8EncCp_length_pos c
    simp; omega

theorem utf8Dec_enc (spE spD : Bool) (hmode : spE = true → spD = true) (cs : List Nat) (bs : Bytes)
    (hv : ∀ c ∈ cs, c < 0x110000) (h : utf8Enc spE cs = some bs) : utf8Dec spD bs = some cs :=
  utf8DecFuel_enc spE spD hmode cs bs hv h _ (utf8Enc_length_ge spE cs bs h)

theorem utf8Enc_sp_eq (s : List Nat) : utf8Enc true s = some (s.flatMap utf8EncCp) := by
  induction s with
  | nil => rfl
  | cons c cs ih => simp [utf8Enc, ih]

theorem utf8Enc_total_sp (cs : List Nat) : ∃ bs, utf8Enc true cs = some bs :=
  ⟨_, utf8Enc_sp_eq cs⟩

end Rpyc
