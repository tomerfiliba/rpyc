import RpycModel.Async.Model
/-
L7 Async: what one `serve`, the loop of `wait` and each event do to a world.  A property kept by moving the clock and by
dispatching a message is kept by every event but `set_expiry` and `add_callback` (`step_pres`); the invariants of runs are
instances of that: a decided result stays as it is (`Frozen`), an expired one stays expired until it is re-armed (`Dead`),
callbacks run once, at the later of registration and readiness (`Inv`, `CbInv`, `Ledger`).  `TimedOutAt` says when the loop
of `wait` ends in a timeout; `status` and `Reachable` are the vocabulary of Props/C15.lean; the callback loops of `callR`
and the one-step unfoldings that C15 cites come last.
-/
namespace Rpyc.Async

theorem Timeout.make_none (now : Nat) : Timeout.make now none = Timeout.inf := rfl

theorem Timeout.make_neg (now : Nat) (t : Int) (h : t < 0) : Timeout.make now (some t) = Timeout.inf := by
  simp [Timeout.make, Timeout.inf]; omega

theorem Timeout.make_nonneg (now : Nat) (t : Int) (h : 0 ≤ t) :
    Timeout.make now (some t) = ⟨true, now + t.toNat⟩ := by
  simp [Timeout.make, h]

theorem Timeout.inf_not_expired (now : Nat) : Timeout.inf.expired now = false := rfl

theorem Timeout.expired_iff (t : Timeout) (now : Nat) : t.expired now = true ↔ t.finite = true ∧ t.tmax ≤ now := by
  simp [Timeout.expired]

theorem Timeout.expired_mono (t : Timeout) {a b : Nat} (hab : a ≤ b) (h : t.expired a = true) : t.expired b = true :=
  (t.expired_iff b).mpr ⟨((t.expired_iff a).mp h).1, Nat.le_trans ((t.expired_iff a).mp h).2 hab⟩

@[simp] theorem call_now (w : World) (e : Bool) (v : Nat) : (call w e v).now = w.now := by
  unfold call; split <;> rfl
@[simp] theorem call_ttl (w : World) (e : Bool) (v : Nat) : (call w e v).ar.ttl = w.ar.ttl := by
  unfold call; split <;> rfl
@[simp] theorem call_live (w : World) (e : Bool) (v : Nat) : (call w e v).live = w.live := by
  unfold call; split <;> rfl
@[simp] theorem call_chan (w : World) (e : Bool) (v : Nat) : (call w e v).chan = w.chan := by
  unfold call; split <;> rfl
@[simp] theorem call_busy (w : World) (e : Bool) (v : Nat) : (call w e v).busy = w.busy := by
  unfold call; split <;> rfl

@[simp] theorem dispatch_ttl (w : World) (m : Msg) : (dispatch w m).ar.ttl = w.ar.ttl := by
  cases m <;> simp only [dispatch]
  split <;> simp
@[simp] theorem dispatch_chan (w : World) (m : Msg) : (dispatch w m).chan = w.chan := by
  cases m <;> simp only [dispatch]
  split <;> simp

@[simp] theorem dispatch_reply_now (w : World) (s : Nat) (e : Bool) (v : Nat) :
    (dispatch w (.reply s e v)).now = w.now := by
  simp only [dispatch]; split <;> simp
@[simp] theorem dispatch_reply_busy (w : World) (s : Nat) (e : Bool) (v : Nat) :
    (dispatch w (.reply s e v)).busy = w.busy := by
  simp only [dispatch]; split <;> simp

theorem dispatch_now_ge (w : World) (m : Msg) : w.now ≤ (dispatch w m).now := by
  cases m with
  | reply s e v => rw [dispatch_reply_now]; exact Nat.le_refl _
  | other d => exact Nat.le_add_right ..

theorem dispatch_elim {P : World → Prop} {w : World} (m : Msg)
    (hother : ∀ d, P { w with now := w.now + d, busy := w.busy ++ [(w.now, d)] })
    (hcall : w.live = true → ∀ e v, P (call { w with live := false } e v)) (hnone : P w) :
    P (dispatch w m) := by
  cases m with
  | reply s e v =>
    simp only [dispatch]
    split
    · next h => exact hcall h.2 e v
    · exact hnone
  | other d => exact hother d

theorem addCallback_ready {w : World} (hr : w.ar.isReady = true) (c : Nat) :
    addCallback w c = { w with cbLog := w.cbLog ++ [(c, w.now)] } := if_pos hr

theorem addCallback_pending {w : World} (hr : w.ar.isReady = false) (c : Nat) :
    addCallback w c = { w with ar := { w.ar with callbacks := w.ar.callbacks ++ [c] } } := by
  simp [addCallback, hr]

theorem serve_some {w w1 : World} {t : Timeout} (h : serve w t = some w1) :
    (t.finite = true ∧ w1 = { w with now := max w.now t.tmax })
    ∨ ∃ at_ m rest, w.chan = (at_, m) :: rest ∧ (t.finite = true → at_ ≤ max w.now t.tmax)
        ∧ w1 = dispatch { w with now := max w.now at_, chan := rest } m := by
  revert h
  fun_cases serve w t <;> intro h
  · exact .inl ⟨‹_›, (Option.some.inj h).symm⟩
  · cases h
  · next at_ m rest hch hc =>
    refine .inr ⟨at_, m, rest, hch, fun hf => ?_, (Option.some.inj h).symm⟩
    simp [hf] at hc
    omega
  · next hc =>
    refine .inl ⟨?_, (Option.some.inj h).symm⟩
    cases hf : t.finite <;> simp [hf] at hc ⊢

theorem serve_ttl {w w1 : World} {t : Timeout} (h : serve w t = some w1) : w1.ar.ttl = w.ar.ttl := by
  rcases serve_some h with ⟨_, rfl⟩ | ⟨_, _, _, _, _, rfl⟩
  · rfl
  · exact dispatch_ttl ..

theorem serve_time {w w1 : World} {t : Timeout} (h : serve w t = some w1) (hf : t.finite = true)
    (hle : w.now ≤ t.tmax) :
    ∃ ext, w1.busy = w.busy ++ ext ∧
      (w1.now ≤ t.tmax ∨ ∃ s d, ext = [(s, d)] ∧ s ≤ t.tmax ∧ t.tmax < s + d ∧ w1.now = s + d) := by
  rcases serve_some h with ⟨_, rfl⟩ | ⟨at_, m, rest, _, hat, rfl⟩
  · exact ⟨[], (List.append_nil _).symm, .inl (Nat.max_le.mpr ⟨hle, Nat.le_refl _⟩)⟩
  · have hat : max w.now at_ ≤ t.tmax := by have := hat hf; omega
    cases m with
    | reply s e v => exact ⟨[], by simp, .inl (by rw [dispatch_reply_now]; exact hat)⟩
    | other d =>
      refine ⟨[(max w.now at_, d)], rfl, ?_⟩
      by_cases hover : t.tmax < max w.now at_ + d
      · exact .inr ⟨_, d, rfl, hat, hover, rfl⟩
      · exact .inl (Nat.le_of_not_lt hover)

theorem serve_chan {w w1 : World} {t : Timeout} (h : serve w t = some w1) :
    w1.chan.length + 1 = w.chan.length ∨
    (w1.chan.length = w.chan.length ∧ w1.ar = w.ar ∧ t.finite = true ∧ t.tmax ≤ w1.now) := by
  rcases serve_some h with ⟨hf, rfl⟩ | ⟨at_, m, rest, hch, _, rfl⟩
  · exact .inr ⟨rfl, rfl, hf, Nat.le_max_right ..⟩
  · exact .inl (by rw [dispatch_chan, hch]; rfl)

theorem pollAll0_eq (w : World) : pollAll0 w = serveOnce w (Timeout.make w.now (some 0)) := rfl

def LoopRes.world : LoopRes → Option World
  | .done w => some w
  | .hang w => some w
  | .fuel => none

theorem waitLoop_of_stopped {w : World} (h : (w.ar.isReady || w.ar.ttl.expired w.now) = true) (f : Nat) :
    waitLoop (f + 1) w = .done w := by
  rw [waitLoop, if_pos h]

/-- the fuel of `wait` is enough: every iteration that does not end the loop consumes a message or reaches the
deadline, and the iteration after the deadline ends the loop -/
theorem waitLoop_fuel (f : Nat) (w : World) : w.chan.length + 2 ≤ f → waitLoop f w ≠ .fuel := by
  fun_induction waitLoop f w with
  | case1 => omega
  | case2 => exact fun _ h => nomatch h
  | case3 => exact fun _ h => nomatch h
  | case4 f w _ w1 h1 ih =>
    intro hf
    rcases serve_chan h1 with hlen | ⟨hlen, har, hfin, hle⟩
    · exact ih (by omega)
    · obtain ⟨f, rfl⟩ : ∃ g, f = g + 1 := ⟨f - 1, by omega⟩
      rw [waitLoop_of_stopped (by simp [(w1.ar.ttl.expired_iff w1.now).mpr ⟨har ▸ hfin, har ▸ hle⟩])]
      exact fun h => nomatch h

theorem wait_cases (w : World) :
    (∃ w', waitLoop (waitFuel w) w = .done w' ∧ wait w = (w', if w'.ar.isReady then .unit else .timeout))
    ∨ ∃ w', waitLoop (waitFuel w) w = .hang w' ∧ wait w = (w', .hang) := by
  cases hl : waitLoop (waitFuel w) w with
  | done w' => exact .inl ⟨w', rfl, by rw [wait, hl]; dsimp only; split <;> rfl⟩
  | hang w' => exact .inr ⟨w', rfl, by rw [wait, hl]⟩
  | fuel => exact absurd hl (waitLoop_fuel _ w (Nat.le_refl _))

theorem wait_world (w : World) : (waitLoop (waitFuel w) w).world = some (wait w).1 := by
  rcases wait_cases w with ⟨w', hl, hw⟩ | ⟨w', hl, hw⟩ <;> rw [hw, hl] <;> rfl

theorem wait_of_stopped {w : World} (h : (w.ar.isReady || w.ar.ttl.expired w.now) = true) :
    wait w = (w, if w.ar.isReady then .unit else .timeout) := by
  rw [wait, waitFuel, waitLoop_of_stopped h]
  dsimp only; split <;> rfl

theorem value_fst (w : World) : (value w).1 = (wait w).1 := by
  unfold value; split
  · split <;> rfl
  · rfl

theorem error_fst (w : World) : (error w).1 = (ready w).1 := by
  unfold error; split <;> rfl

def ClockStable (P : World → Prop) : Prop :=
  ∀ (w : World) (n : Nat) (ch : List (Nat × Msg)), P w → w.now ≤ n → P { w with now := n, chan := ch }

section
variable {P : World → Prop} (hs : ClockStable P) (hd : ∀ w m, P w → P (dispatch w m))
include hs hd

theorem serve_pres {w w' : World} {t : Timeout} (hp : P w) (h : serve w t = some w') : P w' := by
  rcases serve_some h with ⟨_, rfl⟩ | ⟨_, _, _, _, _, rfl⟩
  · exact hs w _ w.chan hp (Nat.le_max_left ..)
  · exact hd _ _ (hs w _ _ hp (Nat.le_max_left ..))

theorem serveOnce_pres {w : World} (t : Timeout) (hp : P w) : P (serveOnce w t) := by
  unfold serveOnce
  split
  · next w' h => exact serve_pres hs hd hp h
  · exact hp

theorem waitLoop_pres (f : Nat) (w : World) (hp : P w) {w' : World} : (waitLoop f w).world = some w' → P w' := by
  fun_induction waitLoop f w with
  | case1 => exact fun h => nomatch h
  | case2 => exact fun h => Option.some.inj h ▸ hp
  | case3 => exact fun h => Option.some.inj h ▸ hp
  | case4 f w _ w1 h1 ih => exact ih (serve_pres hs hd hp h1)

theorem wait_pres {w : World} (hp : P w) : P (wait w).1 :=
  waitLoop_pres hs hd _ w hp (wait_world w)

theorem ready_pres {w : World} (hp : P w) : P (ready w).1 := by
  unfold ready
  split
  · exact hp
  · split
    · exact hp
    · exact serveOnce_pres hs hd _ hp

/-- every event except `set_expiry` and `add_callback` only moves the clock, changes the channel, or dispatches;
for those two the property is asked of the event at hand -/
theorem step_pres {w : World} (hp : P w) (e : Ev) (hx : ∀ τ, e = .setExpiry τ → P (setExpiry w τ))
    (hc : ∀ c, e = .addCallback c → P (addCallback w c)) : P (step w e).1 := by
  cases e with
  | setExpiry τ => exact hx τ rfl
  | arrive e v => exact hd w (.reply w.seq e v) hp
  | send d m => exact hs w w.now _ hp (Nat.le_refl _)
  | serve1 => exact serveOnce_pres hs hd _ hp
  | serveT τ => exact serveOnce_pres hs hd _ hp
  | serveAt t => exact serveOnce_pres hs hd _ hp
  | addCallback c => exact hc c rfl
  | qReady => exact ready_pres hs hd hp
  | qError => exact error_fst w ▸ ready_pres hs hd hp
  | qExpired => exact hp
  | qValue => exact value_fst w ▸ wait_pres hs hd hp
  | wait => exact wait_pres hs hd hp
  | tick d => exact hs w (w.now + d) w.chan hp (Nat.le_add_right _ _)

end

theorem runs_pres {P : World → Prop} : ∀ (evs : List Ev) {w : World},
    (∀ e ∈ evs, ∀ x, P x → P (step x e).1) → P w → P (runs w evs)
  | [], _, _, h => h
  | e :: evs, _, hs, h =>
    runs_pres evs (fun e' he => hs e' (List.mem_cons_of_mem _ he)) (hs e (List.mem_cons_self ..) _ h)

theorem step_ttl (w : World) (e : Ev) (hne : ∀ τ, e ≠ .setExpiry τ) : (step w e).1.ar.ttl = w.ar.ttl := by
  refine step_pres (P := fun x => x.ar.ttl = w.ar.ttl) (fun _ _ _ hx _ => hx)
    (fun x m hx => (dispatch_ttl x m).trans hx) rfl e (fun τ h => absurd h (hne τ)) fun c _ => ?_
  unfold addCallback; split <;> rfl

theorem step_now_ge (w : World) (e : Ev) : w.now ≤ (step w e).1.now := by
  refine step_pres (P := fun x => w.now ≤ x.now) (fun x n ch hx hn => Nat.le_trans hx hn)
    (fun x m hx => Nat.le_trans hx (dispatch_now_ge x m)) (Nat.le_refl _) e (fun _ _ => Nat.le_refl _) fun c _ => ?_
  unfold addCallback; split <;> exact Nat.le_refl _

/-- `e`, `o`: the error flag and the value the result was decided with; nothing is left that an event could change -/
def Frozen (e : Option Bool) (o : Option Nat) (w : World) : Prop :=
  w.ar.isReady = true ∧ w.ar.isExc = e ∧ w.ar.obj = o ∧ w.ar.callbacks = [] ∧ w.live = false

theorem Frozen.dispatch {e o} {w : World} (h : Frozen e o w) (m : Msg) : Frozen e o (dispatch w m) :=
  dispatch_elim m (fun _ => h) (fun hl => absurd (h.2.2.2.2 ▸ hl) Bool.false_ne_true) h

theorem Frozen.step {e o} {w : World} (h : Frozen e o w) (ev : Ev) : Frozen e o (step w ev).1 :=
  step_pres (fun _ _ _ hx _ => hx) (fun _ m hx => hx.dispatch m) h ev (fun _ _ => h)
    fun c _ => addCallback_ready h.1 c ▸ h

theorem Frozen.runs {e o} (evs : List Ev) {w : World} (h : Frozen e o w) : Frozen e o (runs w evs) :=
  runs_pres evs (fun ev _ _ hx => hx.step ev) h

theorem Frozen.wait {e o} {w : World} (h : Frozen e o w) : wait w = (w, .unit) := by
  rw [wait_of_stopped (by rw [h.1]; rfl), h.1]; rfl

theorem Frozen.value {e o} {w : World} (h : Frozen e o w) :
    value w = (w, if e = some true then .raised o else .value o) := by
  simp only [Rpyc.Async.value, h.wait, h.2.1, h.2.2.1]
  split <;> rfl

theorem Frozen.ready {e o} {w : World} (h : Frozen e o w) : ready w = (w, true) := by
  rw [Rpyc.Async.ready, if_pos h.1]

theorem Frozen.error {e o} {w : World} (h : Frozen e o w) : error w = (w, e) := by
  rw [Rpyc.Async.error, h.ready, if_pos rfl, h.2.1]

def Inv (w : World) : Prop := w.ar.isReady = true → w.ar.callbacks = [] ∧ w.live = false

theorem Inv.init (t0 : Nat) : Inv (World.init t0) := by
  intro h; cases h

theorem Inv.frozen {w : World} (hi : Inv w) (hr : w.ar.isReady = true) : Frozen w.ar.isExc w.ar.obj w :=
  ⟨hr, rfl, rfl, (hi hr).1, (hi hr).2⟩

theorem Inv.dispatch {w : World} (hi : Inv w) (m : Msg) : Inv (dispatch w m) := by
  refine dispatch_elim m (fun _ => hi) (fun _ e v => ?_) hi
  unfold call
  split
  · exact fun hr => ⟨(hi hr).1, rfl⟩
  · exact fun _ => ⟨rfl, rfl⟩

theorem Inv.addCallback {w : World} (hi : Inv w) (c : Nat) : Inv (addCallback w c) := by
  cases hr : w.ar.isReady with
  | true => rw [addCallback_ready hr]; exact hi
  | false => rw [addCallback_pending hr]; exact fun h => absurd (hr ▸ h) Bool.false_ne_true

/-- `w` is past its deadline undecided, and is what the snapshot `a`, `log`, `ra` (result, callback log, instant of readiness,
taken at a world already expired: `Dead.of_expired`) recorded, but for callbacks registered since, which are stored and never run -/
def Dead (a : AR) (log : List (Nat × Nat)) (ra : Option Nat) (w : World) : Prop :=
  w.ar.isReady = false ∧ w.ar.ttl = a.ttl ∧ a.ttl.expired w.now = true ∧ w.cbLog = log ∧ w.ar.isExc = a.isExc
    ∧ w.ar.obj = a.obj ∧ w.readyAt = ra ∧ ∃ more, w.ar.callbacks = a.callbacks ++ more

theorem Dead.of_expired {w : World} (h : w.ar.expired w.now = true) : Dead w.ar w.cbLog w.readyAt w := by
  simp [AR.expired] at h
  exact ⟨h.1, rfl, h.2, rfl, rfl, rfl, rfl, [], by simp⟩

theorem Dead.expired {a log ra} {w : World} (h : Dead a log ra w) : w.ar.expired w.now = true := by
  obtain ⟨h1, h2, h3, _⟩ := h
  simp [AR.expired, h1, h2, h3]

theorem Dead.clock {a log ra} : ClockStable (Dead a log ra) :=
  fun _ _ _ h hn => ⟨h.1, h.2.1, Timeout.expired_mono a.ttl hn h.2.2.1, h.2.2.2⟩

theorem Dead.call {a log ra} {w : World} (h : Dead a log ra w) (e : Bool) (v : Nat) : call w e v = w :=
  if_pos h.expired

theorem Dead.dispatch {a log ra} {w : World} (h : Dead a log ra w) (m : Msg) : Dead a log ra (dispatch w m) := by
  have h' : Dead a log ra { w with live := false } := h
  exact dispatch_elim m (fun d => Dead.clock w (w.now + d) w.chan h (Nat.le_add_right _ _))
    (fun _ e v => (h'.call e v).symm ▸ h') h

theorem Dead.step {a log ra} {w : World} (h : Dead a log ra w) (ev : Ev) (hne : ∀ τ, ev ≠ .setExpiry τ) :
    Dead a log ra (step w ev).1 := by
  refine step_pres Dead.clock (fun x m hx => hx.dispatch m) h ev (fun τ he => absurd he (hne τ)) fun c _ => ?_
  obtain ⟨h1, h2, h3, h4, h5, h6, h7, more, h8⟩ := h
  rw [addCallback_pending h1]
  exact ⟨h1, h2, h3, h4, h5, h6, h7, more ++ [c], by simp [h8]⟩

/-- no `set_expiry` among the events: the one event that brings an expired result back (`Props.C15.rearm_revives`) -/
def noRearm (evs : List Ev) : Prop := ∀ ev ∈ evs, ∀ τ, ev ≠ .setExpiry τ

theorem Dead.runs {a log ra} (evs : List Ev) {w : World} (h : Dead a log ra w) (hn : noRearm evs) :
    Dead a log ra (runs w evs) :=
  runs_pres evs (fun ev he _ hx => hx.step ev (hn ev he)) h

theorem Dead.wait {a log ra} {w : World} (h : Dead a log ra w) : wait w = (w, .timeout) := by
  rw [wait_of_stopped (by simp [h.2.1, h.2.2.1]), h.1]; rfl

theorem Dead.value {a log ra} {w : World} (h : Dead a log ra w) : value w = (w, .timeout) := by
  simp [Rpyc.Async.value, h.wait]

theorem Dead.ready {a log ra} {w : World} (h : Dead a log ra w) : ready w = (w, false) := by
  obtain ⟨h1, h2, h3, _⟩ := h
  simp [Rpyc.Async.ready, h1, h2, h3]

theorem Dead.error {a log ra} {w : World} (h : Dead a log ra w) : error w = (w, some false) := by
  simp [Rpyc.Async.error, h.ready]

/-- the `regs` of `CbInv` that running `evs` from `w` adds: each `add_callback` with the clock at which it is made -/
def regsOf : World → List Ev → List (Nat × Nat)
  | _, [] => []
  | w, .addCallback c :: es => (c, w.now) :: regsOf (step w (.addCallback c)).1 es
  | w, e :: es => regsOf (step w e).1 es

theorem regsOf_cons_other {ev : Ev} (hne : ∀ c, ev ≠ .addCallback c) (w : World) (es : List Ev) :
    regsOf w (ev :: es) = regsOf (step w ev).1 es := by
  cases ev with
  | addCallback c => exact absurd rfl (hne c)
  | _ => rfl

/-- `regs`: all registrations so far, each with its instant -/
def CbInv (regs : List (Nat × Nat)) (w : World) : Prop :=
  (∀ p ∈ regs, p.2 ≤ w.now) ∧
  ((w.ar.isReady = true ∧ w.ar.callbacks = [] ∧ ∃ t, w.readyAt = some t ∧ t ≤ w.now ∧
      w.cbLog = regs.map (fun p => (p.1, max p.2 t)))
   ∨ (w.ar.isReady = false ∧ w.cbLog = [] ∧ w.ar.callbacks = regs.map Prod.fst))

theorem CbInv.clock {regs} : ClockStable (CbInv regs) := by
  intro w n ch ⟨h1, h2⟩ hn
  refine ⟨fun p hp => Nat.le_trans (h1 p hp) hn, ?_⟩
  rcases h2 with ⟨a, b, t, c, d, e⟩ | h2
  · exact Or.inl ⟨a, b, t, c, Nat.le_trans d hn, e⟩
  · exact Or.inr h2

theorem CbInv.call {regs} {w : World} (h : CbInv regs w) (hr : w.ar.isReady = false) (e : Bool) (v : Nat) :
    CbInv regs (call w e v) := by
  unfold Rpyc.Async.call
  split
  · exact h
  · obtain ⟨h1, h2⟩ := h
    refine ⟨h1, Or.inl ⟨rfl, rfl, w.now, rfl, Nat.le_refl _, ?_⟩⟩
    rcases h2 with ⟨a, _⟩ | ⟨_, b, c⟩
    · rw [hr] at a; cases a
    · -- every registration so far was made no later than now
      simp only [b, c, List.nil_append, List.map_map]
      exact List.map_congr_left fun p hp => by simp [Nat.max_eq_right (h1 p hp)]

theorem CbInv.dispatch {regs} {w : World} (hi : Inv w) (h : CbInv regs w) (m : Msg) : CbInv regs (dispatch w m) := by
  refine dispatch_elim m (fun d => CbInv.clock w (w.now + d) w.chan h (Nat.le_add_right _ _)) (fun hl e v => ?_) h
  -- the entry is live, so by `Inv` the result is not ready
  have hr : w.ar.isReady = false := by
    cases hr : w.ar.isReady with
    | false => rfl
    | true => exact absurd ((hi hr).2 ▸ hl) Bool.false_ne_true
  exact CbInv.call (w := { w with live := false }) h hr e v

/-- `Inv ∧ CbInv regs`, the form that `step_pres` can carry -/
def Ledger (regs : List (Nat × Nat)) (w : World) : Prop := Inv w ∧ CbInv regs w

theorem Ledger.init (t0 : Nat) : Ledger [] (World.init t0) :=
  ⟨Inv.init t0, fun _ hp => absurd hp List.not_mem_nil, Or.inr ⟨rfl, rfl, rfl⟩⟩

theorem Ledger.clock {regs} : ClockStable (Ledger regs) :=
  fun w n ch h hn => ⟨h.1, CbInv.clock w n ch h.2 hn⟩

theorem Ledger.dispatch {regs} {w : World} (h : Ledger regs w) (m : Msg) : Ledger regs (dispatch w m) :=
  ⟨h.1.dispatch m, CbInv.dispatch h.1 h.2 m⟩

theorem Ledger.addCallback {regs} {w : World} (h : Ledger regs w) (c : Nat) :
    Ledger (regs ++ [(c, w.now)]) (addCallback w c) := by
  obtain ⟨hi, h1, h2⟩ := h
  have h1' : ∀ p ∈ regs ++ [(c, w.now)], p.2 ≤ w.now := by
    intro p hp
    rcases List.mem_append.mp hp with hp | hp
    · exact h1 p hp
    · rw [List.mem_singleton.mp hp]; exact Nat.le_refl _
  refine ⟨hi.addCallback c, ?_⟩
  rcases h2 with ⟨a, b, t, c1, d, e⟩ | ⟨a, b, c1⟩
  · rw [addCallback_ready a]
    exact ⟨h1', Or.inl ⟨a, b, t, c1, d, by simp [e, Nat.max_eq_left d]⟩⟩
  · rw [addCallback_pending a]
    exact ⟨h1', Or.inr ⟨a, b, by simp [c1]⟩⟩

theorem Ledger.runs : ∀ (evs : List Ev) {regs} {w : World}, Ledger regs w →
    Ledger (regs ++ regsOf w evs) (runs w evs)
  | [], regs, _, h => (List.append_nil regs).symm ▸ h
  | ev :: evs, regs, w, h => by
    by_cases hc : ∃ c, ev = .addCallback c
    · obtain ⟨c, rfl⟩ := hc
      have := Ledger.runs evs (h.addCallback c)
      rwa [List.append_assoc] at this
    · have hne : ∀ c, ev ≠ .addCallback c := fun c hc' => hc ⟨c, hc'⟩
      rw [regsOf_cons_other hne]
      exact Ledger.runs evs
        (step_pres Ledger.clock (fun _ m hx => hx.dispatch m) h ev (fun _ _ => h) fun c hc' => absurd hc' (hne c))

/-- `wait` raising the timeout error: the deadline is finite, has been reached, and the instant is the later of the
deadline and the call — or the end of an unrelated request whose dispatch began no later than the deadline -/
def TimedOutAt (w w' : World) : Prop :=
  w'.ar.ttl = w.ar.ttl ∧ w.ar.ttl.finite = true ∧ w.ar.ttl.tmax ≤ w'.now ∧
  ((w'.now = max w.now w.ar.ttl.tmax)
   ∨ ∃ s d pre, w'.busy = w.busy ++ pre ++ [(s, d)] ∧ s ≤ w.ar.ttl.tmax ∧ w.ar.ttl.tmax < s + d ∧ w'.now = s + d)

theorem waitLoop_timeout (f : Nat) (w w' : World) : waitLoop f w = .done w' → w'.ar.isReady = false →
    TimedOutAt w w' := by
  fun_induction waitLoop f w with
  | case1 => exact fun h => nomatch h
  | case2 f w hc =>
    intro h hnr
    cases h
    rw [hnr, Bool.false_or, Timeout.expired_iff] at hc
    exact ⟨rfl, hc.1, hc.2, Or.inl (by omega)⟩
  | case3 => exact fun h => nomatch h
  | case4 f w hc w1 h1 ih =>
    intro h hnr
    have httl := serve_ttl h1
    obtain ⟨_, hfin, hge, hcase⟩ := ih h hnr
    rw [httl] at hfin hge hcase
    have hlt : w.now < w.ar.ttl.tmax := by
      simp only [Bool.or_eq_true, Timeout.expired_iff, not_or, not_and] at hc
      exact Nat.lt_of_not_le (hc.2 hfin)
    obtain ⟨ext, hb, hnow | ⟨s, d, rfl, hs, hover, hn⟩⟩ := serve_time h1 hfin (Nat.le_of_lt hlt)
    · -- the clock is still within the deadline: what the rest of the loop does is what the whole loop does
      refine ⟨‹w'.ar.ttl = _›.trans httl, hfin, hge, ?_⟩
      rcases hcase with hl | ⟨s, d, pre, e1, e2, e3, e4⟩
      · exact .inl (by omega)
      · exact .inr ⟨s, d, ext ++ pre, by rw [e1, hb, List.append_assoc w.busy], e2, e3, e4⟩
    · -- an unrelated request ran past the deadline: the loop ends where that request ended
      have hx : (w1.ar.isReady || w1.ar.ttl.expired w1.now) = true := by
        simp [Timeout.expired_iff, httl, hfin, hn, Nat.le_of_lt hover]
      cases f with
      | zero => cases h
      | succ f =>
        rw [waitLoop_of_stopped hx] at h
        cases h
        exact ⟨httl, hfin, by omega, .inr ⟨s, d, [], by simp [hb], hs, hover, hn⟩⟩

inductive Status where
  | pending | ready | expired
  deriving DecidableEq, Repr

def status (w : World) : Status :=
  if w.ar.isReady then .ready else if w.ar.ttl.expired w.now then .expired else .pending

theorem status_expired_iff (w : World) : status w = .expired ↔ w.ar.expired w.now = true := by
  unfold status AR.expired
  cases w.ar.isReady <;> cases w.ar.ttl.expired w.now <;> simp

theorem status_ready_iff (w : World) : status w = .ready ↔ w.ar.isReady = true := by
  unfold status
  cases w.ar.isReady <;> cases w.ar.ttl.expired w.now <;> simp

theorem status_pending_iff (w : World) :
    status w = .pending ↔ w.ar.isReady = false ∧ w.ar.ttl.expired w.now = false := by
  unfold status
  cases w.ar.isReady <;> cases w.ar.ttl.expired w.now <;> simp

def Reachable (w : World) : Prop := ∃ t0 evs, w = runs (World.init t0) evs

theorem Reachable.ledger {w : World} (h : Reachable w) : ∃ regs, Ledger regs w := by
  obtain ⟨t0, evs, rfl⟩ := h
  exact ⟨_, Ledger.runs evs (Ledger.init t0)⟩

theorem Reachable.inv {w : World} (h : Reachable w) : Inv w :=
  let ⟨_, hl⟩ := h.ledger; hl.1

theorem runs_append (w : World) (a b : List Ev) : runs w (a ++ b) = runs (runs w a) b := by
  induction a generalizing w with
  | nil => rfl
  | cons e a ih => simp [runs, ih]

theorem Reachable.runs {w : World} (h : Reachable w) (evs : List Ev) : Reachable (runs w evs) := by
  obtain ⟨t0, evs0, rfl⟩ := h
  exact ⟨t0, evs0 ++ evs, (runs_append _ _ _).symm⟩

/-! ### the two callback loops of `callR` -/

theorem runCbs_append (now : Nat) : ∀ (pre rest : List Cb) (log : List (Nat × Nat)),
    (∀ x ∈ pre, x.raises = false) →
    runCbs now (pre ++ rest) log
      = runCbs now rest (log ++ pre.flatMap (fun x => (x.id, now) :: x.adds.map (fun a => (a, now))))
  | [], rest, log, _ => by simp
  | p :: pre, rest, log, h => by
    have h0 : p.raises = false := h p (List.mem_cons_self ..)
    rw [List.cons_append, runCbs, h0, if_neg Bool.false_ne_true,
      runCbs_append now pre rest _ fun x hx => h x (List.mem_cons_of_mem _ hx),
      List.flatMap_cons, List.append_assoc]

theorem runCbs_noraise (now : Nat) : ∀ (cbs : List Cb) (log : List (Nat × Nat)),
    (∀ c ∈ cbs, c.raises = false) →
    runCbs now cbs log = (log ++ cbs.flatMap (fun x => (x.id, now) :: x.adds.map (fun a => (a, now))), false) := by
  intro cbs log h
  have := runCbs_append now cbs [] log h
  rwa [List.append_nil] at this

theorem runCbs_raiser (now : Nat) : ∀ (pre : List Cb) (c : Cb) (post : List Cb) (log : List (Nat × Nat)),
    (∀ x ∈ pre, x.raises = false) → c.raises = true →
    runCbs now (pre ++ c :: post) log
      = (log ++ (pre ++ [c]).flatMap (fun x => (x.id, now) :: x.adds.map (fun a => (a, now))), true) := by
  intro pre c post log hp hc
  rw [runCbs_append now pre _ log hp, runCbs, if_pos hc, List.flatMap_append, List.flatMap_singleton,
    List.append_assoc]

theorem runCbs_plain (now : Nat) : ∀ (cbs : List Cb) (log : List (Nat × Nat)),
    (∀ c ∈ cbs, c.raises = false ∧ c.adds = []) →
    runCbs now cbs log = (log ++ cbs.map (fun c => (c.id, now)), false) := by
  intro cbs log h
  have e : ∀ c ∈ cbs, (c.id, now) :: c.adds.map (fun a => (a, now)) = [(c.id, now)] :=
    fun c hc => by rw [(h c hc).2]; rfl
  rw [runCbs_noraise now cbs log fun c hc => (h c hc).1, List.flatMap_def, List.map_congr_left e,
    ← List.flatMap_def, ← List.map_eq_flatMap]

theorem runAll_spec (now : Nat) : ∀ (cbs : List Cb) (log : List (Nat × Nat)),
    runAll now cbs log
      = (log ++ cbs.flatMap (fun x => (x.id, now) :: x.adds.map (fun a => (a, now))), cbs.any Cb.raises)
  | [], log => by simp [runAll]
  | c :: rest, log => by
    have := runAll_spec now rest (log ++ (c.id, now) :: c.adds.map (fun a => (a, now)))
    simp [runAll, this, List.append_assoc]

/-! ### definitional lemmas

One-step unfoldings of the model's definitions: they record what the transcription says (and are used as
vocabulary by the property theorems in Props/C15.lean) but carry no content beyond the transcription, which
the correspondence ties to the code.  They are not property theorems. -/

/-- a timeout is finite exactly when it is a number ≥ 0 (the code's `timeout is not None and timeout >= 0`) -/
theorem timeout_finite_iff (now : Nat) (τ : Option Int) :
    (Timeout.make now τ).finite = true ↔ ∃ t, τ = some t ∧ 0 ≤ t := by
  cases τ with
  | none => simp [Timeout.make]
  | some t =>
    by_cases h : 0 ≤ t
    · simp [Timeout.make, h]
    · simp [Timeout.make, h]

theorem timeout_deadline (now : Nat) (t : Int) (h : 0 ≤ t) (n : Nat) :
    (Timeout.make now (some t)).expired n = decide (now + t.toNat ≤ n) := by
  simp [Timeout.make, h, Timeout.expired]

theorem infinite_never_expires (now : Nat) (τ : Option Int) (h : (Timeout.make now τ).finite = false) (n : Nat) :
    (Timeout.make now τ).expired n = false := by
  simp [Timeout.expired, h]

theorem callback_after_ready_runs_at_once (w : World) (hr : w.ar.isReady = true) (c : Nat) :
    (step w (.addCallback c)).1 = { w with cbLog := w.cbLog ++ [(c, w.now)] } := by
  simp [step, addCallback, hr]

/-- A reply arriving after the expiry is discarded: nothing changes but the connection's registry
entry, and no callback runs — whether it is dispatched directly or taken from the channel by a serve. -/
theorem late_reply_discarded (w : World) (hx : status w = .expired) (e : Bool) (v : Nat) :
    (step w (.arrive e v)).1 = { w with live := false } := by
  have hd := Dead.of_expired ((status_expired_iff w).mp hx)
  simp only [step, dispatch]
  split
  · exact Dead.call (w := { w with live := false }) hd e v
  · next hl =>
    have : w.live = false := by simpa using hl
    rw [← this]

/-- A reply arriving while pending decides for good: ready with that value and flag, every stored
callback run at this instant in registration order, the list emptied. -/
theorem reply_accepted_when_pending (w : World) (hp : status w = .pending) (hl : w.live = true) (e : Bool) (v : Nat) :
    (step w (.arrive e v)).1.ar.isReady = true
      ∧ (step w (.arrive e v)).1.ar.isExc = some e ∧ (step w (.arrive e v)).1.ar.obj = some v
      ∧ (step w (.arrive e v)).1.cbLog = w.cbLog ++ w.ar.callbacks.map (fun c => (c, w.now))
      ∧ (step w (.arrive e v)).1.ar.callbacks = []
      ∧ (step w (.arrive e v)).1.readyAt = some w.now
      ∧ (step w (.arrive e v)).1.now = w.now := by
  obtain ⟨h1, h2⟩ := (status_pending_iff w).mp hp
  simp [step, dispatch, hl, call, AR.expired, h1, h2]

/-- `sync_request` with configured timeout `τ` = issue the request, `set_expiry(τ)`, read `.value` — for
every `τ`, `None` included (where `async_request` skips `set_expiry`, which is the same thing). -/
theorem sync_is_async_plus_timeout (w : World) (τ : Option Int) :
    syncRequest w τ = step (step (asyncRequest w none) (.setExpiry τ)).1 .qValue := by
  cases τ with
  | none => rfl
  | some t => rfl

/-- and `timed(proxy, τ)(…)` is `async_request(…, timeout=τ)` -/
theorem timed_is_async_with_timeout (w : World) (τ : Option Int) : timedCall w τ = asyncRequest w τ := by
  cases τ with
  | none => rfl
  | some t => rfl

/-- Every request gets its own deadline, counted from the instant it is issued — however old the
connection or a reused `timed` wrapper is: the fresh result of `async_request(timeout=τ)`, of a call of a
`timed(proxy, τ)` wrapper made at any earlier time, and of `sync_request` with configured timeout `τ`
expires at `issue instant + τ` (never for `None`/negative), is pending with an empty callback list, and
its registry entry is live. -/
theorem each_request_own_deadline (w : World) (τ : Option Int) :
    (asyncRequest w τ).ar.ttl = Timeout.make w.now τ
      ∧ (Timed.call w (Timed.make τ)).ar.ttl = Timeout.make w.now τ
      ∧ (asyncRequest w τ).ar.isReady = false ∧ (asyncRequest w τ).ar.callbacks = []
      ∧ (asyncRequest w τ).live = true ∧ (asyncRequest w τ).now = w.now
      ∧ Timed.call w (Timed.make τ) = asyncRequest w τ := by
  cases τ with
  | none => exact ⟨rfl, rfl, rfl, rfl, rfl, rfl, rfl⟩
  | some t => exact ⟨rfl, rfl, rfl, rfl, rfl, rfl, rfl⟩

end Rpyc.Async
