import RpycModel.Async.Lemmas
/-
L7 Async — several requests on one connection.

Every request has its own `World` (its *view*): its own result, registry entry, callback log — and a copy of
what all requests share: the clock, the inbound channel (replies carry the sequence number of their
request), the busy log.  An event addressed to request `k` is a `step` of view `k`; every other view (and
the observer `env`, which owns no request) sees only its *environment image*: the ticks, the messages put
into the channel, and the `serve` calls that event made — `envImage`.  `views_agree` proves that this is
consistent: after every event all views still agree on the clock, the channel and the busy log, i.e. the
per-request worlds are projections of one connection.  The events of request A reach request B only as
environment events: elapsed time, consumed messages, and B's own reply being dispatched when A's serving
comes across it (`view_after_runs`).  Every theorem of Props/C15.lean quantifies over all event sequences, environment events
included, and therefore holds for each request of a multi-request run (`multi_*` in Props/C15.lean).
-/
namespace Rpyc.Async

def Agree (a b : World) : Prop := a.now = b.now ∧ a.chan = b.chan ∧ a.busy = b.busy

theorem Agree.refl (a : World) : Agree a a := ⟨rfl, rfl, rfl⟩
theorem Agree.symm {a b : World} (h : Agree a b) : Agree b a := ⟨h.1.symm, h.2.1.symm, h.2.2.symm⟩
theorem Agree.trans {a b c : World} (h : Agree a b) (g : Agree b c) : Agree a c :=
  ⟨h.1.trans g.1, h.2.1.trans g.2.1, h.2.2.trans g.2.2⟩

/-- number of `serve` calls the loop of `wait` makes (a call that would block forever is not counted: it
never returns) -/
def waitCount : Nat → World → Nat
  | 0, _ => 0
  | f + 1, w =>
    if w.ar.isReady || w.ar.ttl.expired w.now then 0
    else match serve w w.ar.ttl with
      | none => 0
      | some w' => 1 + waitCount f w'

def envImage (w : World) : Ev → List Ev
  | .setExpiry _ => []
  | .arrive _ _ => []
  | .addCallback _ => []
  | .qExpired => []
  | .send d m => [.send d m]
  | .serve1 => [.serve1]
  | .serveT τ => [.serveT τ]
  | .serveAt t => [.serveAt t]
  | .tick d => [.tick d]
  | .qReady => if w.ar.isReady || w.ar.ttl.expired w.now then [] else [.serve1]
  | .qError => if w.ar.isReady || w.ar.ttl.expired w.now then [] else [.serve1]
  | .qValue => List.replicate (waitCount (waitFuel w) w) (.serveAt w.ar.ttl)
  | .wait => List.replicate (waitCount (waitFuel w) w) (.serveAt w.ar.ttl)

def isEnv : Ev → Bool
  | .tick _ => true
  | .send _ _ => true
  | .serve1 => true
  | .serveT _ => true
  | .serveAt _ => true
  | _ => false

theorem envImage_of_env (v : World) (e : Ev) (h : isEnv e = true) : envImage v e = [e] := by
  cases e <;> simp [isEnv] at h <;> rfl

structure MWorld where
  /-- an observer that owns no request: carries the shared state when there is no view yet -/
  env : World
  /-- `views[k]` belongs to the request with sequence number `k + 1` -/
  views : List World
  deriving Repr

def MWorld.init (t0 : Nat) : MWorld := ⟨{ World.init t0 with live := false }, []⟩

/-- the view of a freshly issued request (`async_request(…, timeout=τ)`): next sequence number, new result,
live registry entry, own ghost logs; shared state as it is -/
def newView (env : World) (seq : Nat) (τ : Option Int) : World :=
  setExpiry { env with seq := seq, ar := AR.init, live := true, cbLog := [], readyAt := none } τ

inductive MEv where
  | request (τ : Option Int)
  /-- an event of request `k + 1` -/
  | on (k : Nat) (e : Ev)
  /-- an environment event by nobody in particular (time passes, the peer sends, some thread serves) -/
  | env (e : Ev)
  deriving Repr

def mstep (mw : MWorld) : MEv → MWorld × Obs
  | .request τ => ({ mw with views := mw.views ++ [newView mw.env (mw.views.length + 1) τ] }, .unit)
  | .on k e =>
    match mw.views[k]? with
    | none => (mw, .unit)
    | some v =>
      ({ env := runs mw.env (envImage v e),
         views := mw.views.mapIdx (fun i x => if i = k then (step v e).1 else runs x (envImage v e)) },
       (step v e).2)
  | .env e =>
    if isEnv e then ({ env := (step mw.env e).1, views := mw.views.map (fun x => (step x e).1) }, .unit)
    else (mw, .unit)

def mruns : MWorld → List MEv → MWorld
  | mw, [] => mw
  | mw, e :: es => mruns (mstep mw e).1 es

theorem dispatch_reply_agree (w : World) (s : Nat) (e : Bool) (v : Nat) : Agree (dispatch w (.reply s e v)) w :=
  ⟨dispatch_reply_now .., dispatch_chan .., dispatch_reply_busy ..⟩

theorem dispatch_agree {a b : World} (h : Agree a b) (m : Msg) : Agree (dispatch a m) (dispatch b m) := by
  cases m with
  | reply s e v => exact (dispatch_reply_agree a s e v).trans (h.trans (dispatch_reply_agree b s e v).symm)
  | other d => exact ⟨congrArg (· + d) h.1, h.2.1, by simp only [dispatch, h.1, h.2.2]⟩

/-- which branch `serve` takes, and when its head is dispatched, depends on the clock and the channel only -/
theorem serveOnce_agree {a b : World} (h : Agree a b) (t : Timeout) : Agree (serveOnce a t) (serveOnce b t) := by
  obtain ⟨h1, h2, h3⟩ := h
  unfold serveOnce serve
  rw [h2, h1]
  cases hc : b.chan with
  | nil =>
    by_cases hf : t.finite = true
    · rw [if_pos hf, if_pos hf]
      exact ⟨rfl, rfl, h3⟩
    · rw [if_neg hf, if_neg hf]
      exact ⟨h1, h2, h3⟩
  | cons hd rest =>
    obtain ⟨at_, m⟩ := hd
    dsimp only
    by_cases hd : (decide (at_ ≤ b.now) || !t.finite || decide (at_ ≤ t.tmax)) = true
    · rw [if_pos hd, if_pos hd]
      exact dispatch_agree (a := { a with now := max b.now at_, chan := rest })
        (b := { b with now := max b.now at_, chan := rest }) ⟨rfl, rfl, h3⟩ m
    · rw [if_neg hd, if_neg hd]
      exact ⟨rfl, rfl, h3⟩

theorem step_env_agree {a b : World} (h : Agree a b) (e : Ev) (he : isEnv e = true) :
    Agree (step a e).1 (step b e).1 := by
  cases e with
  | tick d => exact ⟨congrArg (· + d) h.1, h.2.1, h.2.2⟩
  | send d m => exact ⟨h.1, by simp only [step, h.1, h.2.1], h.2.2⟩
  | serve1 => simp only [step, pollAll0_eq, h.1]; exact serveOnce_agree h _
  | serveT τ => simp only [step, h.1]; exact serveOnce_agree h _
  | serveAt t => exact serveOnce_agree h t
  | _ => cases he

theorem runs_env_agree : ∀ (es : List Ev) {a b : World}, Agree a b → (∀ e ∈ es, isEnv e = true) →
    Agree (runs a es) (runs b es)
  | [], _, _, h, _ => h
  | e :: es, _, _, h, he =>
    runs_env_agree es (step_env_agree h e (he e (List.mem_cons_self ..))) fun e' h' => he e' (List.mem_cons_of_mem _ h')

theorem envImage_isEnv (v : World) (e : Ev) : ∀ e' ∈ envImage v e, isEnv e' = true := by
  intro e' he
  cases e with
  | setExpiry | arrive | addCallback | qExpired => cases he
  | send | serve1 | serveT | serveAt | tick => rw [List.mem_singleton.mp he]; rfl
  | qReady | qError =>
    simp only [envImage] at he
    split at he
    · cases he
    · rw [List.mem_singleton.mp he]; rfl
  | qValue | wait => rw [(List.mem_replicate.mp he).2]; rfl

theorem waitLoop_eq_runs (f : Nat) (v : World) {w' : World} : (waitLoop f v).world = some w' →
    w' = runs v (List.replicate (waitCount f v) (.serveAt v.ar.ttl)) := by
  fun_induction waitLoop f v with
  | case1 => exact fun h => nomatch h
  | case2 f v hc => exact fun h => by rw [waitCount, if_pos hc]; exact (Option.some.inj h).symm
  | case3 f v hc hs => exact fun h => by rw [waitCount, if_neg hc, hs]; exact (Option.some.inj h).symm
  | case4 f v hc w1 hs ih =>
    intro h
    have hstep : (step v (.serveAt v.ar.ttl)).1 = w1 := by simp only [step, serveOnce, hs]
    rw [waitCount, if_neg hc, hs]
    dsimp only
    rw [Nat.add_comm, List.replicate_succ, runs, hstep, ← serve_ttl hs]
    exact ih h

theorem wait_eq_runs (v : World) :
    (wait v).1 = runs v (List.replicate (waitCount (waitFuel v) v) (.serveAt v.ar.ttl)) :=
  waitLoop_eq_runs _ v (wait_world v)

theorem ready_eq_runs (v : World) :
    (ready v).1 = runs v (if v.ar.isReady || v.ar.ttl.expired v.now then [] else [.serve1]) := by
  unfold ready
  cases v.ar.isReady <;> cases v.ar.ttl.expired v.now <;> rfl

theorem step_self_image (v : World) (e : Ev) : Agree (step v e).1 (runs v (envImage v e)) := by
  cases e with
  | setExpiry | qExpired => exact Agree.refl v
  | addCallback c => simp only [step, addCallback]; split <;> exact Agree.refl v
  | arrive e x => exact dispatch_reply_agree v v.seq e x
  | send | serve1 | serveT | serveAt | tick => exact Agree.refl _
  | qReady => exact ready_eq_runs v ▸ Agree.refl _
  | qError => exact error_fst v ▸ ready_eq_runs v ▸ Agree.refl _
  | qValue => exact value_fst v ▸ wait_eq_runs v ▸ Agree.refl _
  | wait => exact wait_eq_runs v ▸ Agree.refl _

theorem step_image_agree {v x : World} (h : Agree v x) (e : Ev) :
    Agree (step v e).1 (runs x (envImage v e)) :=
  (step_self_image v e).trans (runs_env_agree _ h (envImage_isEnv v e))

def MAgree (mw : MWorld) : Prop := ∀ (k : Nat) (v : World), mw.views[k]? = some v → Agree v mw.env

theorem MAgree.init (t0 : Nat) : MAgree (MWorld.init t0) := by
  intro k v h; simp [MWorld.init] at h

theorem newView_agree (env : World) (n : Nat) (τ : Option Int) : Agree (newView env n τ) env :=
  ⟨rfl, rfl, rfl⟩

theorem MAgree_iff (mw : MWorld) : MAgree mw ↔ ∀ v ∈ mw.views, Agree v mw.env :=
  ⟨fun h v hv => let ⟨k, hk⟩ := List.mem_iff_getElem?.mp hv; h k v hk,
   fun h _ v hk => h v (List.mem_of_getElem? hk)⟩

/-- **The per-request worlds are projections of one connection**: whatever events happen to whichever
requests, all views agree on the clock, the channel and the busy log. -/
theorem views_agree (mw : MWorld) (h : MAgree mw) (e : MEv) : MAgree (mstep mw e).1 := by
  rw [MAgree_iff] at h ⊢
  cases e with
  | request τ =>
    intro v hv
    rcases List.mem_append.mp hv with hv | hv
    · exact h v hv
    · rw [List.mem_singleton.mp hv]; exact newView_agree ..
  | on k0 e =>
    simp only [mstep]
    cases hv0 : mw.views[k0]? with
    | none => exact h
    | some v0 =>
      have h0 := h v0 (List.mem_of_getElem? hv0)
      intro v hv
      obtain ⟨i, hi, rfl⟩ := List.mem_mapIdx.mp hv
      dsimp only
      split
      · exact step_image_agree h0 e
      · exact runs_env_agree _ (h _ (List.getElem_mem hi)) (envImage_isEnv v0 e)
  | env e =>
    simp only [mstep]
    split
    · next he =>
      intro v hv
      obtain ⟨x, hx, rfl⟩ := List.mem_map.mp hv
      exact step_env_agree (h x hx) e he
    · exact h

theorem mruns_agree : ∀ (es : List MEv) (mw : MWorld), MAgree mw → MAgree (mruns mw es)
  | [], _, h => h
  | e :: es, mw, h => mruns_agree es _ (views_agree mw h e)

theorem dispatch_foreign (w : World) (s : Nat) (e : Bool) (v : Nat) (h : s ≠ w.seq) :
    dispatch w (.reply s e v) = w := by
  simp [dispatch, h]

theorem view_after (mw : MWorld) (e : MEv) (k : Nat) (v : World) (hv : mw.views[k]? = some v) :
    ∃ es : List Ev, (mstep mw e).1.views[k]? = some (runs v es)
      ∧ ∀ e' ∈ es, isEnv e' = true ∨ e = .on k e' := by
  cases e with
  | request τ =>
    refine ⟨[], ?_, fun _ h => nomatch h⟩
    show (mw.views ++ _)[k]? = _
    rw [List.getElem?_append_left (List.getElem?_eq_some_iff.mp hv).1]
    exact hv
  | on k0 e =>
    simp only [mstep]
    cases hv0 : mw.views[k0]? with
    | none => exact ⟨[], hv, fun _ h => nomatch h⟩
    | some v0 =>
      simp only [List.getElem?_mapIdx, hv, Option.map_some]
      by_cases hk : k = k0
      · obtain rfl : v0 = v := Option.some.inj (hv0.symm.trans (hk ▸ hv))
        exact ⟨[e], by rw [if_pos hk]; rfl, fun e' he => .inr (by rw [List.mem_singleton.mp he, hk])⟩
      · exact ⟨envImage v0 e, by rw [if_neg hk], fun e' he => .inl (envImage_isEnv v0 e e' he)⟩
  | env e =>
    simp only [mstep]
    split
    · next he =>
      exact ⟨[e], by rw [List.getElem?_map, hv]; rfl, fun e' h' => .inl (List.mem_singleton.mp h' ▸ he)⟩
    · exact ⟨[], hv, fun _ h => nomatch h⟩

/-- to request `k` the other requests are environment: after any run its view is its old view run through events that
are environment events or its own (restated as `C15Aux.other_requests_are_environment` in Props/C15.lean) -/
theorem view_after_runs : ∀ (es : List MEv) (mw : MWorld) (k : Nat) (v : World), mw.views[k]? = some v →
    ∃ evs : List Ev, (mruns mw es).views[k]? = some (runs v evs)
      ∧ ∀ e' ∈ evs, isEnv e' = true ∨ .on k e' ∈ es
  | [], _, _, _, hv => ⟨[], hv, fun _ h => nomatch h⟩
  | e :: es, mw, k, v, hv => by
    obtain ⟨e1, h1, p1⟩ := view_after mw e k v hv
    obtain ⟨e2, h2, p2⟩ := view_after_runs es (mstep mw e).1 k (runs v e1) h1
    refine ⟨e1 ++ e2, by rw [runs_append]; exact h2, fun e' he => ?_⟩
    rcases List.mem_append.mp he with he | he
    · exact (p1 e' he).imp_right fun (h : e = .on k e') => h ▸ List.mem_cons_self ..
    · exact (p2 e' he).imp_right (List.mem_cons_of_mem _)

/-! ### definitional -/

theorem new_request_view (env : World) (n : Nat) (τ : Option Int) :
    (newView env n τ).ar.isReady = false ∧ (newView env n τ).ar.ttl = Timeout.make env.now τ
      ∧ (newView env n τ).live = true ∧ (newView env n τ).seq = n ∧ Inv (newView env n τ)
      ∧ Agree (newView env n τ) env := by
  refine ⟨rfl, rfl, rfl, rfl, ?_, newView_agree env n τ⟩
  intro h
  simp [newView, setExpiry, AR.init] at h

end Rpyc.Async
