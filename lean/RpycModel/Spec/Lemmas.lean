import RpycModel.Spec.Published
import RpycModel.Spec.Code
import RpycModel.Brine.RoundTrip
/-
The regenerated constants equal the published ones (one lemma per constant, so a moved constant is named); the
search `pick` over the form tables computes the documented length classes; the model of the code's encoder, frame
and messages coincides with the published ones; the probe objects and operations behind Gen/Recorded.lean written as
model values, with the tests C19 evaluates on the recorded facts.
-/
namespace Rpyc.Spec
open Rpyc

theorem tag_none : Gen.tagNone = TAG_NONE := by decide
theorem tag_emptyStr : Gen.tagEmptyStr = TAG_EMPTY_STR := by decide
theorem tag_emptyTuple : Gen.tagEmptyTuple = TAG_EMPTY_TUPLE := by decide
theorem tag_true : Gen.tagTrue = TAG_TRUE := by decide
theorem tag_false : Gen.tagFalse = TAG_FALSE := by decide
theorem tag_notImplemented : Gen.tagNotImplemented = TAG_NOT_IMPLEMENTED := by decide
theorem tag_ellipsis : Gen.tagEllipsis = TAG_ELLIPSIS := by decide
theorem tag_unicode : Gen.tagUnicode = TAG_UNICODE := by decide
theorem tag_str1 : Gen.tagStr1 = TAG_STR1 := by decide
theorem tag_str2 : Gen.tagStr2 = TAG_STR2 := by decide
theorem tag_str3 : Gen.tagStr3 = TAG_STR3 := by decide
theorem tag_str4 : Gen.tagStr4 = TAG_STR4 := by decide
theorem tag_strL1 : Gen.tagStrL1 = TAG_STR_L1 := by decide
theorem tag_strL4 : Gen.tagStrL4 = TAG_STR_L4 := by decide
theorem tag_tup1 : Gen.tagTup1 = TAG_TUP1 := by decide
theorem tag_tup2 : Gen.tagTup2 = TAG_TUP2 := by decide
theorem tag_tup3 : Gen.tagTup3 = TAG_TUP3 := by decide
theorem tag_tup4 : Gen.tagTup4 = TAG_TUP4 := by decide
theorem tag_tupL1 : Gen.tagTupL1 = TAG_TUP_L1 := by decide
theorem tag_tupL4 : Gen.tagTupL4 = TAG_TUP_L4 := by decide
theorem tag_intL1 : Gen.tagIntL1 = TAG_INT_L1 := by decide
theorem tag_intL4 : Gen.tagIntL4 = TAG_INT_L4 := by decide
theorem tag_float : Gen.tagFloat = TAG_FLOAT := by decide
theorem tag_slice : Gen.tagSlice = TAG_SLICE := by decide
theorem tag_fset : Gen.tagFset = TAG_FSET := by decide
theorem tag_complex : Gen.tagComplex = TAG_COMPLEX := by decide
theorem imm_lo : Gen.immLo = IMM_LO := by decide
theorem imm_hi : Gen.immHi = IMM_HI := by decide
theorem imm_base : Gen.immBase = IMM_BASE := by decide

/-- a fixed-length form at the head of the table is chosen exactly when it fits: no form costs less -/
theorem header_fixed (nm : String) (t k : Nat) (fs : List Form) (n : Nat) :
    header (⟨nm, t, .fixed k⟩ :: fs) n = if n = k then .ok [t] else header fs n := by
  have hc (g : Form) : (⟨nm, t, .fixed k⟩ : Form).cost ≤ g.cost := by simp [Form.cost, LenClass.width]
  simp only [header, pick]
  by_cases h : n = k
  · subst h; cases pick fs n <;> simp [hc, Form.fits, LenClass.fits, Form.header, LenClass.field]
  · cases pick fs n <;> simp [h, Form.fits, LenClass.fits]

theorem header_long (n1 n4 : String) (t1 t4 n : Nat) :
    header [⟨n1, t1, .l1⟩, ⟨n4, t4, .l4⟩] n =
      if n < 256 then .ok [t1, n] else if n < 2 ^ 32 then .ok (t4 :: beN 4 n) else .error .structError := by
  by_cases h4 : n < 2 ^ 32
  · by_cases h1 : n < 256 <;>
      simp [header, pick, Form.fits, LenClass.fits, Form.cost, LenClass.width, Form.header, LenClass.field, h1, h4]
  · have h1 : ¬ n < 256 := by omega
    simp [header, pick, Form.fits, LenClass.fits, h1, h4]

theorem header_bytesForms (n : Nat) :
    header bytesForms n =
      if n = 0 then .ok [TAG_EMPTY_STR]
      else if n = 1 then .ok [TAG_STR1]
      else if n = 2 then .ok [TAG_STR2]
      else if n = 3 then .ok [TAG_STR3]
      else if n = 4 then .ok [TAG_STR4]
      else if n < 256 then .ok [TAG_STR_L1, n]
      else if n < 2 ^ 32 then .ok (TAG_STR_L4 :: beN 4 n)
      else .error .structError := by
  simp only [bytesForms, header_fixed, header_long]

theorem header_tupleForms (n : Nat) :
    header tupleForms n =
      if n = 0 then .ok [TAG_EMPTY_TUPLE]
      else if n = 1 then .ok [TAG_TUP1]
      else if n = 2 then .ok [TAG_TUP2]
      else if n = 3 then .ok [TAG_TUP3]
      else if n = 4 then .ok [TAG_TUP4]
      else if n < 256 then .ok [TAG_TUP_L1, n]
      else if n < 2 ^ 32 then .ok (TAG_TUP_L4 :: beN 4 n)
      else .error .structError := by
  simp only [tupleForms, header_fixed, header_long]

theorem header_intForms (n : Nat) :
    header intForms n =
      if n < 256 then .ok [TAG_INT_L1, n]
      else if n < 2 ^ 32 then .ok (TAG_INT_L4 :: beN 4 n)
      else .error .structError :=
  header_long _ _ _ _ n

/-! ### the code's encoder = the reference encoder

The code writes tag, length field and content in each branch of its `if` ladder; the reference encoder puts the
content `after` the header the search returns.  Pushing `after` through the ladder makes the two coincide. -/

theorem after_ite (c : Prop) [Decidable c] (x y : Except Err Bytes) (body : Bytes) :
    after (if c then x else y) body = if c then after x body else after y body :=
  apply_ite (after · body) c x y

theorem after_ok (hd body : Bytes) : after (.ok hd) body = .ok (hd ++ body) := rfl

theorem after_error (e : Err) (body : Bytes) : after (.error e) body = .error e := rfl

theorem tupHeader_eq (n : Nat) : Brine.tupHeader n = header tupleForms n := by
  rw [header_tupleForms]
  simp only [Brine.tupHeader, tag_emptyTuple, tag_tup1, tag_tup2, tag_tup3, tag_tup4, tag_tupL1, tag_tupL4]

theorem encBytes_eq (b : Bytes) : Brine.encBytes b = specBytes b := by
  simp only [specBytes, header_bytesForms, after_ite, after_ok, after_error, Brine.encBytes, tag_emptyStr, tag_str1,
    tag_str2, tag_str3, tag_str4, tag_strL1, tag_strL4, List.cons_append, List.nil_append]
  -- the two ladders differ in the first branch only (`[tag]` against `tag :: b`), taken when `b` is empty
  cases b <;> rfl

theorem encStr_eq (s : List Nat) : Brine.encStr s = specText Gen.dumpStrSurrogatePass s := by
  unfold Brine.encStr specText
  cases utf8Enc Gen.dumpStrSurrogatePass s with
  | none => rfl
  | some u =>
    simp only [encBytes_eq, tag_unicode]
    cases specBytes u <;> rfl

/-- the interpreter can render the integer as text: it is an immediate, or the interpreter has no digit
limit, or it has at most that many digits (`str(int)` raises ValueError otherwise — an interpreter
matter, not a format matter) -/
def intRenderable (i : Int) : Bool :=
  (decide (IMM_LO ≤ i) && decide (i < IMM_HI)) || Gen.intMaxStrDigits == 0
    || decide ((natDigits i.natAbs).length ≤ Gen.intMaxStrDigits)

theorem encInt_eq (i : Int) (h : intRenderable i = true) : Brine.encInt i = specInt i := by
  unfold Brine.encInt specInt
  rw [imm_lo, imm_hi, imm_base]
  by_cases himm : IMM_LO ≤ i ∧ i < IMM_HI
  · rw [if_pos himm, if_pos himm]
  · rw [if_neg himm, if_neg himm]
    have hlim : ¬ (Gen.intMaxStrDigits ≠ 0 ∧ (natDigits i.natAbs).length > Gen.intMaxStrDigits) := by
      simp only [intRenderable, Bool.or_eq_true, Bool.and_eq_true, decide_eq_true_eq, beq_iff_eq] at h
      rcases h with (h | h) | h
      · exact absurd h himm
      · omega
      · omega
    rw [if_neg hlim, header_intForms, tag_intL1, tag_intL4]
    simp only [after_ite, after_ok, after_error, List.cons_append, List.nil_append]

mutual
def Renderable : Val → Bool
  | .int i => intRenderable i
  | .tuple xs => RenderableL xs
  | .fset xs => RenderableL xs
  | .slice a b c => Renderable a && Renderable b && Renderable c
  | _ => true
def RenderableL : List Val → Bool
  | [] => true
  | x :: xs => Renderable x && RenderableL xs
end

mutual
/-- all text in the value consists of Unicode scalar values (no surrogate code points): the values
whose text the published format can express -/
def ScalarText : Val → Bool
  | .str s => s.all (fun c => !isSurrogate c)
  | .tuple xs => ScalarTextL xs
  | .fset xs => ScalarTextL xs
  | .slice a b c => ScalarText a && ScalarText b && ScalarText c
  | _ => true
def ScalarTextL : List Val → Bool
  | [] => true
  | x :: xs => ScalarText x && ScalarTextL xs
end

theorem andThen_eq_match (h body : Except Err Bytes) :
    andThen h body = (match h with
      | .error e => .error e
      | .ok hd => match body with
        | .error e => .error e
        | .ok b => .ok (hd ++ b)) := rfl

/- `Renderable`, `ScalarText` (and `Parsable` later) compute on a constructor: a hypothesis about `.tuple xs` *is* the
hypothesis about `xs`, and is passed on as it stands; one about `x :: xs` or a slice *is* the `&&` of those about the parts. -/
mutual
theorem enc_eq_specEncWith : ∀ (v : Val), Renderable v = true →
    Brine.enc v = specEncWith Gen.dumpStrSurrogatePass v
  | .none, _ | .notImpl, _ | .ellipsis, _ | .bool true, _ | .bool false, _ | .float _, _ | .complex _ _, _ => by
    simp only [Brine.enc, specEncWith, tag_none, tag_notImplemented, tag_ellipsis, tag_true, tag_false, tag_float,
      tag_complex]
  | .int i, h => by
    simp only [Brine.enc, specEncWith]
    exact encInt_eq i h
  | .bytes b, _ => by simp only [Brine.enc, specEncWith]; exact encBytes_eq b
  | .str s, _ => by simp only [Brine.enc, specEncWith]; exact encStr_eq s
  -- below, the code's nested `match` on the parts is `andThen` spelt out
  | .tuple xs, h => by
    have ih := encL_eq_specEncList xs h
    simp only [Brine.enc, specEncWith, tupHeader_eq, ih]
    rfl
  | .fset xs, h => by
    have ih := encL_eq_specEncList xs h
    simp only [Brine.enc, specEncWith, tupHeader_eq, ih, tag_fset]
    cases header tupleForms xs.length <;> cases specEncList Gen.dumpStrSurrogatePass xs <;> rfl
  | .slice a b c, h => by
    have h' : (Renderable a = true ∧ Renderable b = true) ∧ Renderable c = true :=
      (Bool.and_eq_true_iff.mp h).imp_left Bool.and_eq_true_iff.mp
    have hh : header tupleForms 3 = .ok [TAG_TUP3] := by rw [header_tupleForms]; rfl
    simp only [Brine.enc, specEncWith, enc_eq_specEncWith a h'.1.1, enc_eq_specEncWith b h'.1.2,
      enc_eq_specEncWith c h'.2, tag_slice, tag_tup3, hh]
    cases specEncWith Gen.dumpStrSurrogatePass a <;> cases specEncWith Gen.dumpStrSurrogatePass b <;>
      cases specEncWith Gen.dumpStrSurrogatePass c <;> rfl
  | .other _, _ => rfl
theorem encL_eq_specEncList : ∀ (xs : List Val), RenderableL xs = true →
    Brine.encL xs = specEncList Gen.dumpStrSurrogatePass xs
  | [], _ => rfl
  | x :: xs, h => by
    have h' : Renderable x = true ∧ RenderableL xs = true := Bool.and_eq_true_iff.mp h
    simp only [Brine.encL, specEncList, enc_eq_specEncWith x h'.1, encL_eq_specEncList xs h'.2]
    rfl
end

theorem utf8Enc_mode (s : List Nat) (h : s.all (fun c => !isSurrogate c) = true) (a b : Bool) :
    utf8Enc a s = utf8Enc b s := by
  induction s with
  | nil => rfl
  | cons c cs ih =>
    simp only [List.all_cons, Bool.and_eq_true, Bool.not_eq_true'] at h
    simp [utf8Enc, h.1, ih h.2]

mutual
theorem specEncWith_mode : ∀ (v : Val), ScalarText v = true → ∀ a b, specEncWith a v = specEncWith b v
  | .none, _, _, _ | .notImpl, _, _, _ | .ellipsis, _, _, _ | .bool true, _, _, _ | .bool false, _, _, _
  | .int _, _, _, _ | .float _, _, _, _ | .complex _ _, _, _, _ | .bytes _, _, _, _
  | .other _, _, _, _ => by
    simp only [specEncWith]
  | .str s, h, a, b => by
    simp only [specEncWith, specText]
    rw [utf8Enc_mode s h a b]
  | .tuple xs, h, a, b => by
    simp only [specEncWith, specEncList_mode xs h a b]
  | .fset xs, h, a, b => by
    simp only [specEncWith, specEncList_mode xs h a b]
  | .slice x y z, h, a, b => by
    have h' : (ScalarText x = true ∧ ScalarText y = true) ∧ ScalarText z = true :=
      (Bool.and_eq_true_iff.mp h).imp_left Bool.and_eq_true_iff.mp
    simp only [specEncWith, specEncWith_mode x h'.1.1 a b, specEncWith_mode y h'.1.2 a b,
      specEncWith_mode z h'.2 a b]
theorem specEncList_mode : ∀ (xs : List Val), ScalarTextL xs = true → ∀ a b, specEncList a xs = specEncList b xs
  | [], _, _, _ => rfl
  | x :: xs, h, a, b => by
    have h' : ScalarText x = true ∧ ScalarTextL xs = true := Bool.and_eq_true_iff.mp h
    simp only [specEncList, specEncWith_mode x h'.1 a b, specEncList_mode xs h'.2 a b]
end

theorem c_msgRequest : Gen.Consts.msgRequest = MSG_REQUEST := by decide
theorem c_msgReply : Gen.Consts.msgReply = MSG_REPLY := by decide
theorem c_msgException : Gen.Consts.msgException = MSG_EXCEPTION := by decide
theorem c_labelValue : Gen.Consts.labelValue = LABEL_VALUE := by decide
theorem c_labelTuple : Gen.Consts.labelTuple = LABEL_TUPLE := by decide
theorem c_labelLocalRef : Gen.Consts.labelLocalRef = LABEL_LOCAL_REF := by decide
theorem c_labelRemoteRef : Gen.Consts.labelRemoteRef = LABEL_REMOTE_REF := by decide
theorem c_excStopIteration : Gen.Consts.excStopIteration = EXC_STOP_ITERATION := by decide
theorem c_streamChunk : Gen.Consts.streamChunk = STREAM_CHUNK := by decide
theorem c_threshold : Gen.Consts.compressionThreshold = COMPRESSION_THRESHOLD := by decide
theorem c_level : Gen.Consts.compressionLevel = COMPRESSION_LEVEL := by decide
theorem c_bigEndian : Gen.Consts.frameBigEndian = true := by decide
theorem c_lenWidth : Gen.Consts.frameLenWidth = FRAME_LEN_WIDTH := by decide
theorem c_flagWidth : Gen.Consts.frameFlagWidth = FRAME_FLAG_WIDTH := by decide
theorem c_headerSize : Gen.Consts.frameHeaderSize = FRAME_HEADER_SIZE := by decide
theorem c_flusher : Gen.Consts.flusher = FLUSHER := by decide
/-- environment: the interpreter under check has zlib (otherwise nothing is ever compressed) -/
theorem c_zlib : Gen.Consts.zlibAvailable = true := by decide

theorem packHeader_eq (len flag : Nat) :
    Code.packHeader len flag =
      if len < 2 ^ 32 ∧ flag < 256 then .ok (beN FRAME_LEN_WIDTH len ++ beN FRAME_FLAG_WIDTH flag)
      else .error .structError := by
  simp only [Code.packHeader, Code.packField, c_bigEndian, c_lenWidth, c_flagWidth, if_true]
  rfl

theorem emit_eq (flag : Nat) (data : Bytes) (hf : flag < 256) :
    Code.emit flag data = if data.length < 2 ^ 32 then .ok (frameOf flag data) else .error .structError := by
  unfold Code.emit
  rw [packHeader_eq]
  by_cases h : data.length < 2 ^ 32
  · simp [h, hf, frameOf, c_flusher]
  · simp [h]

theorem channelSend_eq (deflate : Bytes → Bytes) (compress : Bool) (data : Bytes) :
    Code.channelSend deflate compress data = sendFrame deflate compress data := by
  simp only [Code.channelSend, sendFrame, compresses, c_zlib, c_threshold, Bool.and_true,
    emit_eq 1 _ (by decide), emit_eq 0 _ (by decide)]
  rfl

theorem compresses_iff (compress : Bool) (data : Bytes) :
    compresses compress data = true ↔ compress = true ∧ data.length > 3000 := by
  simp [compresses, COMPRESSION_THRESHOLD]

theorem beN_one (n : Nat) (h : n < 256) : beN 1 n = [n] := by
  simp [beN]; omega

theorem frameOf_explicit (flag : Nat) (payload : Bytes) (hf : flag < 256) :
    frameOf flag payload = beN 4 payload.length ++ [flag] ++ payload ++ [0x0a] := by
  simp [frameOf, FRAME_LEN_WIDTH, FRAME_FLAG_WIDTH, FLUSHER, beN_one flag hf]

theorem channelRecv_fields (inflate : Bytes → Option Bytes) (a b c d flag nl : Nat) (payload rest : Bytes)
    (hu : unbe [a, b, c, d] = payload.length) :
    Code.channelRecv inflate (a :: b :: c :: d :: flag :: (payload ++ nl :: rest))
      = Code.recvResult inflate flag payload rest := by
  have htake : (payload ++ nl :: rest).take payload.length = payload := List.take_left
  have hdrop : (payload ++ nl :: rest).drop (payload.length + 1) = rest := by
    rw [← List.drop_drop, List.drop_left]; rfl
  have hflag : unbe [flag] = flag := by simp [unbe]
  simp only [Code.channelRecv, Code.unpackField, c_bigEndian, c_headerSize, c_lenWidth, c_flagWidth, c_flusher,
    FRAME_HEADER_SIZE, FRAME_LEN_WIDTH, FRAME_FLAG_WIDTH, FLUSHER, if_true, List.take_succ_cons, List.take_zero,
    List.drop_succ_cons, List.drop_zero, List.length_cons, List.length_append, List.length_nil, hu, hflag, htake, hdrop]
  rw [if_neg (by omega), if_neg (by omega)]

theorem channelRecv_frameOf (inflate : Bytes → Option Bytes) (flag : Nat) (payload rest : Bytes)
    (hl : payload.length < 2 ^ 32) (hf : flag < 256) :
    Code.channelRecv inflate (frameOf flag payload ++ rest) = Code.recvResult inflate flag payload rest := by
  obtain ⟨a, b, c, d, h4⟩ : ∃ a b c d, beN 4 payload.length = [a, b, c, d] := ⟨_, _, _, _, rfl⟩
  have hshape : frameOf flag payload ++ rest = a :: b :: c :: d :: flag :: (payload ++ 10 :: rest) := by
    simp [frameOf, FRAME_LEN_WIDTH, FRAME_FLAG_WIDTH, FLUSHER, beN_one flag hf, h4]
  rw [hshape]
  exact channelRecv_fields inflate a b c d flag 10 payload rest (h4 ▸ unbe_beN 4 _ hl)

mutual
/-- the published label tree the code's `_box` produces -/
def boxedOf : Code.Obj → Boxed
  | .plain v => .value v
  | .tup xs => .tuple (boxedOfL xs)
  | .ownProxy p => .localRef p
  | .object p => .remoteRef p
def boxedOfL : List Code.Obj → List Boxed
  | [] => []
  | x :: xs => boxedOf x :: boxedOfL xs
end

mutual
theorem box_eq : ∀ (o : Code.Obj), Code.box o = (boxedOf o).toVal
  | .plain v => by simp [Code.box, boxedOf, Boxed.toVal, c_labelValue]
  | .tup xs => by simp [Code.box, boxedOf, Boxed.toVal, c_labelTuple, boxL_eq xs]
  | .ownProxy p => by simp [Code.box, boxedOf, Boxed.toVal, c_labelLocalRef]
  | .object p => by simp [Code.box, boxedOf, Boxed.toVal, c_labelRemoteRef]
theorem boxL_eq : ∀ (xs : List Code.Obj), Code.boxL xs = Boxed.toVals (boxedOfL xs)
  | [] => rfl
  | x :: xs => by simp [Code.boxL, boxedOfL, Boxed.toVals, box_eq x, boxL_eq xs]
end

def probeP : Val := .tuple [.str [112, 114, 111, 98, 101, 46, 80], .int 11, .int 22]          -- ("probe.P", 11, 22)
def probeObj : Val := .tuple [.str [103, 101, 110, 95, 112, 114, 111, 116, 111, 95, 99, 111, 110, 115, 116, 115, 46, 79, 98, 106], .int 44, .int 55]   -- ("gen_proto_consts.Obj", 44, 55)
def probeQ : Val := .tuple [.str [112, 114, 111, 98, 101, 46, 81], .int 12, .int 23]          -- ("probe.Q", 12, 23)
def probeSvc : Val := .tuple [.str [103, 101, 110, 95, 112, 114, 111, 116, 111, 95, 99, 111, 110, 115, 116, 115, 46, 83, 118, 99], .int 66, .int 77]   -- ("gen_proto_consts.Svc", 66, 77)

/-- the seven objects `Connection._box` was run on when the facts were recorded -/
def boxProbes : List (String × Code.Obj) :=
  [("plain", .plain (.tuple [.int 1, .str [97], .tuple [.float 0x4004000000000000, .none]])),
   ("tuple", .tup [.plain (.int 5), .object probeObj]),
   ("nested", .tup [.ownProxy probeP, .tup [.plain (.str [107]), .object probeObj], .plain (.bytes [])]),
   ("object", .object probeObj),
   ("proxy", .ownProxy probeP),
   ("foreign-proxy", .object probeQ),                       -- another connection's proxy is an object like any other
   ("tuple-with-foreign-proxy", .tup [.ownProxy probeP, .object probeQ])]

/-- the operations the generator performed on the live proxy (probe names of Gen/Recorded.lean) and the published
handler each must use for its own request.  (An operation may issue auxiliary requests as well — an INSPECT for a
new class, `__iter__` before BUFFITER, a DEL when a proxy dies: their number and order are the client's business.) -/
def probeOperations : List (String × String) :=
  [("root", "HANDLE_GETROOT"), ("root", "HANDLE_INSPECT"), ("ping", "HANDLE_PING"), ("getattr", "HANDLE_GETATTR"),
   ("setattr", "HANDLE_SETATTR"), ("delattr", "HANDLE_DELATTR"), ("call", "HANDLE_CALL"), ("call-kw", "HANDLE_CALL"),
   ("callattr-special", "HANDLE_CALLATTR"), ("callattr-kw", "HANDLE_CALLATTR"), ("cmp-eq", "HANDLE_CMP"),
   ("cmp-lt", "HANDLE_CMP"), ("hash", "HANDLE_HASH"), ("str", "HANDLE_STR"), ("repr", "HANDLE_REPR"),
   ("dir", "HANDLE_DIR"), ("ctxexit", "HANDLE_CTXEXIT"), ("pickle", "HANDLE_PICKLE"),
   ("oldslicing", "HANDLE_OLDSLICING"), ("buffiter", "HANDLE_BUFFITER"), ("class-proxy", "HANDLE_INSPECT"),
   ("instancecheck", "HANDLE_INSTANCECHECK"),
   ("del-class", "HANDLE_DEL"), ("call-with-object", "HANDLE_CALL"), ("async-call-kw", "HANDLE_CALL"),
   ("timed-call-kw", "HANDLE_CALL"), ("call-with-foreign-proxy", "HANDLE_CALL"), ("del", "HANDLE_DEL"),
   ("close", "HANDLE_CLOSE")]

/-- `op = (probe name, handler name)`: one of the requests recorded under that probe carries that handler's number
(the others are the auxiliary requests); an unknown probe or handler name fails -/
def probeUsed (recorded : List (String × List Val)) (op : String × String) : Bool :=
  match recorded.lookup op.1, handlerTable.lookup op.2 with
  | some vs, some h => (vs.map (fun v => match Msg.ofVal? v with
      | some (.request _ h' _) => h' == h
      | _ => false)).any id
  | _, _ => false

/-- `(handler, boxed args)` of a recorded request, whatever its sequence number -/
def requestBodies (vs : List Val) : List Val :=
  vs.filterMap (fun v => match v with
    | .tuple [_, _, body] => some body
    | _ => none)

def probeEmitted (recorded : List (String × List Val)) (name : String) (handler : String) (args : Code.Obj) : Bool :=
  match recorded.lookup name, handlerTable.lookup handler with
  | some vs, some h => (requestBodies vs).any (fun b => Val.beq b (.tuple [.int (h : Nat), Code.box args]))
  | _, _ => false

/-- `v` reads as a published message (`Msg.ofVal?`) whose arguments have the layout published for its handler
(`Msg.conforms`) -/
def conformingMessage (v : Val) : Bool :=
  match Msg.ofVal? v with
  | some m => m.conforms
  | none => false

/-- the response `_dispatch_request` sent is a single published message of the right kind and sequence number -/
def answeredWith (kind : Nat) (entry : Val × List Val) : Bool :=
  match entry.1, entry.2 with
  | .tuple [_, seq, _], [.tuple [k, seq', body]] =>
    Val.beq k (.int (kind : Nat)) && Val.beq seq seq' && conformingMessage (.tuple [k, seq', body])
  | _, _ => false

/-- the one response recorded for the request numbered `seq`; `none` also when it got none or several -/
def responseTo (served : List (Val × List Val)) (seq : Int) : Option Val :=
  match served.find? (fun e => match e.1 with
      | .tuple [_, .int s, _] => s == seq
      | _ => false) with
  | some (_, [r]) => some r
  | _ => none

/-- there was a response and it is, value for value, the message the model builds (`expected`) -/
def isResponse (expected : Val) (r : Option Val) : Bool :=
  match r with
  | some v => Val.beq v expected
  | none => false

/-- `entry = (request, responses)`: exactly one response; a reply must have the body shape published for the
request's handler (`replyConforms`), an exception passes as it is -/
def replyShapeOk (entry : Val × List Val) : Bool :=
  match Msg.ofVal? entry.1, entry.2 with
  | some (.request _ h _), [r] =>
    (match Msg.ofVal? r with
      | some (.reply _ b) => replyConforms h b
      | some (.exception _ _) => true
      | _ => false)
  | _, _ => false

/-- `((module, name), args, attrs, tb)`: does the dumped exception name that class, carry those arguments, that
attribute, `_remote_version`, and a traceback text starting with `tbPrefix` -/
def dumpedIs (modName clsName : List Nat) (args : Val) (attr : Option Val) (tbPrefix : List Nat) : Option Val → Bool
  | some (.tuple [_, _, .tuple [.tuple [.str m, .str c], a, .tuple attrs, .str tb]]) =>
    m == modName && c == clsName && Val.beq a args
      && (match attr with
          | some x => attrs.any (Val.beq x)
          | none => true)
      && attrs.any (fun x => match x with
          | .tuple [.str n, _] => n == [95, 114, 101, 109, 111, 116, 101, 95, 118, 101, 114, 115, 105, 111, 110]
          | _ => false)
      && tbPrefix.isPrefixOf tb
  | _ => false

end Rpyc.Spec
