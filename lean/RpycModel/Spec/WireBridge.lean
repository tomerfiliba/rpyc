import RpycModel.Spec.Lemmas
import RpycModel.Wire.Model
/-
C19's model of `Channel.send` (Spec/Code.lean, over Gen/Consts.lean) and C05's (Wire/Model.lean, over
Gen/Wire.lean) were written independently; they define the same bytes, hence C05's frames are the
published frames too.
-/
namespace Rpyc.Spec
open Rpyc

/-- the two header packers differ only in which generated file names the field widths -/
theorem packHeader_eq_wire (len flag : Nat) : Code.packHeader len flag = Wire.packHeader len flag := rfl

theorem emit_eq_wire (flag : Nat) (payload : Bytes) :
    Code.emit flag payload = match Wire.packHeader payload.length flag with
      | .error e => .error e
      | .ok h => .ok (h ++ (payload ++ Gen.flusher)) := by
  unfold Code.emit
  rw [packHeader_eq_wire]
  cases Wire.packHeader payload.length flag with
  | error e => rfl
  | ok h => exact congrArg Except.ok (List.append_assoc h payload Gen.flusher)

theorem channelSend_eq_wire_frame (z : Wire.ZlibFns) (compress : Bool) (data : Bytes) :
    Code.channelSend z.compress compress data = Wire.frame z compress data := by
  have hc : ((compress && Gen.Consts.zlibAvailable) && decide (data.length > Gen.Consts.compressionThreshold))
      = Wire.useCompression compress data := rfl
  unfold Code.channelSend Wire.frame Wire.payload Wire.flag
  rw [hc]
  cases Wire.useCompression compress data
  · exact emit_eq_wire 0 data
  · exact emit_eq_wire 1 (z.compress data)

theorem wire_frame_published (z : Wire.ZlibFns) (compress : Bool) (data : Bytes) :
    Wire.frame z compress data = sendFrame z.compress compress data := by
  rw [← channelSend_eq_wire_frame, channelSend_eq]

end Rpyc.Spec
