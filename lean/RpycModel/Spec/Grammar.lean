import RpycModel.Spec.Lemmas
/-
The grammar `Denotes` against the model of the real decoder and against the encoders:
every sentence of the grammar — any fitting form, shortest or not — is decoded by `Brine.dec` to the
value it denotes (`dec_denotes`), and no sentence is shorter than what the reference encoder emits
(`specEncWith_shortest`), which itself emits a sentence (`specEnc_denotes`).
-/
namespace Rpyc.Spec
open Rpyc

def intParsable (i : Int) : Bool :=
  Gen.intMaxStrDigits == 0 || decide ((natDigits i.natAbs).length ≤ Gen.intMaxStrDigits)

mutual
/-- every integer in the value has no more digits than the interpreter's `int()` accepts -/
def Parsable : Val → Bool
  | .int i => intParsable i
  | .tuple xs => ParsableL xs
  | .fset xs => ParsableL xs
  | .slice a b c => Parsable a && Parsable b && Parsable c
  | _ => true
def ParsableL : List Val → Bool
  | [] => true
  | x :: xs => Parsable x && ParsableL xs
end

/-! ### forms under the decoder

For each of the three form tables the decoder does the same thing with every row: it learns the length `n` from the
header (from the tag alone, from one byte, from four) and continues with `n` and the rest of the stream. -/

theorem fits_fixed {nm : String} {t k n : Nat} (h : (⟨nm, t, .fixed k⟩ : Form).fits n = true) : n = k := by
  simpa [Form.fits, LenClass.fits] using h

theorem fits_l4 {nm : String} {t n : Nat} (h : (⟨nm, t, .l4⟩ : Form).fits n = true) : n < 2 ^ 32 := by
  simpa [Form.fits, LenClass.fits] using h

theorem read_be {α : Type} (w n : Nat) (h : n < 256 ^ w) (rest : Bytes) (err : α) (k : Nat → Bytes → α) :
    (if (beN w n ++ rest).length < w then err
      else k (unbe ((beN w n ++ rest).take w)) ((beN w n ++ rest).drop w)) = k n rest := by
  rw [if_neg (by simp), List.take_left' (beN_length w n), List.drop_left' (beN_length w n), unbe_beN w n h]

theorem dec_bytesForm (f : Form) (hf : f ∈ bytesForms) (n : Nat) (hfit : f.fits n = true) (fuel : Nat) (rest : Bytes) :
    Brine.dec (fuel+1) (f.header n ++ rest) = .ok (.bytes (rest.take n), rest.drop n) := by
  simp only [bytesForms, List.mem_cons, List.not_mem_nil, or_false] at hf
  rcases hf with rfl | rfl | rfl | rfl | rfl | rfl | rfl
  · cases fits_fixed hfit; exact tag_emptyStr ▸ Brine.dec_tag_emptyStr fuel rest
  · cases fits_fixed hfit; exact tag_str1 ▸ Brine.dec_tag_str1 fuel rest
  · cases fits_fixed hfit; exact tag_str2 ▸ Brine.dec_tag_str2 fuel rest
  · cases fits_fixed hfit; exact tag_str3 ▸ Brine.dec_tag_str3 fuel rest
  · cases fits_fixed hfit; exact tag_str4 ▸ Brine.dec_tag_str4 fuel rest
  · exact tag_strL1 ▸ Brine.dec_tag_strL1 fuel (n :: rest)
  · exact (tag_strL4 ▸ Brine.dec_tag_strL4 fuel (beN 4 n ++ rest)).trans
      (read_be 4 n (fits_l4 hfit) rest _ fun n r => Except.ok (Val.bytes (r.take n), r.drop n))

theorem dec_tupleForm (f : Form) (hf : f ∈ tupleForms) (n : Nat) (hfit : f.fits n = true) (fuel : Nat) (rest : Bytes) :
    Brine.dec (fuel+1) (f.header n ++ rest) = Brine.decTup fuel n rest := by
  simp only [tupleForms, List.mem_cons, List.not_mem_nil, or_false] at hf
  rcases hf with rfl | rfl | rfl | rfl | rfl | rfl | rfl
  · cases fits_fixed hfit
    simp only [Brine.decTup, Brine.decN]
    exact tag_emptyTuple ▸ Brine.dec_tag_emptyTuple fuel rest
  · cases fits_fixed hfit; exact tag_tup1 ▸ Brine.dec_tag_tup1 fuel rest
  · cases fits_fixed hfit; exact tag_tup2 ▸ Brine.dec_tag_tup2 fuel rest
  · cases fits_fixed hfit; exact tag_tup3 ▸ Brine.dec_tag_tup3 fuel rest
  · cases fits_fixed hfit; exact tag_tup4 ▸ Brine.dec_tag_tup4 fuel rest
  · exact (tag_tupL1 ▸ Brine.dec_tag_tupL1 fuel (n :: rest)).trans (if_neg (by simp))
  · exact (tag_tupL4 ▸ Brine.dec_tag_tupL4 fuel (beN 4 n ++ rest)).trans
      (read_be 4 n (fits_l4 hfit) rest _ (Brine.decTup fuel))

theorem dec_intForm (f : Form) (hf : f ∈ intForms) (n : Nat) (hfit : f.fits n = true) (fuel : Nat) (rest : Bytes) :
    Brine.dec (fuel+1) (f.header n ++ rest) = Brine.decIntAt (rest.take n) (rest.drop n) := by
  simp only [intForms, List.mem_cons, List.not_mem_nil, or_false] at hf
  rcases hf with rfl | rfl
  · exact tag_intL1 ▸ Brine.dec_tag_intL1 fuel (n :: rest)
  · exact (tag_intL4 ▸ Brine.dec_tag_intL4 fuel (beN 4 n ++ rest)).trans
      (read_be 4 n (fits_l4 hfit) rest _ fun n r => Brine.decIntAt (r.take n) (r.drop n))

theorem decIntAt_intRepr (i : Int) (hp : intParsable i = true) (tail : Bytes) :
    Brine.decIntAt (intRepr i) tail = .ok (.int i, tail) := by
  have hlim : Gen.intMaxStrDigits = 0 ∨ (natDigits i.natAbs).length ≤ Gen.intMaxStrDigits := by
    simpa [intParsable] using hp
  simp only [Brine.decIntAt, Brine.decInt, parseInt_intRepr Gen.intMaxStrDigits i hlim]

/-- a sentence and the item sequence inside a tuple are defined together, and so is every
fact about them.  `Denotes.rec` and `DenotesL.rec` ask for the same cases; this is the pair of them. -/
theorem Denotes.induction {P : Bytes → Val → Prop} {Q : Bytes → List Val → Prop}
    (none : P [TAG_NONE] .none) (notImpl : P [TAG_NOT_IMPLEMENTED] .notImpl) (ellipsis : P [TAG_ELLIPSIS] .ellipsis)
    (true_ : P [TAG_TRUE] (.bool true)) (false_ : P [TAG_FALSE] (.bool false))
    (imm : ∀ i, IMM_LO ≤ i → i < IMM_HI → P [(i + IMM_BASE).toNat] (.int i))
    (intText : ∀ i f, f ∈ intForms → f.fits (intRepr i).length = true →
      P (f.header (intRepr i).length ++ intRepr i) (.int i))
    (float : ∀ b, b < 2 ^ 64 → P (TAG_FLOAT :: beN 8 b) (.float b))
    (complex : ∀ r i, r < 2 ^ 64 → i < 2 ^ 64 → P (TAG_COMPLEX :: (beN 8 r ++ beN 8 i)) (.complex r i))
    (bytes : ∀ b f, f ∈ bytesForms → f.fits b.length = true → P (f.header b.length ++ b) (.bytes b))
    (text : ∀ s u bs, (∀ c ∈ s, c < 0x110000) → utf8Enc false s = some u → Denotes bs (.bytes u) → P bs (.bytes u) →
      P (TAG_UNICODE :: bs) (.str s))
    (tuple : ∀ xs f body, f ∈ tupleForms → f.fits xs.length = true → DenotesL body xs → Q body xs →
      P (f.header xs.length ++ body) (.tuple xs))
    (fset : ∀ xs bs, Denotes bs (.tuple xs) → P bs (.tuple xs) → P (TAG_FSET :: bs) (.fset xs))
    (slice : ∀ a b c bs, Denotes bs (.tuple [a, b, c]) → P bs (.tuple [a, b, c]) → P (TAG_SLICE :: bs) (.slice a b c))
    (nil : Q [] [])
    (cons : ∀ x xs bx bxs, Denotes bx x → DenotesL bxs xs → P bx x → Q bxs xs → Q (bx ++ bxs) (x :: xs)) :
    (∀ {bs v}, Denotes bs v → P bs v) ∧ (∀ {bs xs}, DenotesL bs xs → Q bs xs) :=
  ⟨fun h => Denotes.rec (motive_1 := fun bs v _ => P bs v) (motive_2 := fun bs xs _ => Q bs xs)
      none notImpl ellipsis true_ false_ imm intText float complex bytes text tuple fset slice nil cons h,
   fun h => DenotesL.rec (motive_1 := fun bs v _ => P bs v) (motive_2 := fun bs xs _ => Q bs xs)
      none notImpl ellipsis true_ false_ imm intText float complex bytes text tuple fset slice nil cons h⟩

theorem thenMap_of_ok {r : Except Err (Val × Bytes)} {g : Val → Except Err Val} {v w : Val} {rest : Bytes}
    (hr : r = .ok (v, rest)) (hg : g v = .ok w) : Brine.thenMap r g = .ok (w, rest) := by
  subst hr
  simp only [Brine.thenMap, hg]

/-- a slice is read as the tuple of its three members, one level further down -/
theorem need_slice (a b c : Val) : Brine.need (.slice a b c) = Brine.need (.tuple [a, b, c]) + 1 := by
  simp only [Brine.need, Brine.needL, Nat.max_zero]; omega

/-- The decoder is complete for the grammar, inside any stream and with any sufficient fuel; values and member lists
go together because a tuple's members are a `DenotesL`.  The fuel is written `fuel + 1` for a sentence, as in the
decoder's equations: every value needs one unit (`Brine.need_pos`). -/
theorem dec_denotes :
    (∀ {bs : Bytes} {v : Val}, Denotes bs v → Parsable v = true →
      ∀ (fuel : Nat) (tail : Bytes), Brine.need v ≤ fuel + 1 → Brine.dec (fuel + 1) (bs ++ tail) = .ok (v, tail)) ∧
    (∀ {bs : Bytes} {xs : List Val}, DenotesL bs xs → ParsableL xs = true →
      ∀ (fuel : Nat) (tail : Bytes), Brine.needL xs + 1 ≤ fuel →
        Brine.decN fuel xs.length (bs ++ tail) = .ok (xs, tail)) := by
  apply Denotes.induction
  case none => exact fun _ f tail _ => tag_none ▸ Brine.dec_tag_none f tail
  case notImpl => exact fun _ f tail _ => tag_notImplemented ▸ Brine.dec_tag_notImpl f tail
  case ellipsis => exact fun _ f tail _ => tag_ellipsis ▸ Brine.dec_tag_ellipsis f tail
  case true_ => exact fun _ f tail _ => tag_true ▸ Brine.dec_tag_true f tail
  case false_ => exact fun _ f tail _ => tag_false ▸ Brine.dec_tag_false f tail
  case imm =>
    exact fun i hlo hhi _ f tail _ => imm_base ▸ Brine.dec_imm f tail i (by rw [imm_lo, imm_hi]; exact ⟨hlo, hhi⟩)
  case intText =>
    intro i fm hfm hfit hp f tail _
    rw [List.append_assoc, dec_intForm fm hfm _ hfit, List.take_left, List.drop_left]
    exact decIntAt_intRepr i hp tail
  case float =>
    intro b hb _ f tail _
    exact (tag_float ▸ Brine.dec_tag_float f (beN 8 b ++ tail)).trans
      (read_be 8 b hb tail _ fun n r => Except.ok (Val.float n, r))
  case complex =>
    intro r i hr hi _ f tail _
    have hr8 := beN_length 8 r
    have h16 : (beN 8 r ++ beN 8 i).length = 16 := by simp
    refine (tag_complex ▸ Brine.dec_tag_complex f (beN 8 r ++ beN 8 i ++ tail)).trans ?_
    rw [if_neg (by simp; omega), List.drop_left' h16, List.append_assoc, List.take_left' hr8, List.drop_left' hr8,
      List.take_left' (beN_length 8 i), unbe_beN 8 r hr, unbe_beN 8 i hi]
  case bytes =>
    intro b fm hfm hfit _ f tail _
    rw [List.append_assoc, dec_bytesForm fm hfm _ hfit, List.take_left, List.drop_left]
  case text =>
    intro s u bs hcp hu _ ih _ fuel tail hf
    obtain ⟨f, rfl⟩ : ∃ f, fuel = f + 1 := Nat.exists_eq_add_of_le' (Nat.le_of_succ_le_succ hf)
    have hdec := utf8Dec_enc false Gen.loadStrSurrogatePass (by intro h; cases h) s u hcp hu
    exact (tag_unicode ▸ Brine.dec_tag_unicode (f+1) (bs ++ tail)).trans
      (thenMap_of_ok (ih rfl f tail (Nat.le_add_left 1 f)) (by simp only [Brine.decodeText, hdec]))
  case tuple =>
    intro xs fm body hfm hfit _ ih hp fuel tail hf
    obtain ⟨f, rfl⟩ : ∃ f, fuel = f + 1 := ⟨fuel - 1, by simp only [Brine.need] at hf; omega⟩
    have ih := ih hp (f+1) tail (by simp only [Brine.need] at hf; omega)
    rw [List.append_assoc, dec_tupleForm fm hfm xs.length hfit (f+1) (body ++ tail)]
    simp only [Brine.decTup, ih]
  case fset =>
    intro xs bs _ ih hp fuel tail hf
    obtain ⟨f, rfl⟩ : ∃ f, fuel = f + 2 := ⟨fuel - 2, by simp only [Brine.need] at hf; omega⟩
    have ih := ih hp (f+1) tail (by simp only [Brine.need] at hf ⊢; omega)
    exact (tag_fset ▸ Brine.dec_tag_fset (f+2) (bs ++ tail)).trans (thenMap_of_ok ih rfl)
  case slice =>
    intro a b c bs _ ih hp fuel tail hf
    obtain ⟨f, rfl⟩ : ∃ f, fuel = f + 2 := ⟨fuel - 2, by rw [need_slice, Brine.need] at hf; omega⟩
    have hp' : Parsable (.tuple [a, b, c]) = true := by
      show (Parsable a && (Parsable b && (Parsable c && true))) = true
      rw [Bool.and_true, ← Bool.and_assoc]; exact hp
    have ih := ih hp' (f+1) tail (by rw [need_slice] at hf; omega)
    exact (tag_slice ▸ Brine.dec_tag_slice (f+2) (bs ++ tail)).trans (thenMap_of_ok ih rfl)
  case nil =>
    intro _ fuel tail _
    simp only [List.length_nil, Brine.decN, List.nil_append]
  case cons =>
    intro x xs bx bxs _ _ ihx ihxs hp fuel tail hf
    have hp' : Parsable x = true ∧ ParsableL xs = true := Bool.and_eq_true_iff.mp hp
    have hx := Brine.need_pos x
    obtain ⟨f, rfl⟩ : ∃ f, fuel = f + 2 := ⟨fuel - 2, by simp only [Brine.needL] at hf; omega⟩
    have hfx : Brine.need x ≤ f + 1 ∧ Brine.needL xs + 1 ≤ f + 2 := by simp only [Brine.needL] at hf; omega
    simp only [List.length_cons, Brine.decN, List.append_assoc, ihx hp'.1 f (bxs ++ tail) hfx.1,
      ihxs hp'.2 (f+2) tail hfx.2]

theorem decN_denotesL : ∀ {bs : Bytes} {xs : List Val}, DenotesL bs xs → ParsableL xs = true →
    ∀ (fuel : Nat) (tail : Bytes), Brine.needL xs + 1 ≤ fuel →
      Brine.decN fuel xs.length (bs ++ tail) = .ok (xs, tail) :=
  dec_denotes.2

theorem header_length (f : Form) (n : Nat) : (f.header n).length = f.cost := by
  cases f with
  | mk name tag cls => cases cls <;> simp [Form.header, Form.cost, LenClass.field, LenClass.width]

theorem need_le_denotes :
    (∀ {bs : Bytes} {v : Val}, Denotes bs v → Brine.need v ≤ 2 * bs.length ∧ 1 ≤ bs.length) ∧
    (∀ {bs : Bytes} {xs : List Val}, DenotesL bs xs → Brine.needL xs ≤ 2 * bs.length) := by
  apply Denotes.induction
  case none | notImpl | ellipsis | true_ | false_ => simp [Brine.need]
  case imm | float | complex => intros; simp [Brine.need]
  case intText | bytes =>
    intro _ fm _ _
    simp only [Brine.need, List.length_append, header_length, Form.cost]; omega
  case text =>
    intro s u bs _ _ _ ih
    simp only [Brine.need, List.length_cons] at ih ⊢; omega
  case tuple =>
    intro xs fm body _ _ _ ih
    simp only [Brine.need, List.length_append, header_length, Form.cost]; omega
  case fset =>
    intro xs bs _ ih
    simp only [Brine.need, List.length_cons] at ih ⊢; omega
  case slice =>
    intro a b c bs _ ih
    simp only [need_slice, List.length_cons]; omega
  case nil => simp [Brine.needL]
  case cons =>
    intro x xs bx bxs _ _ ihx ihxs
    simp only [Brine.needL, List.length_append]; omega

theorem needL_le_denotesL : ∀ {bs : Bytes} {xs : List Val}, DenotesL bs xs → Brine.needL xs ≤ 2 * bs.length :=
  need_le_denotes.2

theorem load_denotes {bs : Bytes} {v : Val} (h : Denotes bs v) (hp : Parsable v = true) (rest : Bytes) :
    Brine.load (bs ++ rest) = .ok v := by
  have hn := (need_le_denotes.1 h).1
  have : Brine.dec (2 * (bs ++ rest).length + 2) (bs ++ rest) = .ok (v, rest) :=
    dec_denotes.1 h hp (2 * (bs ++ rest).length + 1) rest (by rw [List.length_append]; omega)
  unfold Brine.load
  rw [this]

theorem pick_sound (forms : List Form) (n : Nat) (g : Form) (h : pick forms n = some g) :
    g ∈ forms ∧ g.fits n = true := by
  revert h
  fun_induction pick forms n <;> intro h <;> cases h
  next _ hfit => exact ⟨List.mem_cons_self, hfit⟩
  next _ hc => exact ⟨List.mem_cons_self, (Bool.and_eq_true_iff.mp hc).1⟩
  next ih hp _ => exact ⟨List.mem_cons_of_mem _ (ih hp).1, (ih hp).2⟩

theorem pick_min (forms : List Form) (n : Nat) (f : Form) (hf : f ∈ forms) (hfit : f.fits n = true) :
    ∃ g, pick forms n = some g ∧ g.cost ≤ f.cost := by
  induction forms with
  | nil => simp at hf
  | cons f0 fs ih =>
    simp only [pick]
    rcases List.mem_cons.mp hf with rfl | hmem
    · cases hp : pick fs n with
      | none => exact ⟨f, by simp [hfit], Nat.le_refl _⟩
      | some g' =>
        by_cases hc : f.cost ≤ g'.cost
        · exact ⟨f, by simp [hfit, hc], Nat.le_refl _⟩
        · exact ⟨g', by simp [hc], by omega⟩
    · obtain ⟨g', hg', hle⟩ := ih hmem
      rw [hg']
      by_cases hc : (f0.fits n && decide (f0.cost ≤ g'.cost)) = true
      · refine ⟨f0, by simp only [hc, if_true], ?_⟩
        simp only [Bool.and_eq_true, decide_eq_true_eq] at hc
        omega
      · exact ⟨g', by simp only [hc]; rfl, hle⟩

theorem header_eq_ok (forms : List Form) (n : Nat) (hd : Bytes) (h : header forms n = .ok hd) :
    ∃ g, g ∈ forms ∧ g.fits n = true ∧ hd = g.header n ∧
      ∀ f ∈ forms, f.fits n = true → hd.length ≤ (f.header n).length := by
  unfold header at h
  cases hp : pick forms n with
  | none => rw [hp] at h; cases h
  | some g =>
    rw [hp] at h; cases h
    refine ⟨g, (pick_sound forms n g hp).1, (pick_sound forms n g hp).2, rfl, fun f hf hfit => ?_⟩
    obtain ⟨g', hg', hle⟩ := pick_min forms n f hf hfit
    cases hp.symm.trans hg'
    rw [header_length, header_length]; exact hle

theorem after_eq_ok (h : Except Err Bytes) (body e : Bytes) (he : after h body = .ok e) :
    ∃ hd, h = .ok hd ∧ e = hd ++ body := by
  cases h with
  | error _ => cases he
  | ok hd => cases he; exact ⟨hd, rfl, rfl⟩

theorem andThen_eq_ok (h b : Except Err Bytes) (e : Bytes) (he : andThen h b = .ok e) :
    ∃ hd bd, h = .ok hd ∧ b = .ok bd ∧ e = hd ++ bd := by
  cases h with
  | error _ => cases he
  | ok hd =>
    cases b with
    | error _ => cases he
    | ok bd => cases he; exact ⟨hd, bd, rfl, rfl, rfl⟩

theorem tagged_eq_ok (t : Nat) (r : Except Err Bytes) (e : Bytes) (he : tagged t r = .ok e) :
    ∃ e', r = .ok e' ∧ e = t :: e' := by
  obtain ⟨hd, bd, h1, h2, rfl⟩ := andThen_eq_ok _ _ _ he
  cases h1
  exact ⟨bd, h2, rfl⟩

theorem tagged_length_le (t : Nat) (r : Except Err Bytes) (bs e : Bytes)
    (ih : ∀ e', r = .ok e' → e'.length ≤ bs.length) (h : tagged t r = .ok e) : e.length ≤ (t :: bs).length := by
  obtain ⟨e', he', rfl⟩ := tagged_eq_ok _ _ _ h
  exact Nat.succ_le_succ (ih e' he')

theorem scalar_of_utf8Enc_strict : ∀ (s : List Nat) (u : Bytes), utf8Enc false s = some u →
    s.all (fun c => !isSurrogate c) = true
  | [], _, _ => rfl
  | c :: cs, u, h => by
    obtain ⟨hs, r, hr, _⟩ := utf8Enc_cons_some false c cs u h
    rw [List.all_cons, hs.resolve_right nofun, scalar_of_utf8Enc_strict cs r hr]
    rfl

theorem utf8Enc_strict_any (s : List Nat) (u : Bytes) (h : utf8Enc false s = some u) (sp : Bool) :
    utf8Enc sp s = some u :=
  utf8Enc_mode s (scalar_of_utf8Enc_strict s u h) false sp ▸ h

theorem specEncWith_fset (sp : Bool) (xs : List Val) :
    specEncWith sp (.fset xs) = tagged TAG_FSET (specEncWith sp (.tuple xs)) := by
  simp only [specEncWith]

theorem andThen_nil (r : Except Err Bytes) : andThen r (.ok []) = r := by
  cases r <;> simp [andThen]

theorem specEncWith_slice (sp : Bool) (a b c : Val) :
    specEncWith sp (.slice a b c) = tagged TAG_SLICE (specEncWith sp (.tuple [a, b, c])) := by
  simp only [specEncWith, specEncList, andThen_nil]
  rfl

theorem specEncWith_shortest :
    (∀ {bs : Bytes} {v : Val}, Denotes bs v → ∀ (sp : Bool) (e : Bytes),
      specEncWith sp v = .ok e → e.length ≤ bs.length) ∧
    (∀ {bs : Bytes} {xs : List Val}, DenotesL bs xs → ∀ (sp : Bool) (e : Bytes),
      specEncList sp xs = .ok e → e.length ≤ bs.length) := by
  apply Denotes.induction
  -- a sentence without a length class is the encoding itself
  case none | notImpl | ellipsis | true_ | false_ =>
    intro _ e h
    simp only [specEncWith] at h; cases h; exact Nat.le_refl _
  case float | complex =>
    intros
    rename_i h
    simp only [specEncWith] at h; cases h; exact Nat.le_refl _
  case imm =>
    intro i hlo hhi _ e h
    simp only [specEncWith, specInt, hlo, hhi, and_self, if_true] at h
    cases h; exact Nat.le_refl _
  case intText =>
    intro i fm hfm hfit _ e h
    simp only [specEncWith, specInt] at h
    split at h
    · cases h
      simp only [List.length_append, List.length_singleton, header_length, Form.cost]; omega
    · obtain ⟨hd, hh, rfl⟩ := after_eq_ok _ _ _ h
      obtain ⟨_, _, _, _, hmin⟩ := header_eq_ok _ _ _ hh
      have := hmin fm hfm hfit
      simp only [List.length_append]; omega
  case bytes =>
    intro b fm hfm hfit _ e h
    simp only [specEncWith, specBytes] at h
    obtain ⟨hd, hh, rfl⟩ := after_eq_ok _ _ _ h
    obtain ⟨_, _, _, _, hmin⟩ := header_eq_ok _ _ _ hh
    have := hmin fm hfm hfit
    simp only [List.length_append]; omega
  case text =>
    intro s u bs _ hu _ ih sp e h
    simp only [specEncWith, specText, utf8Enc_strict_any s u hu sp] at h
    exact tagged_length_le _ _ bs e (ih sp) h
  case tuple =>
    intro xs fm body hfm hfit _ ih sp e h
    simp only [specEncWith] at h
    obtain ⟨hd, bd, hh, hb, rfl⟩ := andThen_eq_ok _ _ _ h
    obtain ⟨_, _, _, _, hmin⟩ := header_eq_ok _ _ _ hh
    have h1 := hmin fm hfm hfit
    have h2 := ih sp bd hb
    simp only [List.length_append]; omega
  case fset =>
    intro xs bs _ ih sp e h
    rw [specEncWith_fset] at h
    exact tagged_length_le _ _ bs e (ih sp) h
  case slice =>
    intro a b c bs _ ih sp e h
    rw [specEncWith_slice] at h
    exact tagged_length_le _ _ bs e (ih sp) h
  case nil =>
    intro _ e h
    simp only [specEncList] at h; cases h; exact Nat.le_refl _
  case cons =>
    intro x xs bx bxs _ _ ihx ihxs sp e h
    simp only [specEncList] at h
    obtain ⟨ex, exs, h1, h2, rfl⟩ := andThen_eq_ok _ _ _ h
    have := ihx sp ex h1
    have := ihxs sp exs h2
    simp only [List.length_append]; omega

theorem specEncList_shortest : ∀ {bs : Bytes} {xs : List Val}, DenotesL bs xs → ∀ (sp : Bool) (e : Bytes),
    specEncList sp xs = .ok e → e.length ≤ bs.length :=
  specEncWith_shortest.2

theorem specBytes_denotes (b e : Bytes) (h : specBytes b = .ok e) : Denotes e (.bytes b) := by
  obtain ⟨hd, hh, rfl⟩ := after_eq_ok _ _ _ h
  obtain ⟨g, hg, hfit, rfl, _⟩ := header_eq_ok _ _ _ hh
  exact .bytes b g hg hfit

theorem tuple_denotes (xs : List Val) (e : Bytes)
    (hl : ∀ body, specEncList false xs = .ok body → DenotesL body xs)
    (h : andThen (header tupleForms xs.length) (specEncList false xs) = .ok e) : Denotes e (.tuple xs) := by
  obtain ⟨hd, bd, hh, hb, rfl⟩ := andThen_eq_ok _ _ _ h
  obtain ⟨g, hg, hfit, rfl, _⟩ := header_eq_ok _ _ _ hh
  exact .tuple xs g bd hg hfit (hl bd hb)

theorem cons_denotes (x : Val) (xs : List Val) (hx : ∀ ex, specEncWith false x = .ok ex → Denotes ex x)
    (hxs : ∀ exs, specEncList false xs = .ok exs → DenotesL exs xs) (e : Bytes)
    (h : specEncList false (x :: xs) = .ok e) : DenotesL e (x :: xs) := by
  simp only [specEncList] at h
  obtain ⟨ex, exs, h1, h2, rfl⟩ := andThen_eq_ok _ _ _ h
  exact .cons x xs ex exs (hx ex h1) (hxs exs h2)

mutual
theorem specEnc_denotes : ∀ (v : Val) (e : Bytes), v.wf = true → specEncWith false v = .ok e → Denotes e v
  | .none, e, _, h | .notImpl, e, _, h | .ellipsis, e, _, h | .bool true, e, _, h | .bool false, e, _, h => by
    simp only [specEncWith] at h; cases h; constructor
  | .int i, e, _, h => by
    simp only [specEncWith, specInt] at h
    split at h
    · rename_i hw
      cases h; exact .imm i hw.1 hw.2
    · obtain ⟨hd, hh, rfl⟩ := after_eq_ok _ _ _ h
      obtain ⟨g, hg, hfit, rfl, _⟩ := header_eq_ok _ _ _ hh
      exact .intText i g hg hfit
  | .float b, e, hw, h => by
    simp only [specEncWith] at h; cases h
    exact .float b (of_decide_eq_true hw)
  | .complex r i, e, hw, h => by
    simp only [specEncWith] at h; cases h
    have : r < 2 ^ 64 ∧ i < 2 ^ 64 := by simpa only [Val.wf, Bool.and_eq_true, decide_eq_true_eq] using hw
    exact .complex r i this.1 this.2
  | .bytes b, e, _, h => by simp only [specEncWith] at h; exact specBytes_denotes b e h
  | .str s, e, hw, h => by
    simp only [specEncWith, specText] at h
    cases hu : utf8Enc false s with
    | none => simp [hu] at h
    | some u =>
      simp only [hu] at h
      obtain ⟨e', he', rfl⟩ := tagged_eq_ok _ _ _ h
      exact .text s u e' (by simpa only [Val.wf, List.all_eq_true, decide_eq_true_eq] using hw) hu
        (specBytes_denotes u e' he')
  | .tuple xs, e, hw, h => by
    simp only [specEncWith] at h
    exact tuple_denotes xs e (fun body => specEncList_denotes xs body hw) h
  | .fset xs, e, hw, h => by
    simp only [specEncWith] at h
    obtain ⟨e', he', rfl⟩ := tagged_eq_ok _ _ _ h
    exact .fset xs e' (tuple_denotes xs e'
      (fun body => specEncList_denotes xs body hw) he')
  | .slice a b c, e, hw, h => by
    rw [specEncWith_slice] at h
    obtain ⟨e', he', rfl⟩ := tagged_eq_ok _ _ _ h
    have hw' : (a.wf = true ∧ b.wf = true) ∧ c.wf = true :=
      (Bool.and_eq_true_iff.mp hw).imp_left Bool.and_eq_true_iff.mp
    exact .slice a b c e' (tuple_denotes [a, b, c] e' (cons_denotes a _ (specEnc_denotes a · hw'.1.1)
      (cons_denotes b _ (specEnc_denotes b · hw'.1.2) (cons_denotes c _ (specEnc_denotes c · hw'.2)
        fun _ h => by cases h; exact .nil))) he')
  | .other _, e, _, h => by simp [specEncWith] at h
theorem specEncList_denotes : ∀ (xs : List Val) (e : Bytes), Val.wfL xs = true →
    specEncList false xs = .ok e → DenotesL e xs
  | [], e, _, h => by simp only [specEncList] at h; cases h; exact .nil
  | x :: xs, e, hw, h =>
    have hw' : x.wf = true ∧ Val.wfL xs = true := Bool.and_eq_true_iff.mp hw
    cons_denotes x xs (specEnc_denotes x · hw'.1) (specEncList_denotes xs · hw'.2) e h
end

/-! ### the published tables and grammar by themselves (nothing here mentions the code) -/

/-- the documented table is usable as a code: tags pairwise distinct and outside the immediate bytes -/
theorem tag_table_unambiguous :
    (tagTable.map (·.2)).Nodup
    ∧ (tagTable.map (·.2)).all (fun t => decide (((t : Nat) : Int) < IMM_LO + IMM_BASE)) = true := by decide +kernel

/-- the layout tables are usable: every handler number has exactly one layout -/
theorem handler_args_total :
    handlerArgs.map (·.1) = handlerTable.map (·.2) ∧ (replyShape.map (·.1)).all (fun h => (handlerArgs.lookup h).isSome) = true := by
  decide +kernel

theorem pick_is_shortest_fitting (forms : List Form) (n : Nat) (f : Form) (hf : f ∈ forms)
    (hfit : f.fits n = true) : ∃ g, pick forms n = some g ∧ g ∈ forms ∧ g.fits n = true ∧ g.cost ≤ f.cost := by
  obtain ⟨g, hg, hle⟩ := pick_min forms n f hf hfit
  exact ⟨g, hg, (pick_sound forms n g hg).1, (pick_sound forms n g hg).2, hle⟩

/-- the small integer 5 written as decimal text (legal, not shortest) -/
theorem five_as_text : Denotes [0x16, 1, 0x35] (.int 5) := by
  have h5 : intRepr 5 = [0x35] := by simp [intRepr, natDigits]
  have := Denotes.intText 5 ⟨"TAG_INT_L1", TAG_INT_L1, .l1⟩ (by decide +kernel) (by rw [h5]; decide)
  rw [h5] at this
  exact this
/-- a pair announced with TAG_TUP_L1 whose first member is 5 as text -/
theorem pair_in_long_form : Denotes [0x14, 2, 0x16, 1, 0x35, 0x00] (.tuple [.int 5, .none]) :=
  Denotes.tuple [.int 5, .none] ⟨"TAG_TUP_L1", TAG_TUP_L1, .l1⟩ [0x16, 1, 0x35, 0x00] (by decide +kernel) (by decide)
    (DenotesL.cons (.int 5) [.none] [0x16, 1, 0x35] [0x00] five_as_text
      (DenotesL.cons .none [] [0x00] [] Denotes.none DenotesL.nil))

end Rpyc.Spec
