import RpycModel.Conc.SendQ.Model
/-
That `_send` appends every kind at the back is a measured obligation (`enqueuedAtBack_all`).  The lines of `_send` as a relation
(`Line`, abstracted to `StepKind`); the invariants `Inv` (safety) and `Nest` (nesting, program order), kept by every line, nested
send and transport failure; some activation can always run (`exists_enabled`); the executable scheduler `exec` runs reachable states.
-/
namespace Rpyc.Conc.SendQ

section proj
variable (s : St) (t : Tid) (p : PC) (l : List Msg) (u : Tid)
@[simp, grind =] theorem setPc_pc : (s.setPc t p).pc u = if u = t then p else s.pc u := rfl
@[simp, grind =] theorem setPc_queue : (s.setPc t p).queue = s.queue := rfl
@[simp, grind =] theorem setPc_lock : (s.setPc t p).lock = s.lock := rfl
@[simp, grind =] theorem setPc_hand : (s.setPc t p).hand = s.hand := rfl
@[simp, grind =] theorem setPc_nw : (s.setPc t p).nw = s.nw := rfl
@[simp, grind =] theorem setPc_wire : (s.setPc t p).wire = s.wire := rfl
@[simp, grind =] theorem setPc_out : (s.setPc t p).out = s.out := rfl
@[simp, grind =] theorem setPc_appended : (s.setPc t p).appended = s.appended := rfl
@[simp, grind =] theorem setPc_holder : (s.setPc t p).holder = s.holder := rfl
@[simp, grind =] theorem setPc_todo : (s.setPc t p).todo = s.todo := rfl
@[simp, grind =] theorem setPc_prog : (s.setPc t p).prog = s.prog := rfl
@[simp, grind =] theorem setPc_wait : (s.setPc t p).wait = s.wait := rfl
@[simp, grind =] theorem setPc_dead : (s.setPc t p).dead = s.dead := rfl
@[simp, grind =] theorem setPc_lost : (s.setPc t p).lost = s.lost := rfl
@[simp, grind =] theorem setPc_stub : (s.setPc t p).stub = s.stub := rfl
@[simp, grind =] theorem setPc_started : (s.setPc t p).started = s.started := rfl
@[simp, grind =] theorem setPc_root : (s.setPc t p).root = s.root := rfl
@[simp, grind =] theorem setPc_next : (s.setPc t p).next = s.next := rfl
@[simp, grind =] theorem setTodo_todo : (s.setTodo t l).todo u = if u = t then l else s.todo u := rfl
@[simp, grind =] theorem setTodo_pc : (s.setTodo t l).pc = s.pc := rfl
@[simp, grind =] theorem setTodo_queue : (s.setTodo t l).queue = s.queue := rfl
@[simp, grind =] theorem setTodo_lock : (s.setTodo t l).lock = s.lock := rfl
@[simp, grind =] theorem setTodo_hand : (s.setTodo t l).hand = s.hand := rfl
@[simp, grind =] theorem setTodo_nw : (s.setTodo t l).nw = s.nw := rfl
@[simp, grind =] theorem setTodo_wire : (s.setTodo t l).wire = s.wire := rfl
@[simp, grind =] theorem setTodo_out : (s.setTodo t l).out = s.out := rfl
@[simp, grind =] theorem setTodo_appended : (s.setTodo t l).appended = s.appended := rfl
@[simp, grind =] theorem setTodo_holder : (s.setTodo t l).holder = s.holder := rfl
@[simp, grind =] theorem setTodo_prog : (s.setTodo t l).prog = s.prog := rfl
@[simp, grind =] theorem setTodo_wait : (s.setTodo t l).wait = s.wait := rfl
@[simp, grind =] theorem setTodo_dead : (s.setTodo t l).dead = s.dead := rfl
@[simp, grind =] theorem setTodo_lost : (s.setTodo t l).lost = s.lost := rfl
@[simp, grind =] theorem setTodo_stub : (s.setTodo t l).stub = s.stub := rfl
@[simp, grind =] theorem setTodo_started : (s.setTodo t l).started = s.started := rfl
@[simp, grind =] theorem setTodo_root : (s.setTodo t l).root = s.root := rfl
@[simp, grind =] theorem setTodo_next : (s.setTodo t l).next = s.next := rfl
end proj

theorem setPc_pc_self {s : St} {t : Tid} {p : PC} : (s.setPc t p).pc t = p := if_pos rfl
theorem setPc_pc_ne {s : St} {t u : Tid} {p : PC} (h : u ≠ t) : (s.setPc t p).pc u = s.pc u := if_neg h

@[simp, grind =] theorem partialPkt_setPc (s : St) (t : Tid) (p : PC) : partialPkt (s.setPc t p) = partialPkt s := rfl
@[simp, grind =] theorem partialPkt_setTodo (s : St) (t : Tid) (l : List Msg) : partialPkt (s.setTodo t l) = partialPkt s := rfl

/-- **the model's append is kind-blind because the code's is**: every measured kind is enqueued at the back
(`decide` over the regenerated table; a `_send` that inserts replies at the front breaks this obligation, and
with it every theorem below, instead of being silently mis-modelled) -/
theorem enqueuedAtBack_all : Rpyc.Gen.Sendq.enqueuedAtBack.all (·.2) = true := by decide

theorem enqueueAtBack_true (k : Nat) : enqueueAtBack k = true := by
  unfold enqueueAtBack
  have h := enqueuedAtBack_all
  rw [List.all_eq_true] at h
  simp only [Bool.not_eq_true', List.any_eq_false, Bool.and_eq_true, beq_iff_eq, Bool.not_eq_true', not_and]
  intro p hp _
  simpa using h p hp

@[simp] theorem enqueue_eq (q : List Item) (x : Item) : enqueue q x = q ++ [x] := by
  unfold enqueue; rw [enqueueAtBack_true]; rfl

theorem nparts_pos (it : Item) : 0 < nparts it := by unfold nparts; split <;> decide

theorem nparts_le (it : Item) : nparts it ≤ 3 := by unfold nparts; split <;> decide

theorem pieces_take_succ (it : Item) (k : Nat) (hk : k < nparts it) :
    (pieces it).take (k + 1) = (pieces it).take k ++ [(it, k)] := by
  unfold pieces
  rw [← List.map_take, ← List.map_take, List.take_range, List.take_range,
    Nat.min_eq_left (by omega), Nat.min_eq_left (by omega), List.range_succ, List.map_append]
  rfl

theorem pieces_take_all (it : Item) : (pieces it).take (nparts it) = pieces it := by
  unfold pieces; rw [← List.map_take, List.take_range, Nat.min_self]

/-- one constructor per branch of `step` (`Line.of_step`), so that a proof about a line is a case analysis on `Line` -/
inductive Line (s : St) (t : Tid) : St → Prop
  | start {m rest} : s.pc t = .idle → s.todo t = m :: rest →
      Line s t (({ s with started := s.started ++ [(t, m)] }.setTodo t rest).setPc t (.append m))
  | append {m} : s.pc t = .append m →
      Line s t ({ s with queue := s.queue ++ [(t, m)], appended := s.appended ++ [(t, m)] }.setPc t .check)
  | checkNil : s.pc t = .check → s.queue = [] → Line s t (s.setPc t .idle)
  | checkCons {x q} : s.pc t = .check → s.queue = x :: q → Line s t (s.setPc t .tryLock)
  | lockBusy : s.pc t = .tryLock → s.lock = true → Line s t (s.setPc t .idle)
  | acquire : s.pc t = .tryLock → s.lock = false →
      Line s t ({ s with lock := true, holder := some t }.setPc t .recheck)
  | recheckNil : s.pc t = .recheck → s.queue = [] → Line s t (s.setPc t .release)
  | recheckCons {x q} : s.pc t = .recheck → s.queue = x :: q → Line s t (s.setPc t .pop)
  | popNil : s.pc t = .pop → s.queue = [] → Line s t ({ s with lock := false, holder := none }.setPc t .crash)
  | pop {x q} : s.pc t = .pop → s.queue = x :: q →
      Line s t ({ s with queue := q, hand := some x, nw := 0 }.setPc t .write)
  | writeNone : s.pc t = .write → s.hand = none → Line s t (s.setPc t .crash)
  | writeFail {x} : s.pc t = .write → s.hand = some x → s.dead = true →
      Line s t ({ s with hand := none, nw := 0, lost := s.lost ++ [x],
                         stub := s.stub ++ (pieces x).take s.nw }.setPc t .releaseX)
  | writeMid {x} : s.pc t = .write → s.hand = some x → s.dead = false → s.nw + 1 < nparts x →
      Line s t { s with wire := s.wire ++ [(x, s.nw)], nw := s.nw + 1 }
  | writeLast {x} : s.pc t = .write → s.hand = some x → s.dead = false → ¬ s.nw + 1 < nparts x →
      Line s t ({ s with wire := s.wire ++ [(x, s.nw)], nw := 0, hand := none, out := s.out ++ [x] }.setPc t .release)
  | release : s.pc t = .release → s.lock = true →
      Line s t ({ s with lock := false, holder := none }.setPc t .check)
  | releaseFree : s.pc t = .release → s.lock = false → Line s t (s.setPc t .crash)
  | releaseX : s.pc t = .releaseX → s.lock = true →
      Line s t ({ s with lock := false, holder := none }.setPc t .idle)
  | releaseXFree : s.pc t = .releaseX → s.lock = false → Line s t (s.setPc t .crash)

theorem Line.of_step {s s' : St} {t : Tid} (hs : step s t = some s') : Line s t s' := by
  revert hs
  fun_cases step s t <;> intro hs <;> cases hs
  next hpc _ _ htodo => exact .start hpc htodo
  next hpc => rw [enqueue_eq]; exact .append hpc
  next hpc hq => exact .checkNil hpc hq
  next hpc _ _ hq => exact .checkCons hpc hq
  next hpc hl => exact .lockBusy hpc hl
  next hpc hl => exact .acquire hpc hl
  next hpc hq => exact .recheckNil hpc hq
  next hpc _ _ hq => exact .recheckCons hpc hq
  next hpc hq => exact .popNil hpc hq
  next hpc _ _ hq => exact .pop hpc hq
  next hpc hh => exact .writeNone hpc hh
  next hpc _ hh hd => exact .writeFail hpc hh hd
  next hpc _ hh hd hlt => exact .writeMid hpc hh (Bool.eq_false_iff.2 hd) hlt
  next hpc _ hh hd hlt => exact .writeLast hpc hh (Bool.eq_false_iff.2 hd) hlt
  next hpc hl => exact .release hpc hl
  next hpc hl => exact .releaseFree hpc hl
  next hpc hl => exact .releaseX hpc hl
  next hpc hl => exact .releaseXFree hpc hl

theorem step_eq_none_iff {s : St} {t : Tid} : step s t = none ↔ isDone s t ∨ s.pc t = .crash := by
  unfold isDone
  fun_cases step s t <;> simp [*]

theorem step_none_of_done {s : St} {t : Tid} (h : isDone s t) : step s t = none := step_eq_none_iff.2 (.inl h)

namespace Line
variable {s s' : St} {t : Tid}

theorem frame (h : Line s t s') : s'.wait = s.wait ∧ s'.next = s.next ∧ s'.prog = s.prog ∧ s'.root = s.root := by
  cases h <;> simp only [setPc_wait, setPc_next, setPc_prog, setPc_root, setTodo_wait, setTodo_next, setTodo_prog,
    setTodo_root, and_self]

theorem pc_ne (h : Line s t s') {u : Tid} (hu : u ≠ t) : s'.pc u = s.pc u := by
  cases h
  case writeMid => rfl
  all_goals exact setPc_pc_ne hu

theorem todo_ne (h : Line s t s') {u : Tid} (hu : u ≠ t) : s'.todo u = s.todo u := by
  cases h
  case start => exact if_neg hu
  all_goals rfl

theorem isDone_ne (h : Line s t s') {u : Tid} (hu : u ≠ t) : isDone s' u ↔ isDone s u := by
  unfold isDone; rw [h.pc_ne hu, h.todo_ne hu]

theorem wire (h : Line s t s') : s'.wire = s.wire ∨ s.pc t = .write := by
  cases h
  case writeMid hpc _ _ _ => exact .inr hpc
  case writeLast hpc _ _ _ => exact .inr hpc
  all_goals exact .inl rfl

end Line

/-- `lock_holder`, `cs_iff`: the lock bit is set exactly while the ghost `holder` stands inside the critical section.
`hand_w`, `hand_n`: a datum is in hand, with a stream write still to do, exactly while the holder is at `write`.
`conserve`: nothing appended is lost or duplicated, and the order of the appends is kept.
`contig`: the wire is whole packets, then what a failure cut, then the written part of the packet in hand.
`pop_ok`, `nocrash`: `pop(0)` finds an item, `release()` finds the lock held: no line raises by itself.
`live`: while the transport works a non-empty queue has someone who will look at it: the lock holder (its `finally` leads back to the
`while` test) or a thread in front of that test or of the try-lock.
`alive`: nothing is dropped or cut before the transport fails.  `relx_dead`: only a failed write leads to the exceptional `finally`.
`cut`: the stub is a prefix of one packet: a failed write appends `take nw` of its packet and resets `nw`, no write succeeds afterwards,
so with `nw = 0` every later failure appends nothing. -/
structure Inv (s : St) : Prop where
  lock_holder : s.lock = s.holder.isSome
  cs_iff : ∀ t, inCS (s.pc t) = true ↔ s.holder = some t
  hand_w : ∀ t, s.pc t = .write → ∃ h, s.hand = some h ∧ s.nw < nparts h
  hand_n : s.hand = none ∨ ∃ t, s.holder = some t ∧ s.pc t = .write
  conserve : s.out ++ s.lost ++ s.hand.toList ++ s.queue = s.appended
  contig : s.wire = s.out.flatMap pieces ++ s.stub ++ partialPkt s
  pop_ok : ∀ t, s.pc t = .pop → s.queue ≠ []
  live : s.queue ≠ [] → s.dead = true ∨ s.lock = true ∨ ∃ t, s.pc t = .check ∨ s.pc t = .tryLock
  nocrash : ∀ t, s.pc t ≠ .crash
  alive : s.dead = false → s.lost = [] ∧ s.stub = []
  relx_dead : ∀ t, s.pc t = .releaseX → s.dead = true
  cut : s.stub = [] ∨ (s.nw = 0 ∧ ∃ x k, s.stub = (pieces x).take k)

theorem Inv.init (n : Nat) (prog : Tid → List Msg) : Inv (init n prog) := by
  refine ⟨rfl, ?_, ?_, Or.inl rfl, rfl, rfl, ?_, ?_, ?_, ?_, ?_, Or.inl rfl⟩ <;> simp [SendQ.init, inCS]

theorem Inv.ghost {s : St} (h : Inv s) (started : List Item) (root : Tid → Tid) (todo prog : Tid → List Msg)
    (wait : Tid → Option Tid) (next : Nat) :
    Inv { s with started := started, root := root, todo := todo, prog := prog, wait := wait, next := next } :=
  ⟨h.lock_holder, h.cs_iff, h.hand_w, h.hand_n, h.conserve, h.contig, h.pop_ok, h.live, h.nocrash, h.alive, h.relx_dead, h.cut⟩

theorem Inv.reenter {s : St} (h : Inv s) (p : Tid) (m : Msg) : Inv (reenter s p m) := h.ghost ..

theorem Inv.brk {s : St} (h : Inv s) : Inv (breakTransport s) :=
  ⟨h.lock_holder, h.cs_iff, h.hand_w, h.hand_n, h.conserve, h.contig, h.pop_ok, fun _ => Or.inl rfl, h.nocrash,
   nofun, fun _ _ => rfl, h.cut⟩

/-- what `Inv` asks of the shared state on behalf of one thread `u` standing at `p` -/
structure Inv.At (s : St) (u : Tid) (p : PC) : Prop where
  cs : inCS p = true ↔ s.holder = some u
  hand : p = .write → ∃ h, s.hand = some h ∧ s.nw < nparts h
  queue : p = .pop → s.queue ≠ []
  nocrash : p ≠ .crash
  dead : p = .releaseX → s.dead = true

theorem Inv.at {s : St} (h : Inv s) (u : Tid) : Inv.At s u (s.pc u) :=
  ⟨h.cs_iff u, h.hand_w u, h.pop_ok u, h.nocrash u, h.relx_dead u⟩

theorem Inv.At.outside {s : St} {u : Tid} {p : PC} (hp : inCS p = false) (hc : p ≠ .crash) (hh : s.holder ≠ some u) :
    Inv.At s u p :=
  ⟨iff_of_false (by rw [hp]; nofun) hh, fun e => (by subst e; cases hp), fun e => (by subst e; cases hp), hc,
   fun e => (by subst e; cases hp)⟩

theorem Inv.move {s : St} {t : Tid} {p : PC}
    (lock_holder : s.lock = s.holder.isSome)
    (own : Inv.At s t p) (others : ∀ u, u ≠ t → Inv.At s u (s.pc u))
    (hand_n : s.hand = none ∨ ∃ u, s.holder = some u ∧ (s.setPc t p).pc u = .write)
    (conserve : s.out ++ s.lost ++ s.hand.toList ++ s.queue = s.appended)
    (contig : s.wire = s.out.flatMap pieces ++ s.stub ++ partialPkt s)
    (live : s.queue ≠ [] →
      s.dead = true ∨ s.lock = true ∨ ∃ u, (s.setPc t p).pc u = .check ∨ (s.setPc t p).pc u = .tryLock)
    (alive : s.dead = false → s.lost = [] ∧ s.stub = [])
    (cut : s.stub = [] ∨ (s.nw = 0 ∧ ∃ x k, s.stub = (pieces x).take k)) : Inv (s.setPc t p) := by
  have hat : ∀ u, Inv.At s u ((s.setPc t p).pc u) := fun u => by
    rw [setPc_pc]; split
    next h => exact h ▸ own
    next h => exact others u h
  exact ⟨lock_holder, fun u => (hat u).cs, fun u => (hat u).hand, hand_n, conserve, contig, fun u => (hat u).queue, live,
    fun u => (hat u).nocrash, alive, fun u => (hat u).dead, cut⟩

theorem Inv.outside_of_ne {s : St} (h : Inv s) {u : Tid} (hh : s.holder ≠ some u) : inCS (s.pc u) = false :=
  Bool.eq_false_iff.2 fun hc => hh ((h.cs_iff u).1 hc)

theorem Inv.ne_of_outside {s : St} (h : Inv s) {u : Tid} {p : PC} (hpc : s.pc u = p) (hp : inCS p = false) :
    s.holder ≠ some u :=
  fun e => Bool.eq_false_iff.1 hp (hpc ▸ (h.cs_iff u).2 e)

theorem Inv.holder_of_cs {s : St} (h : Inv s) {t : Tid} {p : PC} (hpc : s.pc t = p) (hcs : inCS p = true) :
    s.holder = some t ∧ s.lock = true := by
  have := (h.cs_iff t).1 (hpc ▸ hcs)
  exact ⟨this, by rw [h.lock_holder, this]; rfl⟩

theorem Inv.cs_unique {s : St} (h : Inv s) {t u : Tid} (ht : s.holder = some t) (hu : inCS (s.pc u) = true) :
    u = t :=
  (Option.some.inj (ht.symm.trans ((h.cs_iff u).1 hu))).symm

theorem Inv.others_outside {s s1 : St} (h : Inv s) {t : Tid} (ht : s.holder = some t)
    (h1 : s1.holder = none ∨ s1.holder = some t) (u : Tid) (hu : u ≠ t) : Inv.At s1 u (s.pc u) :=
  .outside (h.outside_of_ne fun e => hu (Option.some.inj (ht.symm.trans e)).symm) (h.nocrash u)
    (by rcases h1 with e | e <;> rw [e] <;> simp [Ne.symm hu])

theorem Inv.hand_none {s : St} (h : Inv s) {t : Tid} {p : PC} (hpc : s.pc t = p) (hcs : inCS p = true) (hnw : p ≠ .write) :
    s.hand = none :=
  h.hand_n.resolve_right fun ⟨_, hv, hvw⟩ => hnw (hpc ▸ h.cs_unique hv (hpc ▸ hcs) ▸ hvw)

theorem Inv.pcOnly {s : St} {t : Tid} {p0 p : PC} (h : Inv s) (hpc : s.pc t = p0) (own : Inv.At s t p) (hw : p0 ≠ .write)
    (hlive : p0 = .check ∨ p0 = .tryLock → p = .check ∨ p = .tryLock ∨ s.queue = [] ∨ s.lock = true) :
    Inv (s.setPc t p) := by
  subst hpc
  have keep : ∀ v {q}, s.pc v = q → s.pc t ≠ q → (s.setPc t p).pc v = q := fun _ _ hv hne =>
    (setPc_pc_ne (by rintro rfl; exact hne hv)).trans hv
  refine .move h.lock_holder own (fun u _ => h.at u) ?_ h.conserve h.contig (fun hq => ?_) h.alive h.cut
  · exact h.hand_n.imp_right fun ⟨v, hv, hvw⟩ => ⟨v, hv, keep v hvw hw⟩
  · rcases h.live hq with hd | hl | ⟨v, hv⟩
    · exact .inl hd
    · exact .inr (.inl hl)
    · by_cases hvt : v = t
      · subst hvt
        rcases hlive hv with a | a | a | a
        · exact .inr (.inr ⟨v, .inl (setPc_pc_self.trans a)⟩)
        · exact .inr (.inr ⟨v, .inr (setPc_pc_self.trans a)⟩)
        · exact absurd a hq
        · exact .inr (.inl a)
      · exact .inr (.inr ⟨v, hv.imp (setPc_pc_ne hvt).trans (setPc_pc_ne hvt).trans⟩)

theorem Inv.append {s : St} {t : Tid} {m : Msg} (h : Inv s) (hpc : s.pc t = .append m) :
    Inv ({ s with queue := s.queue ++ [(t, m)], appended := s.appended ++ [(t, m)] }.setPc t .check) := by
  refine .move h.lock_holder (.outside rfl nofun (h.ne_of_outside hpc rfl))
    (fun u _ => ⟨(h.at u).cs, (h.at u).hand, fun _ => by simp, (h.at u).nocrash, (h.at u).dead⟩) ?_ ?_ h.contig
    (fun _ => .inr (.inr ⟨t, .inl setPc_pc_self⟩)) h.alive h.cut
  · refine h.hand_n.imp_right fun ⟨v, hv, hvw⟩ => ⟨v, hv, (setPc_pc_ne ?_).trans hvw⟩
    rintro rfl; rw [hpc] at hvw; cases hvw
  · show s.out ++ s.lost ++ s.hand.toList ++ (s.queue ++ [(t, m)]) = s.appended ++ [(t, m)]
    rw [← h.conserve]; simp only [List.append_assoc]

theorem Inv.acquire {s : St} {t : Tid} (h : Inv s) (hpc : s.pc t = .tryLock) (hl : s.lock = false) :
    Inv ({ s with lock := true, holder := some t }.setPc t .recheck) := by
  have hnone : s.holder = none :=
    Option.not_isSome_iff_eq_none.1 (by rw [← h.lock_holder, hl]; nofun)
  refine .move rfl ⟨iff_of_true rfl rfl, nofun, nofun, nofun, nofun⟩ (fun u hu => ?_) (.inl ?_) h.conserve h.contig
    (fun _ => .inr (.inl rfl)) h.alive h.cut
  · exact .outside (h.outside_of_ne (by rw [hnone]; nofun)) (h.nocrash u) (fun e => hu (Option.some.inj e).symm)
  · exact h.hand_n.resolve_right fun ⟨_, hv, _⟩ => by rw [hnone] at hv; cases hv

/-- the `finally`; `hlive`: the queue is looked after by the thread itself if it goes back to the `while` test, and by
nobody if the transport is dead -/
theorem Inv.unlock {s : St} {t : Tid} {p0 p : PC} (h : Inv s) (hpc : s.pc t = p0) (hcs : inCS p0 = true) (hw : p0 ≠ .write)
    (hp : inCS p = false) (hc : p ≠ .crash) (hlive : p = .check ∨ s.dead = true) :
    Inv ({ s with lock := false, holder := none }.setPc t p) := by
  subst hpc
  refine .move rfl (.outside hp hc nofun) (h.others_outside (h.holder_of_cs rfl hcs).1 (.inl rfl)) (.inl (h.hand_none rfl hcs hw))
    h.conserve h.contig (fun _ => ?_) h.alive h.cut
  exact hlive.elim (fun e => .inr (.inr ⟨t, .inl (setPc_pc_self.trans e)⟩)) .inl

theorem Inv.release {s : St} {t : Tid} (h : Inv s) (hpc : s.pc t = .release) :
    Inv ({ s with lock := false, holder := none }.setPc t .check) :=
  h.unlock hpc rfl nofun rfl nofun (.inl rfl)

theorem Inv.line {s s' : St} {t : Tid} (h : Inv s) (hl : Line s t s') : Inv s' := by
  have outside : ∀ {p}, s.pc t = p → inCS p = false → ∀ {q}, inCS q = false → q ≠ .crash → Inv.At s t q :=
    fun e hp _ hq hc => .outside hq hc (h.ne_of_outside e hp)
  -- the lines before `acquire` are `pcOnly` moves outside the critical section; from `recheck` on `t` holds the lock, the
  -- other threads are `others_outside`, and what remains is the bookkeeping of `conserve` and `contig`
  cases hl with
  | @start m _ hpc _ =>
    exact (h.pcOnly (p := .append m) hpc (outside hpc rfl rfl nofun) nofun nofun).ghost ..
  | append hpc => exact h.append hpc
  | checkNil hpc hq => exact h.pcOnly hpc (outside hpc rfl rfl nofun) nofun fun _ => .inr (.inr (.inl hq))
  | checkCons hpc _ => exact h.pcOnly hpc (outside hpc rfl rfl nofun) nofun fun _ => .inr (.inl rfl)
  | lockBusy hpc hl => exact h.pcOnly hpc (outside hpc rfl rfl nofun) nofun fun _ => .inr (.inr (.inr hl))
  | acquire hpc hl => exact h.acquire hpc hl
  | recheckNil hpc _ =>
    exact h.pcOnly hpc ⟨iff_of_true rfl (h.holder_of_cs hpc rfl).1, nofun, nofun, nofun, nofun⟩ nofun nofun
  | recheckCons hpc hq =>
    exact h.pcOnly hpc ⟨iff_of_true rfl (h.holder_of_cs hpc rfl).1, nofun, fun _ => hq ▸ List.cons_ne_nil _ _, nofun, nofun⟩ nofun
      nofun
  | popNil hpc hq => exact absurd hq (h.pop_ok t hpc)
  | @pop x q hpc hq =>
    obtain ⟨ht, hlk⟩ := h.holder_of_cs hpc rfl
    have hnone := h.hand_none hpc rfl nofun
    refine .move h.lock_holder ⟨iff_of_true rfl ht, fun _ => ⟨x, rfl, nparts_pos x⟩, nofun, nofun, nofun⟩
      (h.others_outside ht (.inr ht)) (.inr ⟨t, ht, setPc_pc_self⟩) ?_ ?_ (fun _ => .inr (.inl hlk)) h.alive
      (h.cut.imp_right fun c => ⟨rfl, c.2⟩)
    · simpa [hnone, hq] using h.conserve
    · simpa [partialPkt, hnone] using h.contig
  | writeNone hpc hh => obtain ⟨x, hx, _⟩ := h.hand_w t hpc; rw [hh] at hx; cases hx
  | @writeFail x hpc hh hd =>
    obtain ⟨ht, hlk⟩ := h.holder_of_cs hpc rfl
    refine .move h.lock_holder ⟨iff_of_true rfl ht, nofun, nofun, nofun, fun _ => hd⟩
      (h.others_outside ht (.inr ht)) (.inl rfl) ?_ ?_ (fun _ => .inl hd) (fun hd' => nomatch hd.symm.trans hd')
      (.inr ⟨rfl, ?_⟩)
    · simpa [hh] using h.conserve
    · simpa [partialPkt, hh] using h.contig
    · rcases h.cut with hc | ⟨hnw, y, k, hc⟩
      · exact ⟨x, s.nw, by simp [hc]⟩
      · exact ⟨y, k, by simp [hc, hnw]⟩
  | @writeMid x hpc hh hd hlt =>
    refine ⟨h.lock_holder, h.cs_iff, fun _ _ => ⟨x, hh, hlt⟩, h.hand_n, h.conserve, ?_, h.pop_ok, h.live, h.nocrash, h.alive,
      h.relx_dead, .inl (h.alive hd).2⟩
    have := h.contig
    simp only [partialPkt, hh] at this ⊢
    rw [this, pieces_take_succ x s.nw (by omega), List.append_assoc]
  | @writeLast x hpc hh hd hlt =>
    obtain ⟨ht, hlk⟩ := h.holder_of_cs hpc rfl
    obtain ⟨hlost, hstub⟩ := h.alive hd
    have hnw : s.nw + 1 = nparts x := by
      obtain ⟨y, hy, hlt'⟩ := h.hand_w t hpc
      rw [hh] at hy; cases hy; omega
    refine .move h.lock_holder ⟨iff_of_true rfl ht, nofun, nofun, nofun, nofun⟩
      (h.others_outside ht (.inr ht)) (.inl rfl) ?_ ?_ (fun _ => .inr (.inl hlk)) h.alive (.inl hstub)
    · simpa [hh, hlost] using h.conserve
    · have hx : (pieces x).take s.nw ++ [(x, s.nw)] = pieces x := by
        rw [← pieces_take_succ x s.nw (by omega), hnw, pieces_take_all]
      rw [h.contig]
      simp [partialPkt, hh, hstub, hx]
  | release hpc _ => exact h.release hpc
  | releaseFree hpc hl => rw [(h.holder_of_cs hpc rfl).2] at hl; cases hl
  | releaseX hpc _ => exact h.unlock hpc rfl nofun rfl nofun (.inr (h.relx_dead t hpc))
  | releaseXFree hpc hl => rw [(h.holder_of_cs hpc rfl).2] at hl; cases hl

theorem Inv.step {s s' : St} {t : Tid} (h : Inv s) (hs : step s t = some s') : Inv s' := h.line (.of_step hs)

/-- no line of `_send` blocks -/
theorem Inv.enabled {s : St} (h : Inv s) {t : Tid} (hd : ¬ isDone s t) : ∃ s', SendQ.step s t = some s' :=
  Option.ne_none_iff_exists'.1 fun e => (step_eq_none_iff.1 e).elim hd (h.nocrash t)

theorem issued_snoc {s s' : St} {t u : Tid} {m : Msg} (ha : s'.appended = s.appended ++ [(t, m)]) :
    issued s' u = issued s u ++ (if t = u then [m] else []) := by
  unfold issued; rw [ha]
  by_cases h : t = u <;> simp [List.filter_append, h]

/-- all that `Nest` and `OsInv` need to know of a line of `t`: it starts a call, it does the call's append, or it does neither
(`todo` and both ghost lists stay, and `t` is not at an append before or after) -/
inductive StepKind (s s' : St) (t : Tid) : Prop where
  | start (m : Msg) : s.pc t = .idle → s'.pc t = .append m → s.todo t = m :: s'.todo t →
      s'.started = s.started ++ [(t, m)] → s'.appended = s.appended → StepKind s s' t
  | append (m : Msg) : s.pc t = .append m → s'.pc t = .check → s'.todo t = s.todo t →
      s'.started = s.started → s'.appended = s.appended ++ [(t, m)] → StepKind s s' t
  | other : (∀ m, s.pc t ≠ .append m) → (∀ m, s'.pc t ≠ .append m) → s'.todo t = s.todo t →
      s'.started = s.started → s'.appended = s.appended → StepKind s s' t

theorem Line.kind {s s' : St} {t : Tid} (h : Line s t s') : StepKind s s' t := by
  cases h with
  | @start m _ hpc htodo => exact .start m hpc setPc_pc_self (htodo.trans (congrArg _ (if_pos rfl).symm)) rfl rfl
  | @append m hpc => exact .append m hpc setPc_pc_self rfl rfl rfl
  | _ hpc => exact .other (by simp [hpc]) (by simp [hpc]) rfl rfl rfl

theorem pending_of_append {s : St} {t : Tid} {m : Msg} (h : s.pc t = .append m) : pending s t = m :: s.todo t := by
  simp only [pending, h]

theorem pending_eq_todo {s : St} {t : Tid} (h : ∀ m, s.pc t ≠ .append m) : pending s t = s.todo t := by
  unfold pending
  split
  next m hm => exact absurd hm (h m)
  · rfl

theorem StepKind.pending {s s' : St} {t : Tid} (k : StepKind s s' t) :
    (s'.appended = s.appended ∧ pending s' t = pending s t)
    ∨ (∃ m, s'.appended = s.appended ++ [(t, m)] ∧ pending s t = m :: pending s' t) := by
  cases k with
  | start m h1 h2 h3 h4 h5 => exact .inl ⟨h5, by rw [pending_of_append h2, pending_eq_todo (by rw [h1]; nofun), h3]⟩
  | append m h1 h2 h3 h4 h5 => exact .inr ⟨m, h5, by rw [pending_of_append h1, pending_eq_todo (by rw [h2]; nofun), h3]⟩
  | other h1 h2 h3 h4 h5 => exact .inl ⟨h5, by rw [pending_eq_todo h1, pending_eq_todo h2, h3]⟩

/-- `order` is the program-order statement, and `wait_lt` is what makes a chain of nested sends end (`exists_enabled`).  The other
three say that the tid `next`, which `reenter` gives to the new activation, is unused so far: idle and waiting for nobody (`fresh`),
in neither ghost list (`tags`, `stags`). -/
structure Nest (s : St) : Prop where
  wait_lt : ∀ p c, s.wait p = some c → p < c ∧ c < s.next
  fresh : ∀ t, s.next ≤ t → s.pc t = .idle ∧ s.todo t = [] ∧ s.wait t = none
  tags : ∀ it ∈ s.appended, it.1 < s.next
  stags : ∀ it ∈ s.started, it.1 < s.next
  order : ∀ t, issued s t ++ pending s t = s.prog t

theorem Nest.init (n : Nat) (prog : Tid → List Msg) : Nest (init n prog) := by
  refine ⟨?_, ?_, ?_, ?_, ?_⟩
  · intro p c h; simp [SendQ.init] at h
  · intro t ht
    have : ¬ t < n := by simpa [SendQ.init] using ht
    simp [SendQ.init, this]
  · intro it h; simp [SendQ.init] at h
  · intro it h; simp [SendQ.init] at h
  · intro t; simp [SendQ.init, issued, pending]

theorem issued_eq_nil_of_tags {s : St} (h : ∀ it ∈ s.appended, it.1 < s.next) {t : Tid} (ht : s.next ≤ t) :
    issued s t = [] := by
  unfold issued
  rw [List.map_eq_nil_iff, List.filter_eq_nil_iff]
  intro it hit
  have := h it hit
  simp; omega

theorem Nest.step {s s' : St} {t : Tid} (h : Nest s) (hs : step s t = some s') : Nest s' := by
  have ht : t < s.next := Nat.lt_of_not_le fun hn => by
    have hf := h.fresh t hn
    rw [step_none_of_done ⟨hf.1, hf.2.1⟩] at hs
    cases hs
  have hl := Line.of_step hs
  obtain ⟨hw, hn, hp, _⟩ := hl.frame
  have hk := hl.kind
  have happ := hk.pending
  have snoc : ∀ {l : List Item} {m}, (∀ it ∈ l, it.1 < s.next) → ∀ it ∈ l ++ [(t, m)], it.1 < s.next :=
    fun hl => List.forall_mem_append.2 ⟨hl, List.forall_mem_singleton.2 ht⟩
  refine ⟨?_, ?_, ?_, ?_, ?_⟩
  · intro p c hpc; rw [hw] at hpc; rw [hn]; exact h.wait_lt p c hpc
  · intro u hu
    rw [hn] at hu
    have hne : u ≠ t := by omega
    rw [hl.pc_ne hne, hl.todo_ne hne, hw]
    exact h.fresh u hu
  · rw [hn]
    rcases happ with ⟨ha, _⟩ | ⟨m, ha, _⟩ <;> rw [ha]
    · exact h.tags
    · exact snoc h.tags
  · rw [hn]
    cases hk with
    | start m _ _ _ h4 _ => rw [h4]; exact snoc h.stags
    | append m _ _ _ h4 _ => rw [h4]; exact h.stags
    | other _ _ _ h4 _ => rw [h4]; exact h.stags
  · intro u
    rw [hp, ← h.order u]
    by_cases hu : u = t
    · subst hu
      rcases happ with ⟨ha, hpe⟩ | ⟨m, ha, hpe⟩
      · rw [hpe]; unfold issued; rw [ha]
      · rw [hpe, issued_snoc ha, if_pos rfl, List.append_assoc]; rfl
    · have hpe : pending s' u = pending s u := by unfold pending; rw [hl.pc_ne hu, hl.todo_ne hu]
      rw [hpe]
      rcases happ with ⟨ha, _⟩ | ⟨m, ha, _⟩
      · unfold issued; rw [ha]
      · rw [issued_snoc ha, if_neg (Ne.symm hu), List.append_nil]

theorem isDone_reenter {s : St} {p : Tid} {m : Msg} {u : Tid} (hu : u ≠ s.next) :
    isDone (reenter s p m) u ↔ isDone s u := by
  show _ ∧ (if u = s.next then [m] else s.todo u) = [] ↔ _
  rw [if_neg hu]; rfl

theorem not_isDone_reenter {s : St} {p : Tid} {m : Msg} : ¬ isDone (reenter s p m) s.next :=
  fun h => by have := h.2; simp [SendQ.reenter] at this

theorem blocked_reenter {s : St} (hN : Nest s) {p : Tid} {m : Msg} {w : Tid} (hw : w ≠ p) :
    blocked (reenter s p m) w ↔ blocked s w := by
  unfold blocked
  rw [show (reenter s p m).wait w = s.wait w from if_neg hw]
  exact exists_congr fun c => and_congr_right fun hc => not_congr (isDone_reenter (Nat.ne_of_lt (hN.wait_lt w c hc).2))

theorem blocked_reenter_parent {s : St} {p : Tid} {m : Msg} : blocked (reenter s p m) p :=
  ⟨s.next, if_pos rfl, not_isDone_reenter⟩

theorem not_blocked_reenter_child {s : St} (hN : Nest s) {p : Tid} (hp : p < s.next) {m : Msg} :
    ¬ blocked (reenter s p m) s.next := by
  rintro ⟨c, hc, _⟩
  rw [show (reenter s p m).wait s.next = s.wait s.next from if_neg (Nat.ne_of_gt hp),
    (hN.fresh s.next (Nat.le_refl _)).2.2] at hc
  cases hc

/-- the activation `t` might wait for is younger (`wait_lt`), hence another thread -/
theorem not_blocked_step {s s' : St} {t : Tid} (hN : Nest s) (hb : ¬ blocked s t) (hs : step s t = some s') :
    ¬ blocked s' t := by
  have hl := Line.of_step hs
  rintro ⟨c, hc, hcd⟩
  rw [hl.frame.1] at hc
  exact hb ⟨c, hc, fun hd => hcd ((hl.isDone_ne (Nat.ne_of_gt (hN.wait_lt t c hc).1)).2 hd)⟩

theorem wait_reenter {s : St} (hN : Nest s) {p q c : Tid} {m : Msg} (h : (reenter s p m).wait q = some c) :
    (q = p ∧ c = s.next) ∨ (s.wait q = some c ∧ q < c ∧ c < s.next) := by
  replace h : (if q = p then some s.next else s.wait q) = some c := h
  split at h
  next hq => exact .inl ⟨hq, (Option.some.inj h).symm⟩
  next => exact .inr ⟨h, hN.wait_lt q c h⟩

theorem Nest.reenter {s : St} {p : Tid} (h : Nest s) (hp : p < s.next) (m : Msg) : Nest (reenter s p m) := by
  have hf := h.fresh s.next (Nat.le_refl _)
  refine ⟨?_, ?_, ?_, ?_, ?_⟩
  · intro q c hqc
    rcases wait_reenter h hqc with ⟨rfl, rfl⟩ | ⟨_, h1, h2⟩
    · exact ⟨hp, Nat.lt_succ_self _⟩
    · exact ⟨h1, Nat.lt_succ_of_lt h2⟩
  · intro u hu
    replace hu : s.next + 1 ≤ u := hu
    show s.pc u = .idle ∧ (if u = s.next then [m] else s.todo u) = [] ∧ (if u = p then some s.next else s.wait u) = none
    rw [if_neg (by omega), if_neg (by omega)]
    exact h.fresh u (by omega)
  · exact fun it hit => Nat.lt_succ_of_lt (h.tags it hit)
  · exact fun it hit => Nat.lt_succ_of_lt (h.stags it hit)
  · intro u
    by_cases hu : u = s.next
    · subst hu
      have hi : issued (SendQ.reenter s p m) s.next = [] := issued_eq_nil_of_tags (s := s) h.tags (Nat.le_refl _)
      rw [hi]
      simp [pending, SendQ.reenter, hf.1]
    · have := h.order u
      simp only [issued, pending, SendQ.reenter, hu, if_false] at this ⊢
      exact this

theorem Nest.brk {s : St} (h : Nest s) : Nest (breakTransport s) :=
  ⟨h.wait_lt, h.fresh, h.tags, h.stags, h.order⟩

theorem reachable_inv {n : Nat} {prog : Tid → List Msg} {s : St} (h : Reachable n prog s) : Inv s ∧ Nest s := by
  induction h with
  | init => exact ⟨Inv.init n prog, Nest.init n prog⟩
  | step t _ _ hs ih => exact ⟨ih.1.step hs, ih.2.step hs⟩
  | reenter p m _ _ hp ih => exact ⟨ih.1.reenter p m, ih.2.reenter hp m⟩
  | brk _ ih => exact ⟨ih.1.brk, ih.2.brk⟩

theorem ReachableR.toReachable {n : Nat} {prog : Tid → List Msg} {s : St} (h : ReachableR n prog s) :
    Reachable n prog s := by
  induction h with
  | init => exact .init
  | step t _ hb hs ih => exact .step t ih hb hs
  | reenter p m _ hb hp _ ih => exact .reenter p m ih hb hp
  | brk _ ih => exact .brk ih

theorem reachable_prog {n : Nat} {prog : Tid → List Msg} {s : St} (h : Reachable n prog s) :
    n ≤ s.next ∧ ∀ t, t < n → s.prog t = prog t := by
  induction h with
  | init => exact ⟨Nat.le_refl _, fun t ht => by simp [SendQ.init, ht]⟩
  | step t _ _ hs ih =>
    obtain ⟨_, hn, hp, _⟩ := (Line.of_step hs).frame
    rw [hn, hp]; exact ih
  | reenter p m _ _ _ ih =>
    refine ⟨Nat.le_succ_of_le ih.1, fun t ht => ?_⟩
    exact (if_neg (Nat.ne_of_lt (Nat.lt_of_lt_of_le ht ih.1))).trans (ih.2 t ht)
  | brk _ ih => exact ih

/-- the innermost activation on a thread's chain of nested sends can always execute its next line -/
theorem exists_enabled {s : St} (hI : Inv s) (hN : Nest s) :
    ∀ (k : Nat) (t : Tid), s.next - t ≤ k → ¬ isDone s t →
      ∃ u s', t ≤ u ∧ ¬ blocked s u ∧ step s u = some s' := by
  intro k
  induction k with
  | zero =>
    intro t hk hd
    have := hN.fresh t (by omega)
    exact absurd ⟨this.1, this.2.1⟩ hd
  | succ k ih =>
    intro t hk hd
    by_cases hb : blocked s t
    · obtain ⟨c, hc, hcd⟩ := hb
      have := hN.wait_lt t c hc
      obtain ⟨u, s', hu, r⟩ := ih c (by omega) hcd
      exact ⟨u, s', by omega, r⟩
    · obtain ⟨s', hs⟩ := hI.enabled hd
      exact ⟨t, s', Nat.le_refl _, hb, hs⟩

/-! ### the executable scheduler: `exec` is what the driver runs, `execAll` what the witnesses of C12 evaluate -/

theorem isDoneB_iff (s : St) (t : Tid) : isDoneB s t = true ↔ isDone s t := by
  simp [isDoneB, isDone, List.isEmpty_iff]

theorem blockedB_iff (s : St) (p : Tid) : blockedB s p = true ↔ blocked s p := by
  unfold blockedB blocked
  cases hw : s.wait p with
  | none => simp
  | some c =>
    have := isDoneB_iff s c
    cases hd : isDoneB s c <;> simp_all

theorem reachable_exec {n : Nat} {prog : Tid → List Msg} {s s' : St} (h : Reachable n prog s) (e : Ev)
    (he : exec s e = some s') : Reachable n prog s' := by
  cases e with
  | run t =>
    simp only [exec] at he
    split at he
    · cases he
    next hb => exact .step t h (mt (blockedB_iff s t).2 hb) he
  | reent p m =>
    simp only [exec] at he
    split at he
    · cases he
    next hb =>
      split at he
      next hp => cases he; exact .reenter p m h (mt (blockedB_iff s p).2 hb) hp
      · cases he
  | brk => simp only [exec] at he; cases he; exact .brk h

theorem reachable_execAll {n : Nat} {prog : Tid → List Msg} (l : List Ev) :
    ∀ {s s' : St}, Reachable n prog s → execAll s l = some s' → Reachable n prog s' := by
  induction l with
  | nil => intro s s' h he; cases he; exact h
  | cons e l ih =>
    intro s s' h he
    simp only [execAll] at he
    split at he
    · cases he
    next s1 h1 => exact ih (reachable_exec h e h1) he

theorem reachable_of_execAll {n : Nat} {prog : Tid → List Msg} (l : List Ev) (p : St → Prop) [DecidablePred p]
    (h : (execAll (init n prog) l).any (fun s => decide (p s)) = true) : ∃ s, Reachable n prog s ∧ p s := by
  obtain ⟨s, hs, hp⟩ := (Option.any_eq_true _ _).1 h
  exact ⟨s, reachable_execAll l .init hs, of_decide_eq_true hp⟩

end Rpyc.Conc.SendQ
