import RpycModel.Conc.SendQ.Lemmas
/-
Order of the messages of one OS thread (a thread together with the nested activations that run on it),
when nested sends start only past the parent's append (`ReachableR`): the order in which the thread's
messages are appended — hence transmitted — is the order in which its `_send` calls started.
-/
namespace Rpyc.Conc.SendQ

theorem onThread_append (s : St) (r : Tid) (l : List Item) (x : Item) :
    onThread s r (l ++ [x]) = onThread s r l ++ (if s.root x.1 = r then [x] else []) := by
  unfold onThread
  by_cases h : s.root x.1 = r <;> simp [List.filter_append, h]

theorem onThread_congr {s s' : St} (h : s'.root = s.root) (r : Tid) (l : List Item) :
    onThread s' r l = onThread s r l := by
  unfold onThread; rw [h]

/-- one OS thread has at most one runnable activation; only it can be between call start and append -/
structure OsInv (s : St) : Prop where
  uniq : ∀ u v, s.root u = s.root v → ¬ isDone s u → ¬ isDone s v → ¬ blocked s u → ¬ blocked s v → u = v
  app_unblocked : ∀ v m, s.pc v = .append m → ¬ blocked s v
  wait_inj : ∀ q q' c, s.wait q = some c → s.wait q' = some c → q = q'
  wait_root : ∀ q c, s.wait q = some c → s.root c = s.root q
  one_pending : ∀ u m, s.pc u = .append m →
    onThread s (s.root u) s.started = onThread s (s.root u) s.appended ++ [(u, m)]
  none_pending : ∀ r, (∀ u, s.root u = r → ∀ m, s.pc u ≠ .append m) → onThread s r s.started = onThread s r s.appended

theorem OsInv.init (n : Nat) (prog : Tid → List Msg) : OsInv (init n prog) := by
  refine ⟨?_, ?_, ?_, ?_, ?_, ?_⟩
  · intro u v h _ _ _ _; simpa [SendQ.init] using h
  · intro v m h; simp [SendQ.init] at h
  · intro q q' c h; simp [SendQ.init] at h
  · intro q c h; simp [SendQ.init] at h
  · intro u m h; simp [SendQ.init] at h
  · intro r _; simp [SendQ.init, onThread]

theorem OsInv.brk {s : St} (h : OsInv s) : OsInv (breakTransport s) :=
  ⟨h.uniq, h.app_unblocked, h.wait_inj, h.wait_root, h.one_pending, h.none_pending⟩

theorem OsInv.step {s s' : St} {t : Tid} (h : OsInv s) (hb : ¬ blocked s t) (hs : step s t = some s') :
    OsInv s' := by
  have hl := Line.of_step hs
  obtain ⟨hw, _, _, hr⟩ := hl.frame
  have hk := hl.kind
  have hnd : ¬ isDone s t := fun hd => by rw [step_none_of_done hd] at hs; cases hs
  have hmono : ∀ u, isDone s u → isDone s' u := fun u hd =>
    (hl.isDone_ne fun hu => hnd (hu ▸ hd)).2 hd
  have hblk : ∀ w, blocked s' w → blocked s w := by
    rintro w ⟨c, hc, hcd⟩
    exact ⟨c, hw ▸ hc, mt (hmono c) hcd⟩
  -- a thread is released only by the return of the activation it waits for, which must be `t`
  have hunb : ∀ w, ¬ blocked s' w → ¬ blocked s w ∨ (s.wait w = some t ∧ isDone s' t) := by
    intro w hnb
    by_cases hbw : blocked s w
    · obtain ⟨c, hc, hcd⟩ := hbw
      have hd' : isDone s' c := Classical.not_not.1 fun hnd' => hnb ⟨c, hw ▸ hc, hnd'⟩
      have hct : c = t := Classical.not_not.1 fun hne => hcd ((hl.isDone_ne hne).1 hd')
      exact .inr ⟨hct ▸ hc, hct ▸ hd'⟩
    · exact .inl hbw
  have noapp : ∀ u, s.root u = s.root t → u ≠ t → ∀ m, s.pc u ≠ .append m := by
    intro u hru hut m hpc
    have hlive : ¬ isDone s u := fun hd => by rw [hd.1] at hpc; cases hpc
    exact hut (h.uniq u t hru hlive hnd (h.app_unblocked u m hpc) hb)
  refine ⟨?_, ?_, ?_, ?_, ?_, ?_⟩
  · -- `u` could run before the line, `v` was released by it: then `u` is on `t`'s OS thread, so `u = t`, which has returned
    have key : ∀ u v, s.root u = s.root v → ¬ isDone s' u → ¬ blocked s u → s.wait v = some t → isDone s' t → False :=
      fun u v hroot hlu hu0 hwv hdt =>
        hlu (h.uniq u t (hroot.trans (h.wait_root v t hwv).symm) (mt (hmono u) hlu) hnd hu0 hb ▸ hdt)
    intro u v hroot hlu hlv hbu hbv
    rw [hr] at hroot
    rcases hunb u hbu with hu0 | ⟨hwu, hdt⟩ <;> rcases hunb v hbv with hv0 | ⟨hwv, hdt'⟩
    · exact h.uniq u v hroot (mt (hmono u) hlu) (mt (hmono v) hlv) hu0 hv0
    · exact (key u v hroot hlu hu0 hwv hdt').elim
    · exact (key v u hroot.symm hlv hv0 hwu hdt).elim
    · exact h.wait_inj u v t hwu hwv
  · intro v m hpc hbv
    have hbv0 := hblk v hbv
    by_cases hv : v = t
    · subst hv; exact hb hbv0
    · rw [hl.pc_ne hv] at hpc
      exact h.app_unblocked v m hpc hbv0
  · intro q q' c hq hq'
    rw [hw] at hq hq'
    exact h.wait_inj q q' c hq hq'
  · intro q c hq
    rw [hw] at hq; rw [hr]
    exact h.wait_root q c hq
  · intro u m' hpc'
    -- another thread at `append` was there before, and it is not on `t`'s OS thread
    have old : u ≠ t → s.pc u = .append m' ∧ s.root t ≠ s.root u := fun hu =>
      have hpc : s.pc u = .append m' := by rw [← hl.pc_ne hu]; exact hpc'
      ⟨hpc, fun e => noapp u e.symm hu m' hpc⟩
    rw [hr, onThread_congr hr, onThread_congr hr]
    cases hk with
    | start m h1 h2 h3 h4 h5 =>
      rw [h4, h5, onThread_append]
      by_cases hu : u = t
      · subst hu
        rw [h2] at hpc'; cases hpc'
        rw [if_pos rfl, h.none_pending (s.root u)]
        intro v hv m''
        by_cases hvu : v = u
        · subst hvu; rw [h1]; nofun
        · exact noapp v hv hvu m''
      · rw [if_neg (old hu).2, List.append_nil]
        exact h.one_pending u m' (old hu).1
    | append m h1 h2 h3 h4 h5 =>
      have hu : u ≠ t := by rintro rfl; rw [h2] at hpc'; cases hpc'
      rw [h4, h5, onThread_append, if_neg (old hu).2, List.append_nil]
      exact h.one_pending u m' (old hu).1
    | other h1 h2 h3 h4 h5 =>
      rw [h4, h5]
      exact h.one_pending u m' (old fun e => h2 m' (e ▸ hpc')).1
  · intro r hno
    -- if `t` is not at `append` before the line, or is on another OS thread, `r` had nobody at `append` before
    have old : s.root t ≠ r ∨ (∀ m, s.pc t ≠ .append m) → onThread s r s.started = onThread s r s.appended := fun ht =>
      h.none_pending r fun u hu m' => by
        by_cases hut : u = t
        · subst hut; exact ht.elim (absurd hu) (· m')
        · rw [← hl.pc_ne hut]; exact hno u (hr ▸ hu) m'
    rw [onThread_congr hr, onThread_congr hr]
    cases hk with
    | start m h1 h2 h3 h4 h5 =>
      have hrt : s.root t ≠ r := fun e => hno t (hr ▸ e) m h2
      rw [h4, h5, onThread_append, if_neg hrt, List.append_nil]
      exact old (.inl hrt)
    | append m h1 h2 h3 h4 h5 =>
      rw [h4, h5, onThread_append]
      by_cases hrt : s.root t = r
      · subst hrt
        rw [if_pos rfl]
        exact h.one_pending t m h1
      · rw [if_neg hrt, List.append_nil]
        exact old (.inl hrt)
    | other h1 h2 h3 h4 h5 =>
      rw [h4, h5]
      exact old (.inr h1)

theorem onThread_reenter {s : St} (p : Tid) (m : Msg) (r : Tid) (l : List Item) (hl : ∀ it ∈ l, it.1 < s.next) :
    onThread (reenter s p m) r l = onThread s r l := by
  unfold onThread
  apply List.filter_congr
  intro it hit
  have : it.1 ≠ s.next := Nat.ne_of_lt (hl it hit)
  simp [SendQ.reenter, this]

theorem OsInv.reenter {s : St} {p : Tid} (h : OsInv s) (hN : Nest s) (hb : ¬ blocked s p) (hp : p < s.next)
    (hpa : pastAppend (s.pc p) = true) (m : Msg) : OsInv (reenter s p m) := by
  have hf := hN.fresh s.next (Nat.le_refl _)
  have hlive : ¬ isDone s p := fun hd => by rw [hd.1] at hpa; cases hpa
  have hbp : blocked (SendQ.reenter s p m) p := blocked_reenter_parent
  have hroot : ∀ u, u ≠ s.next → (SendQ.reenter s p m).root u = s.root u := fun _ hu => if_neg hu
  have hrootc : (SendQ.reenter s p m).root s.next = s.root p := if_pos rfl
  refine ⟨?_, ?_, ?_, ?_, ?_, ?_⟩
  · -- an old activation that can still run is not on `p`'s OS thread: that would be `p`, which is suspended now
    have old : ∀ v, v ≠ s.next → ¬ isDone (SendQ.reenter s p m) v → ¬ blocked (SendQ.reenter s p m) v →
        v ≠ p ∧ ¬ isDone s v ∧ ¬ blocked s v := fun v hvc hlv hbv =>
      have hvp : v ≠ p := by rintro rfl; exact hbv hbp
      ⟨hvp, mt (isDone_reenter hvc).2 hlv, mt (blocked_reenter hN hvp).2 hbv⟩
    intro u v hr hlu hlv hbu hbv
    by_cases huc : u = s.next <;> by_cases hvc : v = s.next
    · rw [huc, hvc]
    · obtain ⟨hvp, hlv, hbv⟩ := old v hvc hlv hbv
      rw [huc, hrootc, hroot v hvc] at hr
      exact absurd (h.uniq v p hr.symm hlv hlive hbv hb) hvp
    · obtain ⟨hup, hlu, hbu⟩ := old u huc hlu hbu
      rw [hvc, hrootc, hroot u huc] at hr
      exact absurd (h.uniq u p hr hlu hlive hbu hb) hup
    · rw [hroot u huc, hroot v hvc] at hr
      exact h.uniq u v hr (old u huc hlu hbu).2.1 (old v hvc hlv hbv).2.1 (old u huc hlu hbu).2.2 (old v hvc hlv hbv).2.2
  · intro v m' hpc hbv
    have hpc0 : s.pc v = .append m' := hpc
    have hvp : v ≠ p := by rintro rfl; rw [hpc0] at hpa; cases hpa
    exact h.app_unblocked v m' hpc0 ((blocked_reenter hN hvp).1 hbv)
  · intro q q' c hq hq'
    rcases wait_reenter hN hq with ⟨hqp, hc⟩ | ⟨hq, _, hlt⟩ <;> rcases wait_reenter hN hq' with ⟨hqp', hc'⟩ | ⟨hq', _, hlt'⟩
    · rw [hqp, hqp']
    · exact absurd (hc ▸ hlt') (Nat.lt_irrefl _)
    · exact absurd (hc' ▸ hlt) (Nat.lt_irrefl _)
    · exact h.wait_inj q q' c hq hq'
  · intro q c hq
    rcases wait_reenter hN hq with ⟨rfl, rfl⟩ | ⟨hq, h1, h2⟩
    · rw [hrootc, hroot q (Nat.ne_of_lt hp)]
    · rw [hroot c (Nat.ne_of_lt h2), hroot q (Nat.ne_of_lt (Nat.lt_trans h1 h2))]
      exact h.wait_root q c hq
  · intro u m' hpc
    have hpc0 : s.pc u = .append m' := hpc
    have huc : u ≠ s.next := by rintro rfl; rw [hf.1] at hpc0; cases hpc0
    rw [hroot u huc]
    show onThread _ _ s.started = onThread _ _ s.appended ++ _
    rw [onThread_reenter p m _ _ hN.stags, onThread_reenter p m _ _ hN.tags]
    exact h.one_pending u m' hpc0
  · intro r hno
    show onThread _ _ s.started = onThread _ _ s.appended
    rw [onThread_reenter p m _ _ hN.stags, onThread_reenter p m _ _ hN.tags]
    apply h.none_pending r
    intro u hu m'
    by_cases huc : u = s.next
    · subst huc; rw [hf.1]; simp
    · exact hno u (by rw [hroot u huc]; exact hu) m'

theorem reachableR_os {n : Nat} {prog : Tid → List Msg} {s : St} (h : ReachableR n prog s) : OsInv s := by
  induction h with
  | init => exact OsInv.init n prog
  | step t _ hb hs ih => exact ih.step hb hs
  | reenter p m hprev hb hp hpa ih => exact ih.reenter (reachable_inv hprev.toReachable).2 hb hp hpa m
  | brk _ ih => exact ih.brk

end Rpyc.Conc.SendQ
