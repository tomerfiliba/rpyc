import RpycModel.Conc.SendQ.Lemmas
/-
Progress of an undisturbed sender (obstruction-freedom with an explicit bound): a decreasing measure over
the lines of `_send`.  Covers in particular a nested (re-entrant) activation, which by construction runs
while its parent stands still.  Also the lines from the append to the try-lock one by one, under arbitrary
interference (`Others`), for the wait-freedom of a sender that does not get the lock.
-/
namespace Rpyc.Conc.SendQ

/-- the part of `soloFuel` that depends on where the thread stands (`empty`: is the queue empty; `nw`: stream writes
already done for the datum in hand).  A weight is one more than the largest weight the next line can lead to, counted
back from `idle = 0`.  With the queue empty these are the lines left: `check 1`; `release 2`; `recheck 3` and `tryLock 4`
(the re-check finds nothing and runs the `finally`); `write 5 - nw` (at most three stream writes, then `release`).
With items queued the loop goes round again: `pop 1, recheck 2, tryLock 3, check 4, release 5, write 8 - nw`, the rest
of the iteration (`write` … `check`) being paid for by the 9 that the popped item gives up in `soloFuel`.
`append 14` = the 9 the new item adds to the queue + `check 4` + 1. -/
def soloPc (p : PC) (empty : Bool) (nw : Nat) : Nat :=
  match p, empty with
  | .idle, _ => 0
  | .append _, _ => 14
  | .check, true => 1
  | .check, false => 4
  | .tryLock, true => 4
  | .tryLock, false => 3
  | .recheck, true => 3
  | .recheck, false => 2
  | .pop, _ => 1
  | .write, true => 5 - nw
  | .write, false => 8 - nw
  | .release, true => 2
  | .release, false => 5
  | .releaseX, _ => 1
  | .crash, _ => 0

/-- a bound on the number of lines thread `t` executes before all its calls have returned, if it runs
undisturbed from `s`: 9 per queued item (test, try-lock, re-check, pop, up to 3 writes, release, and the
item's share of the next test), 25 per call it has still to start.  The 25 is generous: the only line that uses up a call
is `start`, from `idle 0` to `append 14`, so 15 would do. -/
def soloFuel (s : St) (t : Tid) : Nat :=
  9 * s.queue.length + 25 * (s.todo t).length + soloPc (s.pc t) s.queue.isEmpty s.nw

theorem soloFuel_reenter {s : St} (hN : Nest s) (p : Tid) (m : Msg) :
    soloFuel (reenter s p m) s.next = 9 * s.queue.length + 25 := by
  have hf := hN.fresh s.next (Nat.le_refl _)
  simp [soloFuel, SendQ.reenter, hf.1, soloPc]

theorem solo_step {s : St} {t : Tid} (h : Inv s) (hd : ¬ isDone s t) :
    ∃ s', step s t = some s' ∧ soloFuel s' t < soloFuel s t := by
  obtain ⟨s', hs⟩ := h.enabled hd
  refine ⟨s', hs, ?_⟩
  have move : ∀ {s1 : St} {p}, s1.queue = s.queue → s1.nw = s.nw → s1.todo = s.todo →
      soloPc p s.queue.isEmpty s.nw < soloPc (s.pc t) s.queue.isEmpty s.nw → soloFuel (s1.setPc t p) t < soloFuel s t := by
    intro s1 p hq hn ht hlt
    simp only [soloFuel, setPc_queue, setPc_todo, setPc_nw, setPc_pc_self, hq, hn, ht]
    omega
  have nw3 : s.pc t = .write → s.nw < 3 := fun hpc => by
    obtain ⟨x, _, hlt⟩ := h.hand_w t hpc
    have := nparts_le x
    omega
  cases Line.of_step hs with
  | start hpc htodo =>
    simp only [soloFuel, setPc_queue, setPc_todo, setPc_pc_self, setTodo_queue, setTodo_todo, if_pos, hpc, htodo, soloPc,
      List.length_cons]
    omega
  | append hpc =>
    have : ∀ x : Item, (s.queue ++ [x]).isEmpty = false := fun _ => by cases s.queue <;> rfl
    simp only [soloFuel, setPc_queue, setPc_todo, setPc_pc_self, hpc, this, soloPc, List.length_append,
      List.length_singleton]
    omega
  | checkNil hpc hq | checkCons hpc hq | recheckNil hpc hq | recheckCons hpc hq | popNil hpc hq =>
    exact move rfl rfl rfl (by rw [hpc, hq]; simp [soloPc])
  | lockBusy hpc | acquire hpc | release hpc | releaseFree hpc | releaseX hpc | releaseXFree hpc =>
    exact move rfl rfl rfl (by rw [hpc]; cases s.queue.isEmpty <;> simp [soloPc])
  | @pop _ q hpc hq =>
    simp only [soloFuel, setPc_queue, setPc_todo, setPc_nw, setPc_pc_self, hpc, hq, List.length_cons]
    cases q <;> simp only [List.isEmpty, soloPc] <;> omega
  | writeNone hpc hh => obtain ⟨x, hx, _⟩ := h.hand_w t hpc; rw [hh] at hx; cases hx
  | writeMid hpc =>
    have := nw3 hpc
    simp only [soloFuel, hpc]
    cases s.queue.isEmpty <;> simp only [soloPc] <;> omega
  | writeFail hpc | writeLast hpc =>
    have := nw3 hpc
    simp only [soloFuel, setPc_queue, setPc_todo, setPc_nw, setPc_pc_self, hpc]
    cases s.queue.isEmpty <;> simp only [soloPc] <;> omega

def runSolo (s : St) (t : Tid) : Nat → St
  | 0 => s
  | k + 1 =>
    match step s t with
    | some s' => runSolo s' t k
    | none => s

theorem runSolo_done {s : St} {t : Tid} (hd : isDone s t) (k : Nat) : runSolo s t k = s := by
  cases k with
  | zero => rfl
  | succ k => simp [runSolo, step_none_of_done hd]

theorem solo_returns_aux (t : Tid) : ∀ (k : Nat) (s : St), Inv s → soloFuel s t ≤ k → isDone (runSolo s t k) t := by
  intro k
  induction k with
  | zero =>
    intro s h hk
    apply Classical.byContradiction
    intro hd
    obtain ⟨s', _, hlt⟩ := solo_step h hd
    omega
  | succ k ih =>
    intro s h hk
    by_cases hd : isDone s t
    · rw [runSolo_done hd]; exact hd
    · obtain ⟨s', hs, hlt⟩ := solo_step h hd
      simp only [runSolo, hs]
      exact ih s' (h.step hs) (by omega)

theorem runSolo_reachable {n : Nat} {prog : Tid → List Msg} (t : Tid) :
    ∀ (k : Nat) (s : St), Reachable n prog s → ¬ blocked s t → Reachable n prog (runSolo s t k) := by
  intro k
  induction k with
  | zero => intro s h _; exact h
  | succ k ih =>
    intro s h hb
    simp only [runSolo]
    split
    next s' hs => exact ih s' (.step t h hb hs) (not_blocked_step (reachable_inv h).2 hb hs)
    · exact h

theorem line_append {s s' : St} {t : Tid} {m : Msg} (hpc : s.pc t = .append m) (hs : step s t = some s') :
    s'.pc t = .check := by
  cases Line.of_step hs with
  | append => exact setPc_pc_self
  | _ h => cases hpc.symm.trans h

theorem line_check {s s' : St} {t : Tid} (hpc : s.pc t = .check) (hs : step s t = some s') :
    s'.pc t = .idle ∨ s'.pc t = .tryLock := by
  cases Line.of_step hs with
  | checkNil => exact .inl setPc_pc_self
  | checkCons => exact .inr setPc_pc_self
  | _ h => cases hpc.symm.trans h

theorem line_tryLock {s s' : St} {t : Tid} (hpc : s.pc t = .tryLock) (hs : step s t = some s') :
    (s'.pc t = .idle ∧ s.lock = true) ∨ (s'.pc t = .recheck ∧ s'.lock = true ∧ s'.holder = some t) := by
  cases Line.of_step hs with
  | lockBusy _ hl => exact .inl ⟨setPc_pc_self, hl⟩
  | acquire => exact .inr ⟨setPc_pc_self, rfl, rfl⟩
  | _ h => cases hpc.symm.trans h

/-- anything the rest of the system does while thread `t` does not execute a line: lines of other threads,
nested sends started by anybody (also on `t`), transport failure -/
inductive Others (t : Tid) : St → St → Prop where
  | refl (s : St) : Others t s s
  | step {s s1 s2 : St} (u : Tid) : u ≠ t → Others t s s1 → step s1 u = some s2 → Others t s s2
  | reenter {s s1 : St} (p : Tid) (m : Msg) : Others t s s1 → Others t s (reenter s1 p m)
  | brk {s s1 : St} : Others t s s1 → Others t s (breakTransport s1)

theorem Others.pc_eq {t : Tid} {s s' : St} (h : Others t s s') : s'.pc t = s.pc t := by
  induction h with
  | refl => rfl
  | step u hu _ hs ih => rw [(Line.of_step hs).pc_ne (Ne.symm hu)]; exact ih
  | reenter p m _ ih => exact ih
  | brk _ ih => exact ih

end Rpyc.Conc.SendQ
