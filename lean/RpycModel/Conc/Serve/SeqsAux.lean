import RpycModel.Conc.Serve.Basic
/-
`InvS` as stated in `Basic.lean` is not inductive by itself: `result_ok` only speaks about threads
with `bg = false`, so after `.stop t` (which flips `bg` back to `false` at `b0`) nothing is known
about `t`'s old `result`; and `at_c1`/`at_c2`/`at_w10` need `hasSeq`, i.e. `bg = false`, for a thread
at `c1`/`c2`/`w10`.  The stronger invariant `InvS'` adds the clauses of `InvSX` (`invS'_iff`); it is organised as a global
part `GlobOK`, a per-thread part `ThrOK` and `seq_inj`.

How the steps are covered.  `ThrOK` is an annotation of the program: some clauses speak of classes of locations
(`client`, `bgLoop`, `holding`, `completing`, `waiting`, `inServe`) and are inherited along a step that respects the
classes (`PC.CtlOK`, `PC.FrameOK`); the others are the assertion of one location (`ThrOK.At`) and are owed on arrival
(`ThrOK.goto`).  A step changes the shared state not at all as far as `InvS'` reads it (`SameGlob`), in what belongs to
one seq (`CellRel`), in the request bookkeeping only (`ThrOK.sameCells`), or it is the first `close()` (`CloseRel`).
-/
namespace Rpyc.Conc.Serve

/-- program counters only a client thread (never a background serving thread) can be at -/
def PC.client : PC → Bool
  | .idle | .c1 | .c2 | .c3 | .w0 | .w9 | .w10 => true
  | _ => false

/-- waiting for the result outside `serve` -/
def PC.waiting : PC → Bool
  | .w0 | .w9 | .w10 => true
  | _ => false

/-- the loop of `BgServingThread._bg_server` (a polling thread is never there) -/
def PC.bgLoop : PC → Bool
  | .b0 | .bS => true
  | _ => false

/-- what thread `t` inside `AsyncResult.__call__` (at `p`, one of `d2`…`d5`) knows of the callback `q` it popped for the frame
`f` in its hand: nobody else completes it, and the cell holds what the lines before `p` stored.  `InvS.completing` and
`ThrOK.completing` are `∃ q f, cb = some q ∧ data = some f ∧ Popped …` written out. -/
def Popped (s : St) (t : Tid) (p : PC) (q : Seq) (f : Frame) : Prop :=
  f.seq = q ∧ s.popper q = some t ∧ (s.cells q).reg = false ∧ s.completions q = 0 ∧ (s.cells q).ready = false ∧
  ((p = .d4 ∨ p = .d5) → (s.cells q).isExc = some f.exc) ∧ (p = .d5 → (s.cells q).obj = some f.val)

structure ThrOK (s : St) (t : Tid) (l : Loc) : Prop where
  bg_pc : l.bg = true → l.pc.client = false
  nowait_ok : l.nowait = true → l.bg = true ∧ l.pc.bgLoop = false
  seq_issued : l.hasSeq = true → l.seq ∈ s.issued
  at_c1 : l.hasSeq = true → l.pc = .c1 → freshSeq s l.seq
  at_c2 : l.hasSeq = true → l.pc = .c2 → s.closed = false → s.answer l.seq = none ∧ l.seq ∉ s.outstanding
  raising_pc : l.raising = true → l.pc.holding = true
  nodata : l.pc = .x0 ∨ l.raising = true → l.data = none
  cb_pc : ∀ q, l.cb = some q → l.pc.completing = true
  completing : l.pc.completing = true → ∃ q f, l.cb = some q ∧ l.data = some f ∧
      f.seq = q ∧ s.popper q = some t ∧ (s.cells q).reg = false ∧ s.completions q = 0 ∧ (s.cells q).ready = false ∧
      ((l.pc = .d4 ∨ l.pc = .d5) → (s.cells q).isExc = some f.exc) ∧
      (l.pc = .d5 → (s.cells q).obj = some f.val)
  data_answer : ∀ f, l.data = some f → s.answer f.seq = some (f.exc, f.val) ∨ (s.cells f.seq).eofed = true
  at_w10 : l.hasSeq = true → l.pc = .w10 → (s.cells l.seq).ready = true
  result_ok : ∀ e o, l.result = some (.value e o) →
      ∃ e' v, s.answer l.seq = some (e', v) ∧ e = some e' ∧ o = some v ∧ (s.cells l.seq).ready = true
  self_dispatch : l.hasSeq = true → (s.cells l.seq).ready = true →
      s.popper l.seq = some t → l.pc.waiting = true ∨ l.raising = true
  dl_ttl : l.hasSeq = true → l.pc.inServe = true → l.dl = (s.cells l.seq).ttl
  wdl_le : l.pc = .zz → ∀ d, l.dl = some d → ∃ w, l.wdl = some w ∧ w ≤ max s.now d

structure GlobOK (s : St) : Prop where
  issued_lt : ∀ q ∈ s.issued, q < s.seqCounter
  issued_nodup : s.issued.Nodup
  fresh : ∀ q, s.seqCounter ≤ q → freshSeq s q
  out_nodup : s.outstanding.Nodup
  out_unanswered : ∀ q ∈ s.outstanding, s.answer q = none ∧ q < s.seqCounter
  reg_clean : ∀ q, (s.cells q).reg = true → s.popper q = none ∧ s.completions q = 0 ∧ (s.cells q).ready = false
  chan_answer : ∀ f ∈ s.chan, s.answer f.seq = some (f.exc, f.val) ∨ (s.cells f.seq).eofed = true
  eofed_ready : ∀ q, (s.cells q).eofed = true → (s.cells q).ready = true
  obj_answer : ∀ q v, (s.cells q).obj = some v → ∃ e, s.answer q = some (e, v)
  exc_answer : ∀ q e, (s.cells q).isExc = some e → ∃ v, s.answer q = some (e, v)
  compl_le : ∀ q, s.completions q ≤ 1
  ready_compl : ∀ q, (s.cells q).ready = true →
      s.completions q = 1 ∧ (s.cells q).obj.isSome = true ∧ (s.cells q).isExc.isSome = true

theorem GlobOK.unreg_of_ready {s : St} (h : GlobOK s) {q : Seq} (hr : (s.cells q).ready = true) :
    (s.cells q).reg = false :=
  Bool.eq_false_iff.2 fun hg => nomatch (h.reg_clean q hg).2.2.symm.trans hr

theorem GlobOK.unreg_of_popper {s : St} (h : GlobOK s) {q : Seq} {u : Tid} (hp : s.popper q = some u) :
    (s.cells q).reg = false :=
  Bool.eq_false_iff.2 fun hr => nomatch (h.reg_clean q hr).1.symm.trans hp

theorem GlobOK.eofed_unreg {s : St} (h : GlobOK s) (q : Seq) (he : (s.cells q).eofed = true) :
    (s.cells q).reg = false := h.unreg_of_ready (h.eofed_ready q he)

theorem GlobOK.not_eofed {s : St} (h : GlobOK s) {q : Seq} (hr : (s.cells q).ready = false) :
    (s.cells q).eofed = false :=
  Bool.eq_false_iff.2 fun he => nomatch hr.symm.trans (h.eofed_ready q he)

theorem GlobOK.lt_of_not_fresh {s : St} (h : GlobOK s) {q : Seq} (nf : ¬ freshSeq s q) : q < s.seqCounter :=
  Nat.lt_of_not_le fun hle => nf (h.fresh q hle)

theorem GlobOK.ready_answer {s : St} (h : GlobOK s) {q : Seq} (hr : (s.cells q).ready = true) :
    ∃ e v, (s.cells q).isExc = some e ∧ (s.cells q).obj = some v ∧ s.answer q = some (e, v) := by
  obtain ⟨_, ho, he⟩ := h.ready_compl q hr
  obtain ⟨v, hv⟩ := Option.isSome_iff_exists.1 ho
  obtain ⟨e, he⟩ := Option.isSome_iff_exists.1 he
  obtain ⟨e', h1⟩ := h.obj_answer q v hv
  obtain ⟨v', h2⟩ := h.exc_answer q e he
  cases h1.symm.trans h2
  exact ⟨e, v, he, hv, h1⟩

structure InvS' (s : St) : Prop where
  glob : GlobOK s
  thr : ∀ t, ThrOK s t (s.loc t)
  seq_inj : ∀ t u, (s.loc t).hasSeq = true → (s.loc u).hasSeq = true → (s.loc t).seq = (s.loc u).seq → t = u

/-- what has to be added to `InvS` to make it inductive -/
structure InvSX (s : St) : Prop where
  /-- a background serving thread is never at a client-only program counter -/
  bg_pc : ∀ t, (s.loc t).bg = true → (s.loc t).pc.client = false
  /-- a polling thread (`poll_all`) counts as a background thread and is never in `_bg_server`'s loop -/
  nowait_ok : ∀ t, (s.loc t).nowait = true → (s.loc t).bg = true ∧ (s.loc t).pc.bgLoop = false
  /-- `result_ok` for background threads (their `result`/`seq` are left over from an earlier call) -/
  result_bg : ∀ t e o, (s.loc t).bg = true → (s.loc t).result = some (.value e o) →
      ∃ e' v, s.answer (s.loc t).seq = some (e', v) ∧ e = some e' ∧ o = some v
  /-- the cell behind a handed-out result is ready (hence no longer registered: `close()` leaves it alone) -/
  result_ready : ∀ t e o, (s.loc t).result = some (.value e o) → (s.cells (s.loc t).seq).ready = true
  /-- at `x0` and while the `EOFError` propagates the thread has no frame in hand -/
  nodata : ∀ t, (s.loc t).pc = .x0 ∨ (s.loc t).raising = true → (s.loc t).data = none
  /-- a cell completed by `close()` is ready -/
  eofed_ready : ∀ q, (s.cells q).eofed = true → (s.cells q).ready = true

theorem PC.waiting_iff (p : PC) : p.waiting = true ↔ p = .w0 ∨ p = .w9 ∨ p = .w10 := by
  cases p <;> simp [PC.waiting]

/-- the clauses about the shared state are those of `GlobOK` under the same names -/
theorem InvS'.toInvS {s : St} (h : InvS' s) : InvS s :=
  { h.glob with
    seq_issued := fun t => (h.thr t).seq_issued
    seq_inj := h.seq_inj
    at_c1 := fun t => (h.thr t).at_c1
    at_c2 := fun t => (h.thr t).at_c2
    cb_pc := fun t => (h.thr t).cb_pc
    completing := fun t => (h.thr t).completing
    data_answer := fun t => (h.thr t).data_answer
    eofed_unreg := h.glob.eofed_unreg
    raising_pc := fun t => (h.thr t).raising_pc
    at_w10 := fun t => (h.thr t).at_w10
    result_ok := fun t e o _ hr => by
      obtain ⟨e', v, a, b, c, _⟩ := (h.thr t).result_ok e o hr
      exact ⟨e', v, a, b, c⟩
    self_dispatch := fun t h1 h2 h3 => by
      simpa only [PC.waiting_iff, or_assoc] using (h.thr t).self_dispatch h1 h2 h3
    dl_ttl := fun t => (h.thr t).dl_ttl
    wdl_le := fun t => (h.thr t).wdl_le }

theorem InvS'.toInvSX {s : St} (h : InvS' s) : InvSX s where
  bg_pc t := (h.thr t).bg_pc
  nowait_ok t := (h.thr t).nowait_ok
  result_bg t e o _ hr := by
    obtain ⟨e', v, a, b, c, _⟩ := (h.thr t).result_ok e o hr
    exact ⟨e', v, a, b, c⟩
  result_ready t e o hr := by
    obtain ⟨_, _, _, _, _, d⟩ := (h.thr t).result_ok e o hr
    exact d
  nodata t := (h.thr t).nodata
  eofed_ready := h.glob.eofed_ready

theorem InvS'.of_InvS {s : St} (h : InvS s) (hx : InvSX s) : InvS' s where
  glob := { h with eofed_ready := hx.eofed_ready }
  thr t := {
    bg_pc := hx.bg_pc t
    nowait_ok := hx.nowait_ok t
    seq_issued := h.seq_issued t
    at_c1 := h.at_c1 t
    at_c2 := h.at_c2 t
    raising_pc := h.raising_pc t
    nodata := hx.nodata t
    cb_pc := fun q => h.cb_pc t q
    completing := h.completing t
    data_answer := h.data_answer t
    at_w10 := h.at_w10 t
    result_ok := fun e o hr => by
      have hd := hx.result_ready t e o hr
      cases hb : (s.loc t).bg with
      | false =>
        obtain ⟨e', v, a, b, c⟩ := h.result_ok t e o hb hr
        exact ⟨e', v, a, b, c, hd⟩
      | true =>
        obtain ⟨e', v, a, b, c⟩ := hx.result_bg t e o hb hr
        exact ⟨e', v, a, b, c, hd⟩
    self_dispatch := fun a b c => by
      simpa only [PC.waiting_iff, or_assoc] using h.self_dispatch t a b c
    dl_ttl := h.dl_ttl t
    wdl_le := h.wdl_le t }
  seq_inj := h.seq_inj

theorem invS'_iff {s : St} : InvS' s ↔ InvS s ∧ InvSX s :=
  ⟨fun h => ⟨h.toInvS, h.toInvSX⟩, fun h => InvS'.of_InvS h.1 h.2⟩

theorem ThrOK.bg_false_of_client {s : St} {t : Tid} {l : Loc} (h : ThrOK s t l) (hc : l.pc.client = true) :
    l.bg = false :=
  Bool.eq_false_iff.2 fun hb => nomatch (h.bg_pc hb).symm.trans hc

theorem ThrOK.nowait_false_of_bg {s : St} {t : Tid} {l : Loc} (h : ThrOK s t l) (hb : l.bg = false) :
    l.nowait = false :=
  Bool.eq_false_iff.2 fun hn => nomatch hb.symm.trans (h.nowait_ok hn).1

theorem ThrOK.nowait_false_of_bgLoop {s : St} {t : Tid} {l : Loc} (h : ThrOK s t l) (hb : l.pc.bgLoop = true) :
    l.nowait = false :=
  Bool.eq_false_iff.2 fun hn => nomatch (h.nowait_ok hn).2.symm.trans hb

theorem ThrOK.raising_false {s : St} {t : Tid} {l : Loc} (h : ThrOK s t l) (hp : l.pc.holding = false) :
    l.raising = false :=
  Bool.eq_false_iff.2 fun hr => nomatch hp.symm.trans (h.raising_pc hr)

theorem ThrOK.raising_false_of_data {s : St} {t : Tid} {l : Loc} (h : ThrOK s t l) {f : Frame}
    (hd : l.data = some f) : l.raising = false :=
  Bool.eq_false_iff.2 fun hr => nomatch (h.nodata (.inr hr)).symm.trans hd

theorem ThrOK.cb_none {s : St} {t : Tid} {l : Loc} (h : ThrOK s t l) (hp : l.pc.completing = false) :
    l.cb = none := by
  cases hc : l.cb with
  | none => rfl
  | some q => rw [h.cb_pc q hc] at hp; cases hp

theorem hasSeq_idle {l : Loc} (hp : l.pc = .idle) {P : Prop} (a : l.hasSeq = true) : P :=
  absurd hp ((hasSeq_iff l).1 a).2

/-- `s'` has the same shared state as `s` as far as `InvS` can see (the channel may have lost frames) -/
structure SameGlob (s s' : St) : Prop where
  cells : s'.cells = s.cells
  answer : s'.answer = s.answer
  outstanding : s'.outstanding = s.outstanding
  popper : s'.popper = s.popper
  completions : s'.completions = s.completions
  seqCounter : s'.seqCounter = s.seqCounter
  issued : s'.issued = s.issued
  now : s.now ≤ s'.now
  chan : ∀ f ∈ s'.chan, f ∈ s.chan
  closed : s'.closed = s.closed

theorem SameGlob.unseen {s : St} {loc : Tid → Loc} {rl cl : Option Tid} {ws : List Tid} {e : Bool} {fs : Nat → FStat}
    {dc : Nat → Nat} :
    SameGlob s { s with loc := loc, recvLock := rl, condLock := cl, waiters := ws, eof := e, fstat := fs, dcount := dc } :=
  ⟨rfl, rfl, rfl, rfl, rfl, rfl, rfl, Nat.le_refl _, fun _ h => h, rfl⟩

theorem SameGlob.freshSeq {s s' : St} (g : SameGlob s s') (q : Seq) : freshSeq s' q ↔ freshSeq s q := by
  simp only [Serve.freshSeq, g.cells, g.answer, g.outstanding, g.popper, g.completions]

theorem SameGlob.glob {s s' : St} (g : SameGlob s s') (h : GlobOK s) : GlobOK s' where
  issued_lt := by simpa only [g.issued, g.seqCounter] using h.issued_lt
  issued_nodup := by simpa only [g.issued] using h.issued_nodup
  fresh := by simpa only [g.freshSeq, g.seqCounter] using h.fresh
  out_nodup := by simpa only [g.outstanding] using h.out_nodup
  out_unanswered := by simpa only [g.outstanding, g.answer, g.seqCounter] using h.out_unanswered
  reg_clean := by simpa only [g.cells, g.popper, g.completions] using h.reg_clean
  chan_answer := fun f hf => by simpa only [g.answer, g.cells] using h.chan_answer f (g.chan f hf)
  eofed_ready := by simpa only [g.cells] using h.eofed_ready
  obj_answer := by simpa only [g.cells, g.answer] using h.obj_answer
  exc_answer := by simpa only [g.cells, g.answer] using h.exc_answer
  compl_le := by simpa only [g.completions] using h.compl_le
  ready_compl := by simpa only [g.cells, g.completions] using h.ready_compl

/-- what `ThrOK` says of a thread because it stands at location `p`; most locations carry no assertion -/
def ThrOK.At (s : St) (t : Tid) (l : Loc) : PC → Prop
  | .c1 => l.hasSeq = true → freshSeq s l.seq
  | .c2 => l.hasSeq = true → s.closed = false → s.answer l.seq = none ∧ l.seq ∉ s.outstanding
  | .w10 => l.hasSeq = true → (s.cells l.seq).ready = true
  | .zz => ∀ d, l.dl = some d → ∃ w, l.wdl = some w ∧ w ≤ max s.now d
  | .x0 => l.data = none
  | .d2 | .d3 | .d4 | .d5 => ∃ q f, l.cb = some q ∧ l.data = some f ∧ Popped s t l.pc q f
  | _ => True

/-- the classes of program counters the other clauses of `ThrOK` speak of, in the direction they are inherited -/
def PC.CtlOK (p p' : PC) : Prop :=
  (p'.client = true → p.client = true) ∧ (p = .idle → p' = .idle) ∧ (p'.bgLoop = true → p.bgLoop = true) ∧
  (p.completing = true → p'.completing = true) ∧ (p.holding = true → p'.holding = true)

/-- `CtlOK` and the classes `waiting`, `inServe` of the clauses `self_dispatch`, `dl_ttl`, which `ThrOK.setPc` inherits too;
`ThrOK.goto` leaves those two clauses to its caller (`kw`, `kd`) -/
def PC.FrameOK (p p' : PC) : Prop :=
  PC.CtlOK p p' ∧ (p.waiting = true → p'.waiting = true) ∧ (p'.inServe = true → p.inServe = true)

instance (p p' : PC) : Decidable (PC.CtlOK p p') := by unfold PC.CtlOK; infer_instance
instance (p p' : PC) : Decidable (PC.FrameOK p p') := by unfold PC.FrameOK; infer_instance

theorem ThrOK.goto {s : St} {t : Tid} {l : Loc} {p : PC} (p' : PC) {d w : Option Time} (h : ThrOK s t l)
    (hp : l.pc = p) (ok : PC.CtlOK p p') (gate : ThrOK.At s t { l with pc := p', dl := d, wdl := w } p')
    (kw : l.hasSeq = true → (s.cells l.seq).ready = true → s.popper l.seq = some t →
      p'.waiting = true ∨ l.raising = true)
    (kd : l.hasSeq = true → p'.inServe = true → d = (s.cells l.seq).ttl) :
    ThrOK s t { l with pc := p', dl := d, wdl := w } := by
  subst hp
  obtain ⟨k1, k2, k3, k4, k5⟩ := ok
  have hs : ({ l with pc := p', dl := d, wdl := w } : Loc).hasSeq = true → l.hasSeq = true := by
    simp only [hasSeq_iff]
    exact fun ⟨a, b⟩ => ⟨a, fun c => b (k2 c)⟩
  exact {
    bg_pc := fun hb => Bool.eq_false_iff.2 fun hc => nomatch (h.bg_pc hb).symm.trans (k1 hc)
    nowait_ok := fun a =>
      ⟨(h.nowait_ok a).1, Bool.eq_false_iff.2 fun hc => nomatch (h.nowait_ok a).2.symm.trans (k3 hc)⟩
    seq_issued := fun a => h.seq_issued (hs a)
    at_c1 := fun a b => by cases b; exact gate a
    at_c2 := fun a b => by cases b; exact gate a
    raising_pc := fun a => k5 (h.raising_pc a)
    nodata := fun a => by
      rcases a with a | a
      · cases a; exact gate
      · exact h.nodata (.inr a)
    cb_pc := fun q a => k4 (h.cb_pc q a)
    completing := fun a => by cases p' <;> first | exact gate | cases a
    data_answer := h.data_answer
    at_w10 := fun a b => by cases b; exact gate a
    result_ok := h.result_ok
    self_dispatch := fun a b c => kw (hs a) b c
    dl_ttl := fun a b => kd (hs a) b
    wdl_le := fun a => by cases a; exact gate }

theorem ThrOK.setPc {s : St} {t : Tid} {l : Loc} {p : PC} (p' : PC) {w : Option Time} (h : ThrOK s t l) (hp : l.pc = p)
    (ok : PC.FrameOK p p') (gate : ThrOK.At s t { l with pc := p', wdl := w } p') :
    ThrOK s t { l with pc := p', wdl := w } :=
  h.goto p' hp ok.1 gate (fun a b c => (h.self_dispatch a b c).imp (fun w => ok.2.1 (hp ▸ w)) id)
    (fun a b => h.dl_ttl a (hp ▸ ok.2.2 b))

theorem setPc_hasSeq {l : Loc} {p p' : PC} (hp : l.pc = p) (ok : PC.CtlOK p p') :
    ({ l with pc := p' } : Loc).hasSeq = true → l.hasSeq = true ∧ ({ l with pc := p' } : Loc).seq = l.seq := by
  intro hh
  obtain ⟨a, b⟩ := (hasSeq_iff _).1 hh
  exact ⟨(hasSeq_iff _).2 ⟨a, fun c => b (ok.2.1 (hp ▸ c))⟩, rfl⟩

theorem hasSeq_frame {l l' : Loc} (hp : l.pc ≠ .idle) (hb : l'.bg = l.bg) (hs : l'.seq = l.seq) :
    l'.hasSeq = true → l.hasSeq = true ∧ l'.seq = l.seq :=
  fun a => ⟨(hasSeq_iff l).2 ⟨hb ▸ ((hasSeq_iff l').1 a).1, hp⟩, hs⟩

theorem ThrOK.setData {s : St} {t : Tid} {l : Loc} (h : ThrOK s t l) (x : Option Frame)
    (hc : l.pc.completing = false) (hx0 : l.pc ≠ .x0) (hr : l.raising = false)
    (hx : ∀ f, x = some f → s.answer f.seq = some (f.exc, f.val) ∨ (s.cells f.seq).eofed = true) :
    ThrOK s t { l with data := x } where
  bg_pc := h.bg_pc
  nowait_ok := h.nowait_ok
  seq_issued := h.seq_issued
  at_c1 := h.at_c1
  at_c2 := h.at_c2
  raising_pc := h.raising_pc
  nodata := fun a => a.elim (absurd · hx0) (fun r => nomatch hr.symm.trans r)
  cb_pc := h.cb_pc
  completing := fun a => nomatch hc.symm.trans a
  data_answer := hx
  at_w10 := h.at_w10
  result_ok := h.result_ok
  self_dispatch := h.self_dispatch
  dl_ttl := h.dl_ttl
  wdl_le := h.wdl_le

theorem ThrOK.raise {s : St} {t : Tid} {l : Loc} (h : ThrOK s t l) (hh : l.pc.holding = true) (hd : l.data = none) :
    ThrOK s t { l with raising := true } where
  bg_pc := h.bg_pc
  nowait_ok := h.nowait_ok
  seq_issued := h.seq_issued
  at_c1 := h.at_c1
  at_c2 := h.at_c2
  raising_pc := fun _ => hh
  nodata := fun _ => hd
  cb_pc := h.cb_pc
  completing := h.completing
  data_answer := h.data_answer
  at_w10 := h.at_w10
  result_ok := h.result_ok
  self_dispatch := fun _ _ _ => .inr rfl
  dl_ttl := h.dl_ttl
  wdl_le := h.wdl_le

/-- an idle client thread becomes a serving thread: `BgServingThread` (→ `b0`) or `poll_all` (→ `s0`) -/
theorem ThrOK.serve {s : St} {t : Tid} {l : Loc} (h : ThrOK s t l) (hp : l.pc = .idle) (p' : PC) (n : Bool)
    (x : Option Time) (hp' : p' = .b0 ∧ n = false ∨ p' = .s0) :
    ThrOK s t { l with pc := p', bg := true, nowait := n, pdl := x } := by
  have hra : l.raising = false := h.raising_false (by rw [hp]; rfl)
  have hcb : l.cb = none := h.cb_none (by rw [hp]; rfl)
  rcases hp' with ⟨rfl, rfl⟩ | rfl <;> exact {
    bg_pc := fun _ => rfl
    nowait_ok := fun a => ⟨rfl, by first | rfl | cases a⟩
    seq_issued := nofun
    at_c1 := nofun
    at_c2 := nofun
    raising_pc := fun a => nomatch hra.symm.trans a
    nodata := fun a => a.elim nofun (fun r => nomatch hra.symm.trans r)
    cb_pc := fun q a => nomatch hcb.symm.trans a
    completing := nofun
    data_answer := h.data_answer
    at_w10 := nofun
    result_ok := h.result_ok
    self_dispatch := nofun
    dl_ttl := nofun
    wdl_le := nofun }

/-- `serve()` returns to `p'`, which is `afterServe l` -/
theorem thrOK_return {s : St} {t : Tid} {l : Loc} (p' : PC) (hp' : p' = .q1 ∨ p' = .bS ∨ p' = .w0)
    (hb : l.bg = true → p'.client = false) (hn : l.nowait = true → l.bg = true ∧ p'.bgLoop = false)
    (hw : l.bg = false → p'.waiting = true) (hr : l.raising = false)
    (h1 : l.bg = false → l.seq ∈ s.issued)
    (h2 : ∀ e o, l.result = some (.value e o) → ∃ e' v, s.answer l.seq = some (e', v) ∧ e = some e' ∧ o = some v ∧
      (s.cells l.seq).ready = true) :
    ThrOK s t { l with pc := p', data := none, cb := none } := by
  rcases hp' with rfl | rfl | rfl <;> exact {
    bg_pc := hb
    nowait_ok := hn
    seq_issued := fun a => h1 ((hasSeq_iff _).1 a).1
    at_c1 := nofun
    at_c2 := nofun
    raising_pc := fun a => nomatch hr.symm.trans a
    nodata := fun _ => rfl
    cb_pc := nofun
    completing := nofun
    data_answer := nofun
    at_w10 := nofun
    result_ok := h2
    self_dispatch := fun a _ _ => .inl (hw ((hasSeq_iff _).1 a).1)
    dl_ttl := nofun
    wdl_le := nofun }

theorem thrOK_leaveServe {s : St} {t : Tid} {l : Loc} (h0 : l.nowait = true → l.bg = true)
    (hr : l.raising = false)
    (h1 : l.bg = false → l.seq ∈ s.issued)
    (h2 : ∀ e o, l.result = some (.value e o) → ∃ e' v, s.answer l.seq = some (e', v) ∧ e = some e' ∧ o = some v ∧
      (s.cells l.seq).ready = true) :
    ThrOK s t (leaveServe l) := by
  rcases afterServe_spec l with ⟨hn, e⟩ | ⟨hn, hb, e⟩ | ⟨hn, hb, e⟩ <;> rw [leaveServe, e]
  · exact thrOK_return .q1 (.inl rfl) (fun _ => rfl) (fun a => ⟨h0 a, rfl⟩) (fun a => nomatch (h0 hn).symm.trans a)
      hr h1 h2
  · exact thrOK_return .bS (.inr (.inl rfl)) (fun _ => rfl) (fun a => nomatch hn.symm.trans a)
      (fun a => nomatch hb.symm.trans a) hr h1 h2
  · exact thrOK_return .w0 (.inr (.inr rfl)) (fun a => nomatch hb.symm.trans a) (fun a => nomatch hn.symm.trans a)
      (fun _ => rfl) hr h1 h2

theorem ThrOK.leaveServe {s : St} {t : Tid} {l : Loc} (h : ThrOK s t l) (hp : l.pc ≠ .idle)
    (hr : l.raising = false) : ThrOK s t (leaveServe l) :=
  thrOK_leaveServe (fun hn => (h.nowait_ok hn).1) hr (fun hb => h.seq_issued ((hasSeq_iff l).2 ⟨hb, hp⟩)) h.result_ok

/-- what a thread's part of the invariant needs from a change of the shared state, with the allowances the first `close()` and the
stores of `AsyncResult.__call__` need: `closed` may become true, an `eofed` mark may stand in for an answer, `self_dispatch` may be
met by `raising`, and the popper's view of `isExc`, `obj` is asked for only where its location remembers them. -/
theorem ThrOK.transfer' {s s' : St} {u : Tid} {l : Loc} (h : ThrOK s u l)
    (h_iss : ∀ q ∈ s.issued, q ∈ s'.issued)
    (h_c1 : l.hasSeq = true → l.pc = .c1 → freshSeq s l.seq → freshSeq s' l.seq)
    (h_c2 : l.hasSeq = true → l.pc = .c2 → s'.closed = false → s.closed = false ∧
      (s.answer l.seq = none → l.seq ∉ s.outstanding → s'.answer l.seq = none ∧ l.seq ∉ s'.outstanding))
    (h_pop : ∀ q, s.popper q = some u → (s.cells q).reg = false → s'.popper q = some u ∧
      s'.completions q = s.completions q ∧
      (s'.cells q).reg = (s.cells q).reg ∧ (s'.cells q).ready = (s.cells q).ready ∧
      ((l.pc = .d4 ∨ l.pc = .d5) → (s'.cells q).isExc = (s.cells q).isExc) ∧
      (l.pc = .d5 → (s'.cells q).obj = (s.cells q).obj))
    (h_data : ∀ f : Frame, s.answer f.seq = some (f.exc, f.val) ∨ (s.cells f.seq).eofed = true →
      s'.answer f.seq = some (f.exc, f.val) ∨ (s'.cells f.seq).eofed = true)
    (h_res : ∀ x, s.answer l.seq = some x → (s.cells l.seq).ready = true → s'.answer l.seq = some x)
    (h_rdy : (s.cells l.seq).ready = true → (s'.cells l.seq).ready = true)
    (h_self : l.hasSeq = true → (s'.cells l.seq).ready = true → s'.popper l.seq = some u →
      ((s.cells l.seq).ready = true ∧ s.popper l.seq = some u) ∨ l.raising = true)
    (h_ttl : l.hasSeq = true → l.pc.inServe = true → (s'.cells l.seq).ttl = (s.cells l.seq).ttl)
    (h_now : s.now ≤ s'.now) : ThrOK s' u l where
  bg_pc := h.bg_pc
  nowait_ok := h.nowait_ok
  seq_issued := fun a => h_iss _ (h.seq_issued a)
  at_c1 := fun a b => h_c1 a b (h.at_c1 a b)
  at_c2 := fun a b c => by
    obtain ⟨c', k⟩ := h_c2 a b c
    exact k (h.at_c2 a b c').1 (h.at_c2 a b c').2
  raising_pc := h.raising_pc
  nodata := h.nodata
  cb_pc := h.cb_pc
  completing := fun a => by
    obtain ⟨q, f, c1, c2, c3, c4, c5, c6, c7, c8, c9⟩ := h.completing a
    obtain ⟨p1, p2, p3, p4, p5, p6⟩ := h_pop q c4 c5
    exact ⟨q, f, c1, c2, c3, p1, by rw [p3]; exact c5, by rw [p2]; exact c6, by rw [p4]; exact c7,
      fun x => by rw [p5 x]; exact c8 x, fun x => by rw [p6 x]; exact c9 x⟩
  data_answer := fun f a => h_data f (h.data_answer f a)
  at_w10 := fun a b => h_rdy (h.at_w10 a b)
  result_ok := fun e o a => by
    obtain ⟨e', v, r1, r2, r3, r4⟩ := h.result_ok e o a
    exact ⟨e', v, h_res _ r1 r4, r2, r3, h_rdy r4⟩
  self_dispatch := fun a b c => by
    rcases h_self a b c with ⟨x, y⟩ | x
    · exact h.self_dispatch a x y
    · exact .inr x
  dl_ttl := fun a b => by rw [h_ttl a b]; exact h.dl_ttl a b
  wdl_le := fun a d hd => by
    obtain ⟨w, hw, hle⟩ := h.wdl_le a d hd
    exact ⟨w, hw, Nat.le_trans hle (Nat.max_le.2 ⟨Nat.le_trans h_now (Nat.le_max_left _ _), Nat.le_max_right _ _⟩)⟩

/-- `transfer'` without its allowances: answers and `eofed` marks stay, `closed` is the same -/
theorem ThrOK.transfer {s s' : St} {u : Tid} {l : Loc} (h : ThrOK s u l)
    (h_iss : ∀ q ∈ s.issued, q ∈ s'.issued)
    (h_c1 : l.hasSeq = true → l.pc = .c1 → freshSeq s l.seq → freshSeq s' l.seq)
    (h_c2 : l.hasSeq = true → l.pc = .c2 → s.answer l.seq = none → l.seq ∉ s.outstanding →
      s'.answer l.seq = none ∧ l.seq ∉ s'.outstanding)
    (h_pop : ∀ q, s.popper q = some u → s'.popper q = some u ∧ s'.completions q = s.completions q ∧
      (s'.cells q).reg = (s.cells q).reg ∧ (s'.cells q).ready = (s.cells q).ready ∧
      (s'.cells q).isExc = (s.cells q).isExc ∧ (s'.cells q).obj = (s.cells q).obj)
    (h_ans : ∀ r x, s.answer r = some x → s'.answer r = some x)
    (h_rdy : (s.cells l.seq).ready = true → (s'.cells l.seq).ready = true)
    (h_self : l.hasSeq = true → (s'.cells l.seq).ready = true → s'.popper l.seq = some u →
      (s.cells l.seq).ready = true ∧ s.popper l.seq = some u)
    (h_ttl : l.hasSeq = true → l.pc.inServe = true → (s'.cells l.seq).ttl = (s.cells l.seq).ttl)
    (h_now : s.now ≤ s'.now) (h_closed : s'.closed = s.closed)
    (h_eofed : ∀ q, (s.cells q).eofed = true → (s'.cells q).eofed = true) : ThrOK s' u l :=
  h.transfer' h_iss h_c1 (fun a b c => ⟨h_closed ▸ c, h_c2 a b⟩)
    (fun q a _ => (h_pop q a).imp id (.imp id (.imp id (.imp id (.imp (fun x _ => x) (fun x _ => x))))))
    (fun _ x => x.imp (h_ans _ _) (h_eofed _)) (fun x a _ => h_ans _ x a) h_rdy
    (fun a b c => .inl (h_self a b c)) h_ttl h_now

/-- cells, poppers, completion counts, clock and `closed` are the same (a request is issued, sent or answered): a thread
only needs that a seq it holds before `_send` stays unanswered and not outstanding, and that answers stay -/
theorem ThrOK.sameCells {s s' : St} {u : Tid} {l : Loc} (h : ThrOK s u l) (e_cells : s'.cells = s.cells)
    (e_pop : s'.popper = s.popper) (e_cmp : s'.completions = s.completions) (e_now : s.now ≤ s'.now)
    (e_closed : s'.closed = s.closed) (h_iss : ∀ q ∈ s.issued, q ∈ s'.issued)
    (h_req : l.hasSeq = true → l.pc = .c1 ∨ l.pc = .c2 → s.answer l.seq = none → l.seq ∉ s.outstanding →
      s'.answer l.seq = none ∧ l.seq ∉ s'.outstanding)
    (h_ans : ∀ r x, s.answer r = some x → s'.answer r = some x) : ThrOK s' u l :=
  h.transfer h_iss
    (fun a b ⟨f1, f2, f3, f4, f5⟩ =>
      ⟨e_cells ▸ f1, (h_req a (.inl b) f2 f3).1, (h_req a (.inl b) f2 f3).2, e_pop ▸ f4, e_cmp ▸ f5⟩)
    (fun a b => h_req a (.inr b)) (fun _ x => e_pop ▸ e_cmp ▸ e_cells ▸ ⟨x, rfl, rfl, rfl, rfl, rfl⟩) h_ans
    (fun x => e_cells ▸ x) (fun _ a b => ⟨e_cells ▸ a, e_pop ▸ b⟩) (fun _ _ => e_cells ▸ rfl) e_now
    e_closed (fun _ x => e_cells ▸ x)

theorem SameGlob.thr {s s' : St} (g : SameGlob s s') {u : Tid} {l : Loc} (h : ThrOK s u l) : ThrOK s' u l :=
  h.sameCells g.cells g.popper g.completions g.now g.closed (fun _ x => g.issued ▸ x)
    (fun _ _ a b => by rw [g.answer, g.outstanding]; exact ⟨a, b⟩) (fun _ _ x => g.answer ▸ x)

theorem freshSeq_of_eq {s s' : St} {r : Seq} (h : freshSeq s r) (e1 : s'.cells r = s.cells r)
    (e2 : s'.answer r = s.answer r) (e3 : r ∈ s'.outstanding → r ∈ s.outstanding) (e4 : s'.popper r = s.popper r)
    (e5 : s'.completions r = s.completions r) : freshSeq s' r := by
  obtain ⟨a, b, c, d, e⟩ := h
  exact ⟨e1 ▸ a, e2 ▸ b, fun x => c (e3 x), e4 ▸ d, e5 ▸ e⟩

/-- `s'` differs from `s` in the shared state only in what belongs to request `q`: its cell, which is now `c`, its
popper, its completion count -/
structure CellRel (s s' : St) (q : Seq) (c : Cell) : Prop where
  issued : s'.issued = s.issued
  seqCounter : s'.seqCounter = s.seqCounter
  outstanding : s'.outstanding = s.outstanding
  answer : s'.answer = s.answer
  chan : s'.chan = s.chan
  now : s'.now = s.now
  closed : s'.closed = s.closed
  cell : s'.cells q = c
  cells : ∀ r, r ≠ q → s'.cells r = s.cells r
  popper : ∀ r, r ≠ q → s'.popper r = s.popper r
  completions : ∀ r, r ≠ q → s'.completions r = s.completions r

/-- `setCell`, whatever else happens to the fields `SameGlob.unseen` lists -/
theorem CellRel.setCell {s : St} {q : Seq} {c : Cell} {loc : Tid → Loc} {rl cl : Option Tid} {ws : List Tid} {e : Bool}
    {fs : Nat → FStat} {dc : Nat → Nat} {pop : Seq → Option Tid} {cmp : Seq → Nat}
    (hp : ∀ r, r ≠ q → pop r = s.popper r) (hc : ∀ r, r ≠ q → cmp r = s.completions r) :
    CellRel s { s with loc := loc, recvLock := rl, condLock := cl, waiters := ws, eof := e, fstat := fs, dcount := dc,
                       cells := fun r => if r = q then c else s.cells r, popper := pop, completions := cmp } q c :=
  ⟨rfl, rfl, rfl, rfl, rfl, rfl, rfl, if_pos rfl, fun _ hr => if_neg hr, hp, hc⟩

theorem GlobOK.updAt {s s' : St} {q : Seq} {c : Cell} (h : GlobOK s) (r : CellRel s s' q c) (hq : q < s.seqCounter)
    (hreg : c.reg = true → s'.popper q = none ∧ s'.completions q = 0 ∧ c.ready = false)
    (hobj : ∀ v, c.obj = some v → ∃ e, s.answer q = some (e, v))
    (hexc : ∀ e, c.isExc = some e → ∃ v, s.answer q = some (e, v))
    (hcompl : s'.completions q ≤ 1)
    (hrdy : c.ready = true → s'.completions q = 1 ∧ c.obj.isSome = true ∧ c.isExc.isSome = true)
    (heof : c.eofed = (s.cells q).eofed) (heofr : c.eofed = true → c.ready = true) :
    GlobOK s' where
  issued_lt := by simpa only [r.issued, r.seqCounter] using h.issued_lt
  issued_nodup := by simpa only [r.issued] using h.issued_nodup
  fresh := fun x hx => by
    rw [r.seqCounter] at hx
    have hne : x ≠ q := Nat.ne_of_gt (Nat.lt_of_lt_of_le hq hx)
    exact freshSeq_of_eq (h.fresh x hx) (r.cells x hne) (by rw [r.answer]) (fun y => r.outstanding ▸ y) (r.popper x hne)
      (r.completions x hne)
  out_nodup := by simpa only [r.outstanding] using h.out_nodup
  out_unanswered := by simpa only [r.outstanding, r.answer, r.seqCounter] using h.out_unanswered
  reg_clean := fun x => by
    by_cases hx : x = q
    · subst hx; rw [r.cell]; exact hreg
    · simpa only [r.cells x hx, r.popper x hx, r.completions x hx] using h.reg_clean x
  chan_answer := fun f hf => by
    rw [r.answer]
    refine (h.chan_answer f (r.chan ▸ hf)).imp id (fun x => ?_)
    by_cases hx : f.seq = q
    · rw [hx] at x ⊢; rw [r.cell, heof]; exact x
    · rw [r.cells _ hx]; exact x
  eofed_ready := fun x => by
    by_cases hx : x = q
    · subst hx; rw [r.cell]; exact heofr
    · simpa only [r.cells x hx] using h.eofed_ready x
  obj_answer := fun x => by
    by_cases hx : x = q
    · subst hx; simpa only [r.answer, r.cell] using hobj
    · simpa only [r.cells x hx, r.answer] using h.obj_answer x
  exc_answer := fun x => by
    by_cases hx : x = q
    · subst hx; simpa only [r.answer, r.cell] using hexc
    · simpa only [r.cells x hx, r.answer] using h.exc_answer x
  compl_le := fun x => by
    by_cases hx : x = q
    · subst hx; exact hcompl
    · simpa only [r.completions x hx] using h.compl_le x
  ready_compl := fun x => by
    by_cases hx : x = q
    · subst hx; rw [r.cell]; exact hrdy
    · simpa only [r.cells x hx, r.completions x hx] using h.ready_compl x

/-- what thread `u` needs from such a change: if it owns `q`, it is past `c1` and its deadline stays; if it popped `q`,
what its location remembers of the cell stays; `ready` and `eofed` are not taken back -/
theorem ThrOK.updAt {s s' : St} {u : Tid} {l : Loc} {q : Seq} {c : Cell} (h : ThrOK s u l) (r : CellRel s s' q c)
    (h_own : l.hasSeq = true → l.seq = q → l.pc ≠ .c1 ∧ (l.pc.inServe = true → c.ttl = (s.cells q).ttl))
    (h_pop : s.popper q = some u → s'.popper q = some u ∧ s'.completions q = s.completions q ∧
      c.reg = (s.cells q).reg ∧ c.ready = (s.cells q).ready ∧
      ((l.pc = .d4 ∨ l.pc = .d5) → c.isExc = (s.cells q).isExc) ∧ (l.pc = .d5 → c.obj = (s.cells q).obj))
    (h_rdy : (s.cells q).ready = true → c.ready = true)
    (h_self : l.hasSeq = true → l.seq = q → c.ready = true → s'.popper q = some u →
      (s.cells q).ready = true ∧ s.popper q = some u)
    (h_eof : (s.cells q).eofed = true → c.eofed = true) : ThrOK s' u l := by
  refine h.transfer' (fun _ x => r.issued ▸ x) ?_ ?_ ?_ ?_ (fun x a _ => by rw [r.answer]; exact a) ?_ ?_ ?_
    (r.now ▸ Nat.le_refl _)
  · intro a b fr
    have ne : l.seq ≠ q := fun e => (h_own a e).1 b
    exact freshSeq_of_eq fr (r.cells _ ne) (by rw [r.answer]) (fun x => r.outstanding ▸ x) (r.popper _ ne)
      (r.completions _ ne)
  · intro _ _ x
    exact ⟨r.closed ▸ x, fun a b => by rw [r.answer, r.outstanding]; exact ⟨a, b⟩⟩
  · intro x hx _
    by_cases e : x = q
    · subst e; rw [r.cell]; exact h_pop hx
    · rw [r.popper x e, r.completions x e, r.cells x e]; exact ⟨hx, rfl, rfl, rfl, fun _ => rfl, fun _ => rfl⟩
  · intro f x
    rw [r.answer]
    refine x.imp id (fun y => ?_)
    by_cases e : f.seq = q
    · rw [e] at y ⊢; rw [r.cell]; exact h_eof y
    · rw [r.cells _ e]; exact y
  · intro x
    by_cases e : l.seq = q
    · rw [e] at x ⊢; rw [r.cell]; exact h_rdy x
    · rw [r.cells _ e]; exact x
  · intro a x y
    by_cases e : l.seq = q
    · rw [e] at x y ⊢; rw [r.cell] at x; exact .inl (h_self a e x y)
    · rw [r.cells _ e] at x; rw [r.popper _ e] at y; exact .inl ⟨x, y⟩
  · intro a b
    by_cases e : l.seq = q
    · rw [e, r.cell]; exact (h_own a e).2 b
    · rw [r.cells _ e]

/-- `ThrOK.completing` for the callback the thread is known to have popped -/
theorem ThrOK.compl_facts {s : St} {t : Tid} {l : Loc} (h : ThrOK s t l) (hc : l.pc.completing = true)
    {q : Seq} (hcb : l.cb = some q) : ∃ f, l.data = some f ∧ Popped s t l.pc q f := by
  obtain ⟨q0, f, c1, c2, c3, c4, c5, c6, c7, c8, c9⟩ := h.completing hc
  rw [hcb] at c1
  cases c1
  exact ⟨f, c2, c3, c4, c5, c6, c7, c8, c9⟩

/-- `_seq_request_callback` popped the callback of the frame in hand -/
theorem ThrOK.pop {s : St} {t : Tid} {l : Loc} {f : Frame} (h : ThrOK s t l) (hp : l.pc = .d1) (hd : l.data = some f)
    (hpop : s.popper f.seq = some t) (hreg : (s.cells f.seq).reg = false) (hc : s.completions f.seq = 0)
    (hr : (s.cells f.seq).ready = false) : ThrOK s t { l with pc := .d2, cb := some f.seq } := by
  have hra := h.raising_false_of_data hd
  have hs : ({ l with pc := .d2, cb := some f.seq } : Loc).hasSeq = true → l.hasSeq = true :=
    fun a => (hasSeq_iff l).2 ⟨((hasSeq_iff _).1 a).1, by rw [hp]; decide⟩
  exact {
    bg_pc := fun _ => rfl
    nowait_ok := fun a => ⟨(h.nowait_ok a).1, rfl⟩
    seq_issued := fun a => h.seq_issued (hs a)
    at_c1 := nofun
    at_c2 := nofun
    raising_pc := fun a => nomatch hra.symm.trans a
    nodata := fun a => a.elim nofun (fun x => nomatch hra.symm.trans x)
    cb_pc := fun _ _ => rfl
    completing := fun _ => ⟨f.seq, f, rfl, hd, rfl, hpop, hreg, hc, hr, nofun, nofun⟩
    data_answer := h.data_answer
    at_w10 := nofun
    result_ok := h.result_ok
    self_dispatch := fun a b c => (h.self_dispatch (hs a) b c).imp (fun w => by rw [hp] at w; cases w) id
    dl_ttl := fun a _ => h.dl_ttl (hs a) (by rw [hp]; rfl)
    wdl_le := nofun }

/-- the thread becomes an idle client: nothing is claimed about it except its result -/
theorem thrOK_idle {s : St} {t : Tid} {l l' : Loc} (h : ThrOK s t l) (hpc : l'.pc = .idle) (hbg : l'.bg = false)
    (hnw : l'.nowait = false) (hra : l'.raising = false)
    (hcb : l'.cb = none) (hdata : l'.data = l.data) (hseq : l'.seq = l.seq)
    (hr : ∀ e o, l'.result = some (.value e o) → ∃ e' v, s.answer l.seq = some (e', v) ∧ e = some e' ∧ o = some v ∧
      (s.cells l.seq).ready = true) :
    ThrOK s t l' where
  bg_pc := fun a => by rw [hbg] at a; cases a
  nowait_ok := fun a => by rw [hnw] at a; cases a
  seq_issued := fun a => absurd hpc ((hasSeq_iff _).1 a).2
  at_c1 := fun _ b => by rw [hpc] at b; cases b
  at_c2 := fun _ b => by rw [hpc] at b; cases b
  raising_pc := fun a => by rw [hra] at a; cases a
  nodata := fun a => by
    rcases a with a | a
    · rw [hpc] at a; cases a
    · rw [hra] at a; cases a
  cb_pc := fun q a => by rw [hcb] at a; cases a
  completing := fun a => by rw [hpc] at a; cases a
  data_answer := fun f a => h.data_answer f (hdata ▸ a)
  at_w10 := fun _ b => by rw [hpc] at b; cases b
  result_ok := fun e o a => by rw [hseq]; exact hr e o a
  self_dispatch := fun a => absurd hpc ((hasSeq_iff _).1 a).2
  dl_ttl := fun a => absurd hpc ((hasSeq_iff _).1 a).2
  wdl_le := fun b => by rw [hpc] at b; cases b

/-! ### the first `close()`: every still registered request is dropped, and completed with `EOFError` unless expired -/

/-- `s'` is `s` after thread `t` ran `close()` for the first time (shared part) -/
structure CloseRel (s s' : St) (t : Tid) : Prop where
  issued : s'.issued = s.issued
  now : s'.now = s.now
  chan : s'.chan = s.chan
  closed : s'.closed = true
  counter : s'.seqCounter = s.seqCounter + 1
  cells : s'.cells = fun q =>
    if (s.cells q).reg then
      (if expiredAt (s.cells q).ttl s.now then { s.cells q with reg := false }
       else { s.cells q with reg := false, isExc := some true, obj := some eofVal, ready := true, eofed := true })
    else s.cells q
  answer : s'.answer = fun q => if closePublishes s q then some (true, eofVal) else s.answer q
  completions : s'.completions = fun q => if closePublishes s q then s.completions q + 1 else s.completions q
  popper : s'.popper = fun q => if (s.cells q).reg then some t else s.popper q
  outstanding : s'.outstanding = s.outstanding.filter (fun q => !closePublishes s q)

theorem CloseRel.unreg {s s' : St} {t : Tid} (c : CloseRel s s' t) {q : Seq} (hr : (s.cells q).reg = false) :
    s'.cells q = s.cells q ∧ s'.answer q = s.answer q ∧ s'.completions q = s.completions q ∧
    s'.popper q = s.popper q := by
  simp [c.cells, c.answer, c.completions, c.popper, closePublishes, hr]

theorem CloseRel.pub {s s' : St} {t : Tid} (c : CloseRel s s' t) {q : Seq} (hc : closePublishes s q = true) :
    s'.cells q = { s.cells q with reg := false, isExc := some true, obj := some eofVal, ready := true, eofed := true } ∧
    s'.answer q = some (true, eofVal) ∧ s'.completions q = s.completions q + 1 ∧ s'.popper q = some t := by
  have h1 : (s.cells q).reg = true ∧ expiredAt (s.cells q).ttl s.now = false := by
    simpa [closePublishes] using hc
  simp [c.cells, c.answer, c.completions, c.popper, hc, h1.1, h1.2]

theorem CloseRel.keep {s s' : St} {t : Tid} (c : CloseRel s s' t) {q : Seq} (hc : closePublishes s q = false) :
    s'.cells q = { s.cells q with reg := false } ∧ s'.answer q = s.answer q ∧
    s'.completions q = s.completions q := by
  cases hr : (s.cells q).reg
  · obtain ⟨e1, e2, e3, _⟩ := c.unreg hr
    refine ⟨e1.trans ?_, e2, e3⟩
    generalize s.cells q = x at hr
    cases x; cases hr; rfl
  · have h1 : expiredAt (s.cells q).ttl s.now = true := by
      simpa [closePublishes, hr] using hc
    simp [c.cells, c.answer, c.completions, hc, hr, h1]

theorem closePublishes_reg {s : St} {q : Seq} (hc : closePublishes s q = true) : (s.cells q).reg = true := by
  have : (s.cells q).reg = true ∧ expiredAt (s.cells q).ttl s.now = false := by simpa [closePublishes] using hc
  exact this.1

theorem closePublishes_false {s : St} {q : Seq} (hr : (s.cells q).reg = false) : closePublishes s q = false := by
  simp [closePublishes, hr]

theorem CloseRel.reg {s s' : St} {t : Tid} (c : CloseRel s s' t) (q : Seq) : (s'.cells q).reg = false := by
  cases hc : closePublishes s q
  · rw [(c.keep hc).1]
  · rw [(c.pub hc).1]

theorem CloseRel.ttl {s s' : St} {t : Tid} (c : CloseRel s s' t) (q : Seq) : (s'.cells q).ttl = (s.cells q).ttl := by
  cases hc : closePublishes s q
  · rw [(c.keep hc).1]
  · rw [(c.pub hc).1]

theorem CloseRel.mem_out {s s' : St} {t : Tid} (c : CloseRel s s' t) {q : Seq} (hq : q ∈ s'.outstanding) :
    q ∈ s.outstanding ∧ closePublishes s q = false := by
  rw [c.outstanding] at hq
  obtain ⟨a, b⟩ := List.mem_filter.1 hq
  exact ⟨a, by simpa using b⟩

theorem CloseRel.fresh {s s' : St} {t : Tid} (c : CloseRel s s' t) {q : Seq} (h : freshSeq s q) : freshSeq s' q := by
  have hr : (s.cells q).reg = false := by rw [h.1]
  obtain ⟨e1, e2, e3, e4⟩ := c.unreg hr
  exact freshSeq_of_eq h e1 e2 (fun x => (c.mem_out x).1) e4 e3

theorem CloseRel.frame {s s' : St} {t : Tid} (c : CloseRel s s' t) (f : Frame)
    (h : s.answer f.seq = some (f.exc, f.val) ∨ (s.cells f.seq).eofed = true) :
    s'.answer f.seq = some (f.exc, f.val) ∨ (s'.cells f.seq).eofed = true := by
  cases hc : closePublishes s f.seq
  · rw [(c.keep hc).1, (c.keep hc).2.1]; exact h
  · right; rw [(c.pub hc).1]

theorem GlobOK.close {s s' : St} {t : Tid} (h : GlobOK s) (c : CloseRel s s' t) : GlobOK s' where
  issued_lt := fun q hq => by
    rw [c.counter]; exact Nat.lt_succ_of_lt (h.issued_lt q (c.issued ▸ hq))
  issued_nodup := c.issued ▸ h.issued_nodup
  fresh := fun q hq => by
    rw [c.counter] at hq
    exact c.fresh (h.fresh q (Nat.le_of_succ_le hq))
  out_nodup := by rw [c.outstanding]; exact List.Pairwise.filter _ h.out_nodup
  out_unanswered := fun q hq => by
    obtain ⟨a, b⟩ := c.mem_out hq
    obtain ⟨x, y⟩ := h.out_unanswered q a
    exact ⟨(c.keep b).2.1.trans x, by rw [c.counter]; exact Nat.lt_succ_of_lt y⟩
  reg_clean := fun q hq => by rw [c.reg q] at hq; cases hq
  chan_answer := fun f hf => c.frame f (h.chan_answer f (c.chan ▸ hf))
  eofed_ready := fun q hq => by
    cases hc : closePublishes s q
    · rw [(c.keep hc).1] at hq ⊢; exact h.eofed_ready q hq
    · rw [(c.pub hc).1]
  obj_answer := fun q v hv => by
    cases hc : closePublishes s q
    · rw [(c.keep hc).1] at hv; rw [(c.keep hc).2.1]; exact h.obj_answer q v hv
    · rw [(c.pub hc).1] at hv
      cases hv
      exact ⟨true, (c.pub hc).2.1⟩
  exc_answer := fun q e he => by
    cases hc : closePublishes s q
    · rw [(c.keep hc).1] at he; rw [(c.keep hc).2.1]; exact h.exc_answer q e he
    · rw [(c.pub hc).1] at he
      cases he
      exact ⟨eofVal, (c.pub hc).2.1⟩
  compl_le := fun q => by
    cases hc : closePublishes s q
    · rw [(c.keep hc).2.2]; exact h.compl_le q
    · rw [(c.pub hc).2.2.1, (h.reg_clean q (closePublishes_reg hc)).2.1]; exact Nat.le_refl _
  ready_compl := fun q hq => by
    cases hc : closePublishes s q
    · rw [(c.keep hc).1] at hq ⊢; rw [(c.keep hc).2.2]; exact h.ready_compl q hq
    · rw [(c.pub hc).1, (c.pub hc).2.2.1, (h.reg_clean q (closePublishes_reg hc)).2.1]
      exact ⟨rfl, rfl, rfl⟩

/-- every thread's part survives the first `close()` by `t` (for `t` itself: it is `raising` afterwards) -/
theorem ThrOK.close {s s' : St} {t u : Tid} {l : Loc} (h : ThrOK s u l) (g : GlobOK s) (c : CloseRel s s' t)
    (hself : u = t → l.raising = true) : ThrOK s' u l := by
  refine h.transfer' (fun _ x => c.issued ▸ x) (fun _ _ fr => c.fresh fr) ?_ ?_ c.frame ?_ ?_ ?_
    (fun _ _ => c.ttl _) (c.now ▸ Nat.le_refl _)
  · intro _ _ x
    rw [c.closed] at x; cases x
  · intro q hq hr
    obtain ⟨e1, _, e3, e4⟩ := c.unreg hr
    rw [e1, e3, e4]
    exact ⟨hq, rfl, rfl, rfl, fun _ => rfl, fun _ => rfl⟩
  · intro x hx hr
    rw [(c.unreg (g.unreg_of_ready hr)).2.1]; exact hx
  · intro hr
    rw [(c.unreg (g.unreg_of_ready hr)).1]; exact hr
  · intro _ a b
    cases k : (s.cells l.seq).reg with
    | false =>
      obtain ⟨e1, _, _, e4⟩ := c.unreg k
      rw [e1] at a; rw [e4] at b
      exact .inl ⟨a, b⟩
    | true =>
      have : s'.popper l.seq = some t := by simp [c.popper, k]
      rw [this] at b
      cases b
      exact .inr (hself rfl)

theorem InvS'.assemble {s s' : St} (t : Tid) (l' : Loc) (h : InvS' s) (hl : s'.loc = (setLoc s t l').loc)
    (hinj : l'.hasSeq = true → ∀ u, u ≠ t → (s.loc u).hasSeq = true → l'.seq ≠ (s.loc u).seq)
    (glob : GlobOK s') (ht : ThrOK s' t l') (hu : ∀ u, u ≠ t → ThrOK s' u (s.loc u)) : InvS' s' := by
  have loc_t : s'.loc t = l' := by rw [hl, setLoc_loc_self]
  have loc_u : ∀ u, u ≠ t → s'.loc u = s.loc u := fun u e => by rw [hl, setLoc_loc_ne _ _ e]
  refine ⟨glob, fun u => ?_, fun u w a b e => ?_⟩
  · by_cases eu : u = t
    · rw [eu, loc_t]; exact ht
    · rw [loc_u u eu]; exact hu u eu
  · by_cases eu : u = t <;> by_cases ew : w = t
    · rw [eu, ew]
    · rw [eu, loc_t] at a e; rw [loc_u w ew] at b e; exact absurd e (hinj a w ew b)
    · rw [ew, loc_t] at b e; rw [loc_u u eu] at a e; exact absurd e.symm (hinj b u eu a)
    · rw [loc_u u eu] at a e; rw [loc_u w ew] at b e; exact h.seq_inj u w a b e

/-- `assemble` for a step in which `t` keeps its request or gives it up (`hseq`), so that `seq_inj` carries over; only `call`, which
takes a new seq, uses `assemble` itself -/
theorem InvS'.step' {s s' : St} (t : Tid) (l' : Loc) (h : InvS' s) (hl : s'.loc = (setLoc s t l').loc)
    (hseq : l'.hasSeq = true → (s.loc t).hasSeq = true ∧ l'.seq = (s.loc t).seq)
    (glob : GlobOK s') (ht : ThrOK s' t l') (hu : ∀ u, u ≠ t → ThrOK s' u (s.loc u)) : InvS' s' :=
  h.assemble t l' hl (fun a u ne b e => ne (h.seq_inj u t b (hseq a).1 (e.symm.trans (hseq a).2))) glob ht hu

theorem InvS'.locOnly {s s' : St} {t : Tid} (l' : Loc) (h : InvS' s) (g : SameGlob s s')
    (hl : s'.loc = (setLoc s t l').loc) (ht : ThrOK s t l')
    (hseq : l'.hasSeq = true → (s.loc t).hasSeq = true ∧ l'.seq = (s.loc t).seq) : InvS' s' :=
  h.step' t l' hl hseq (g.glob h.glob) (g.thr ht) (fun u _ => g.thr (h.thr u))

theorem InvS'.pcOnly {s s' : St} {t : Tid} {p : PC} (p' : PC) (h : InvS' s) (hp : (s.loc t).pc = p)
    (ok : PC.FrameOK p p') (gate : ThrOK.At s t { s.loc t with pc := p' } p') (g : SameGlob s s')
    (hl : s'.loc = (setLoc s t { s.loc t with pc := p' }).loc) : InvS' s' :=
  h.locOnly _ g hl ((h.thr t).setPc p' hp ok gate) (setPc_hasSeq hp ok.1)

theorem InvS'.sameGlob {s s' : St} (h : InvS' s) (g : SameGlob s s') (hl : s'.loc = s.loc) : InvS' s' :=
  ⟨g.glob h.glob, fun t => hl ▸ g.thr (h.thr t), hl ▸ h.seq_inj⟩

end Rpyc.Conc.Serve
