import RpycModel.Conc.Serve.SeqsAux
/-
`InvS` (sequence numbers, callbacks table, result cells, results handed to callers, deadlines)
holds in every reachable state of the receive-side machine.

The proof goes through the stronger `InvS'` of `SeqsAux.lean`: a lemma for each step with an argument of its own, then
`invS'_run` and `invS'_step` by cases on the step tables of `Basic.lean`.
-/
namespace Rpyc.Conc.Serve

theorem invS'_w0 {s : St} {t : Tid} (h : InvS' s) (hp : (s.loc t).pc = .w0) : InvS' (doW0 s t (s.loc t)) := by
  unfold doW0
  cases hc : (!(s.cells (s.loc t).seq).ready && !expiredAt (s.cells (s.loc t).seq).ttl s.now)
  · exact h.pcOnly .w9 hp (by decide) trivial .unseen rfl
  · refine h.locOnly _ .unseen rfl ?_ (setPc_hasSeq hp (by decide))
    -- the thread leaves the wait for its result only if the result is not there
    refine (h.thr t).goto .s0 hp (by decide) trivial (fun _ hr _ => ?_) nofun
    rw [hr] at hc; cases hc

theorem invS'_s0 {s : St} {t : Tid} (h : InvS' s) (hp : (s.loc t).pc = .s0) : InvS' (doS0 s t (s.loc t)) := by
  unfold doS0
  have ht := h.thr t
  refine h.locOnly _ .unseen rfl ?_ (setPc_hasSeq hp (by decide))
  refine ht.goto .s1 hp (by decide) trivial
    (fun a b c => (ht.self_dispatch a b c).imp (fun w => by rw [hp] at w; cases w) id) (fun a _ => ?_)
  -- a client's deadline in `serve` is the expiry of its request
  obtain ⟨hb, _⟩ := (hasSeq_iff _).1 a
  rw [ht.nowait_false_of_bg hb, hb]; rfl

theorem invS'_leave {s s' : St} {t : Tid} (h : InvS' s) (hp : (s.loc t).pc ≠ .idle)
    (hr : (s.loc t).raising = false) (g : SameGlob s s') (hl : s'.loc = (setLoc s t (leaveServe (s.loc t))).loc) :
    InvS' s' :=
  h.locOnly _ g hl ((h.thr t).leaveServe hp hr) (hasSeq_frame hp rfl rfl)

/-- `poll`/`recv` at `p0`: `EOFError` (→ `x0`), or a timeout or a frame (→ `r0`) -/
theorem invS'_p0_aux {s s' : St} {t : Tid} (p' : PC) (x : Option Frame) (h : InvS' s) (hp : (s.loc t).pc = .p0)
    (hp' : p' = .x0 ∧ x = none ∨ p' = .r0)
    (hx : ∀ f, x = some f → s.answer f.seq = some (f.exc, f.val) ∨ (s.cells f.seq).eofed = true)
    (g : SameGlob s s') (hl : s'.loc = (setLoc s t { s.loc t with pc := p', data := x }).loc) : InvS' s' := by
  have ht := (h.thr t).setData x (by rw [hp]; rfl) (by rw [hp]; decide) ((h.thr t).raising_false (by rw [hp]; rfl)) hx
  refine h.locOnly _ g hl ?_ (hasSeq_frame (by rw [hp]; decide) rfl rfl)
  rcases hp' with ⟨rfl, rfl⟩ | rfl
  · exact ht.setPc .x0 hp (by decide) rfl
  · exact ht.setPc .r0 hp (by decide) trivial

/-- `self.close(); raise`: what the thread knows afterwards, before the shared state changes -/
theorem ThrOK.x0 {s : St} {t : Tid} {l : Loc} (h : ThrOK s t l) (hp : l.pc = .x0) :
    ThrOK s t { l with pc := .r0, raising := true } :=
  (h.setPc .r0 hp (by decide) trivial).raise rfl (h.nodata (.inl hp))

theorem invS'_w10 {s : St} {t : Tid} (h : InvS' s) (hp : (s.loc t).pc = .w10) : InvS' (doW10 s t (s.loc t)) := by
  have ht := h.thr t
  have hb : (s.loc t).bg = false := ht.bg_false_of_client (by rw [hp]; rfl)
  have hr := ht.at_w10 ((hasSeq_iff _).2 ⟨hb, by rw [hp]; decide⟩) hp
  obtain ⟨e, v, he, hv, ha⟩ := h.glob.ready_answer hr
  refine h.locOnly _ .unseen rfl (thrOK_idle ht rfl hb (ht.nowait_false_of_bg hb)
    (ht.raising_false (by rw [hp]; rfl)) (ht.cb_none (by rw [hp]; rfl)) rfl rfl ?_) (hasSeq_idle rfl)
  intro _ _ heq
  cases heq
  exact ⟨e, v, ha, he, hv, hr⟩

theorem invS'_call {s : St} {t : Tid} (tmo : Option Nat) (h : InvS' s) (hp : (s.loc t).pc = .idle)
    (hb : (s.loc t).bg = false) : InvS' (doCall s t (s.loc t) tmo) := by
  have ht := h.thr t
  have hra : (s.loc t).raising = false := ht.raising_false (by rw [hp]; rfl)
  have hfr := h.glob.fresh s.seqCounter (Nat.le_refl _)
  -- the new seq is the counter; every seq in use was issued, hence is below it
  refine h.assemble t _ rfl
    (fun _ u _ b e => Nat.lt_irrefl _ (e ▸ h.glob.issued_lt _ ((h.thr u).seq_issued b))) ?_ ?_ ?_
  · exact {
      issued_lt := fun q hq => by
        rcases List.mem_cons.1 hq with rfl | hq
        · exact Nat.lt_succ_self _
        · exact Nat.lt_succ_of_lt (h.glob.issued_lt q hq)
      issued_nodup := List.nodup_cons.2 ⟨fun hm => Nat.lt_irrefl _ (h.glob.issued_lt _ hm), h.glob.issued_nodup⟩
      fresh := fun q hq => h.glob.fresh q (Nat.le_of_succ_le hq)
      out_nodup := h.glob.out_nodup
      out_unanswered := fun q hq =>
        ⟨(h.glob.out_unanswered q hq).1, Nat.lt_succ_of_lt (h.glob.out_unanswered q hq).2⟩
      reg_clean := h.glob.reg_clean
      chan_answer := h.glob.chan_answer
      eofed_ready := h.glob.eofed_ready
      obj_answer := h.glob.obj_answer
      exc_answer := h.glob.exc_answer
      compl_le := h.glob.compl_le
      ready_compl := h.glob.ready_compl }
  · exact {
      bg_pc := fun a => nomatch hb.symm.trans a
      nowait_ok := fun a => nomatch (ht.nowait_false_of_bg hb).symm.trans a
      raising_pc := fun a => nomatch hra.symm.trans a
      nodata := fun _ => rfl
      seq_issued := fun _ => List.mem_cons_self
      at_c1 := fun _ _ => hfr
      at_c2 := nofun
      cb_pc := nofun
      completing := nofun
      data_answer := nofun
      at_w10 := nofun
      result_ok := nofun
      self_dispatch := fun _ hr => nomatch (congrArg Cell.ready hfr.1).symm.trans hr
      dl_ttl := nofun
      wdl_le := nofun }
  · exact fun u _ => (h.thr u).sameCells rfl rfl rfl (Nat.le_refl _) rfl (fun _ x => List.mem_cons_of_mem _ x)
      (fun _ _ a b => ⟨a, b⟩) (fun _ _ x => x)

theorem invS'_c1 {s : St} {t : Tid} (h : InvS' s) (hp : (s.loc t).pc = .c1) : InvS' (doC1 s t (s.loc t)) := by
  have ht := h.thr t
  have hb : (s.loc t).bg = false := ht.bg_false_of_client (by rw [hp]; rfl)
  have hseq : (s.loc t).hasSeq = true := (hasSeq_iff _).2 ⟨hb, by rw [hp]; decide⟩
  obtain ⟨f1, f2, f3, f4, f5⟩ := ht.at_c1 hseq hp
  have r : CellRel s (doC1 s t (s.loc t)) (s.loc t).seq { s.cells (s.loc t).seq with reg := true } :=
    .setCell (fun _ _ => rfl) (fun _ _ => rfl)
  -- the seq is fresh, so nobody popped it; the cell is still empty, and its owner is past `c1` afterwards
  have thr : ∀ {u l}, ThrOK s u l → (l.hasSeq = true → l.seq = (s.loc t).seq → l.pc ≠ .c1) →
      ThrOK (doC1 s t (s.loc t)) u l := fun hu own =>
    hu.updAt r (fun a e => ⟨own a e, fun _ => rfl⟩) (fun x => nomatch f4.symm.trans x) id (fun _ _ a b => ⟨a, b⟩) id
  refine h.step' t _ rfl (hasSeq_frame (by rw [hp]; decide) rfl rfl) ?_ ?_ ?_
  · exact h.glob.updAt r (h.glob.issued_lt _ (ht.seq_issued hseq)) (fun _ => ⟨f4, f5, congrArg Cell.ready f1⟩)
      (fun _ x => nomatch (congrArg Cell.obj f1).symm.trans x) (fun _ x => nomatch (congrArg Cell.isExc f1).symm.trans x)
      (Nat.le_trans (Nat.le_of_eq f5) (Nat.zero_le 1)) (fun x => nomatch (congrArg Cell.ready f1).symm.trans x) rfl
      (fun x => nomatch (congrArg Cell.eofed f1).symm.trans x)
  · exact thr (ht.setPc .c2 hp (by decide) (fun _ _ => ⟨f2, f3⟩)) (fun _ _ => nofun)
  · exact fun u hu => thr (h.thr u) (fun a e => absurd (h.seq_inj u t a hseq e) hu)

theorem invS'_c2_send {s : St} {t : Tid} (h : InvS' s) (hp : (s.loc t).pc = .c2) (hcl : s.closed = false) :
    InvS' (setLoc { s with outstanding := s.outstanding ++ [(s.loc t).seq] } t
      { s.loc t with pc := if (s.loc t).tmo.isSome then .c3 else .w0 }) := by
  have ht := h.thr t
  have hb : (s.loc t).bg = false := ht.bg_false_of_client (by rw [hp]; rfl)
  have hseq : (s.loc t).hasSeq = true := (hasSeq_iff _).2 ⟨hb, by rw [hp]; decide⟩
  obtain ⟨f2, f3⟩ := ht.at_c2 hseq hp hcl
  have hq : (s.loc t).seq < s.seqCounter := h.glob.issued_lt _ (ht.seq_issued hseq)
  have hmem : ∀ r, r ∈ s.outstanding ++ [(s.loc t).seq] → r ∈ s.outstanding ∨ r = (s.loc t).seq := by
    intro r hr
    rcases List.mem_append.1 hr with x | x
    · exact .inl x
    · exact .inr (List.mem_singleton.1 x)
  refine h.step' t _ rfl (hasSeq_frame (by rw [hp]; decide) rfl rfl) ?_ ?_ ?_
  · exact {
      issued_lt := h.glob.issued_lt
      issued_nodup := h.glob.issued_nodup
      fresh := fun r hr => by
        refine freshSeq_of_eq (h.glob.fresh r hr) rfl rfl (fun x => ?_) rfl rfl
        rcases hmem r x with x | x
        · exact x
        · subst x; exact absurd hq (Nat.not_lt.2 hr)
      out_nodup := List.nodup_append.2 ⟨h.glob.out_nodup, List.pairwise_singleton _ _, fun a ha b hb => by
        rw [List.mem_singleton.1 hb]; intro e; subst e; exact f3 ha⟩
      out_unanswered := fun r hr => by
        rcases hmem r hr with x | x
        · exact h.glob.out_unanswered r x
        · subst x; exact ⟨f2, hq⟩
      reg_clean := h.glob.reg_clean
      chan_answer := h.glob.chan_answer
      eofed_ready := h.glob.eofed_ready
      obj_answer := h.glob.obj_answer
      exc_answer := h.glob.exc_answer
      compl_le := h.glob.compl_le
      ready_compl := h.glob.ready_compl }
  · split
    · exact (ht.setPc .c3 hp (by decide) trivial).sameCells rfl rfl rfl (Nat.le_refl _) rfl (fun _ x => x)
        (fun _ b => nomatch b) (fun _ _ x => x)
    · exact (ht.setPc .w0 hp (by decide) trivial).sameCells rfl rfl rfl (Nat.le_refl _) rfl (fun _ x => x)
        (fun _ b => nomatch b) (fun _ _ x => x)
  · intro u hu
    exact (h.thr u).sameCells rfl rfl rfl (Nat.le_refl _) rfl (fun _ x => x)
      (fun a _ x y => ⟨x, fun z => (hmem _ z).elim y (fun e => hu (h.seq_inj u t a hseq e))⟩) (fun _ _ x => x)

/-- `_send` on a closed channel: the callback is taken out of the table again -/
theorem invS'_c2_closed {s : St} {t : Tid} (h : InvS' s) (hp : (s.loc t).pc = .c2) :
    InvS' (setLoc (setCell s (s.loc t).seq { s.cells (s.loc t).seq with reg := false }) t
      { s.loc t with pc := .idle, result := some .eof }) := by
  have ht := h.thr t
  have hb : (s.loc t).bg = false := ht.bg_false_of_client (by rw [hp]; rfl)
  have hseq : (s.loc t).hasSeq = true := (hasSeq_iff _).2 ⟨hb, by rw [hp]; decide⟩
  have r : CellRel s (setLoc (setCell s (s.loc t).seq { s.cells (s.loc t).seq with reg := false }) t
      { s.loc t with pc := .idle, result := some .eof }) (s.loc t).seq { s.cells (s.loc t).seq with reg := false } :=
    .setCell (fun _ _ => rfl) (fun _ _ => rfl)
  -- whoever popped the callback meanwhile found it gone already
  have thr : ∀ {u}, ThrOK s u (s.loc u) → ((s.loc u).hasSeq = true → (s.loc u).seq = (s.loc t).seq → u = t) →
      ThrOK _ u (s.loc u) := fun hu own =>
    hu.updAt r (fun a e => ⟨fun x => (by rw [own a e, hp] at x; cases x), fun _ => rfl⟩)
      (fun x => ⟨x, rfl, (h.glob.unreg_of_popper x).symm, rfl, fun _ => rfl, fun _ => rfl⟩) id
      (fun _ _ a b => ⟨a, b⟩) id
  refine h.step' t _ rfl (hasSeq_idle rfl) ?_ ?_ ?_
  · exact h.glob.updAt r (h.glob.issued_lt _ (ht.seq_issued hseq)) nofun (h.glob.obj_answer _) (h.glob.exc_answer _)
      (h.glob.compl_le _) (h.glob.ready_compl _) rfl (h.glob.eofed_ready _)
  · exact thrOK_idle (thr ht (fun _ _ => rfl)) rfl hb (ht.nowait_false_of_bg hb) (ht.raising_false (by rw [hp]; rfl))
      (ht.cb_none (by rw [hp]; rfl)) rfl rfl nofun
  · exact fun u _ => thr (h.thr u) (fun a e => h.seq_inj u t a hseq e)

theorem invS'_c3 {s : St} {t : Tid} (h : InvS' s) (hp : (s.loc t).pc = .c3) : InvS' (doC3 s t (s.loc t)) := by
  have ht := h.thr t
  have hb : (s.loc t).bg = false := ht.bg_false_of_client (by rw [hp]; rfl)
  have hseq : (s.loc t).hasSeq = true := (hasSeq_iff _).2 ⟨hb, by rw [hp]; decide⟩
  have r : CellRel s (doC3 s t (s.loc t)) (s.loc t).seq
      { s.cells (s.loc t).seq with ttl := (s.loc t).tmo.map (s.now + ·) } := .setCell (fun _ _ => rfl) (fun _ _ => rfl)
  -- only the expiry changes, and its owner is not inside `serve`
  have thr : ∀ {u l}, ThrOK s u l → (l.hasSeq = true → l.seq = (s.loc t).seq → l.pc = .w0) →
      ThrOK (doC3 s t (s.loc t)) u l := fun hu own =>
    hu.updAt r (fun a e => ⟨fun x => (by rw [own a e] at x; cases x), fun x => (by rw [own a e] at x; cases x)⟩)
      (fun x => ⟨x, rfl, rfl, rfl, fun _ => rfl, fun _ => rfl⟩) id (fun _ _ a b => ⟨a, b⟩) id
  refine h.step' t _ rfl (hasSeq_frame (by rw [hp]; decide) rfl rfl) ?_ ?_ ?_
  · exact h.glob.updAt r (h.glob.issued_lt _ (ht.seq_issued hseq)) (h.glob.reg_clean _) (h.glob.obj_answer _)
      (h.glob.exc_answer _) (h.glob.compl_le _) (h.glob.ready_compl _) rfl (h.glob.eofed_ready _)
  · exact thr (ht.setPc .w0 hp (by decide) trivial) (fun _ _ => rfl)
  · exact fun u hu => thr (h.thr u) (fun a e => absurd (h.seq_inj u t a hseq e) hu)

/-- `_seq_request_callback` at `d1` finds the callback of the frame in hand and pops it -/
theorem invS'_pop {s s' : St} {t : Tid} {f : Frame} (h : InvS' s) (hp : (s.loc t).pc = .d1)
    (hd : (s.loc t).data = some f) (hreg : (s.cells f.seq).reg = true)
    (e : setLoc { setCell (markDispatched s f) f.seq { s.cells f.seq with reg := false } with
        popper := fun q => if q = f.seq then some t else s.popper q } t
      { s.loc t with pc := .d2, cb := some f.seq } = s') : InvS' s' := by
  obtain ⟨g1, g2, g3⟩ := h.glob.reg_clean _ hreg
  have hq : f.seq < s.seqCounter := h.glob.lt_of_not_fresh fun fr => nomatch (congrArg Cell.reg fr.1).symm.trans hreg
  -- read off the term field by field: matching it against the pattern of `CellRel.setCell` is slow
  have r : CellRel s s' f.seq { s.cells f.seq with reg := false } := by
    subst e
    exact ⟨rfl, rfl, rfl, rfl, rfl, rfl, rfl, if_pos rfl, fun _ hr => if_neg hr, fun _ hr => if_neg hr, fun _ _ => rfl⟩
  -- the callback was still in the table: nobody had popped it, its result is not there, its owner is past `c1`
  have thr : ∀ u, ThrOK s' u (s.loc u) := fun u =>
    (h.thr u).updAt r (fun a e => ⟨fun x => (by
        have := ((h.thr u).at_c1 a x).1
        rw [e] at this; rw [this] at hreg; cases hreg), fun _ => rfl⟩)
      (fun x => nomatch g1.symm.trans x) id (fun _ _ x => nomatch g3.symm.trans x) id
  refine h.step' t { s.loc t with pc := .d2, cb := some f.seq } (by subst e; rfl)
    (hasSeq_frame (by rw [hp]; decide) rfl rfl) ?_ ?_ (fun u _ => thr u)
  · exact h.glob.updAt r hq nofun (h.glob.obj_answer _) (h.glob.exc_answer _) (by subst e; exact h.glob.compl_le _)
      (fun x => nomatch g3.symm.trans x) rfl (h.glob.eofed_ready _)
  · exact (thr t).pop hp hd (by subst e; exact if_pos rfl) (by rw [r.cell]) (by subst e; exact g2)
      (by rw [r.cell]; exact g3)

/-- `AsyncResult.__call__` at `d3`, `d4`: the thread that popped `q` stores `_is_exc` (at `d4` once more what is
there already) and possibly `_obj` -/
theorem invS'_store {s : St} {t : Tid} {q : Seq} {f : Frame} {p : PC} (p' : PC) (o : Option Nat) (h : InvS' s)
    (hp : (s.loc t).pc = p) (hc : p.completing = true) (hp5 : p ≠ .d5) (ok : PC.FrameOK p p')
    (hcb : (s.loc t).cb = some q) (hd : (s.loc t).data = some f)
    (hp' : p' = .d4 ∨ p' = .d5) (ho : o = (s.cells q).obj ∨ o = some f.val) (ho5 : p' = .d5 → o = some f.val)
    {s' : St} (e : setLoc (setCell s q { s.cells q with isExc := some f.exc, obj := o }) t { s.loc t with pc := p' } = s') :
    InvS' s' := by
  have ht := h.thr t
  obtain ⟨f0, d0, c3, c4, c5, c6, c7, c8, _⟩ := ht.compl_facts (by rw [hp]; exact hc) hcb
  rw [hd] at d0; cases d0
  have hq : q < s.seqCounter := h.glob.lt_of_not_fresh fun fr => nomatch fr.2.2.2.1.symm.trans c4
  have hne : (s.cells q).eofed = false := h.glob.not_eofed c7
  have hans : s.answer q = some (f.exc, f.val) := by
    rcases ht.data_answer f hd with x | x
    · rw [c3] at x; exact x
    · rw [c3, hne] at x; cases x
  have r : CellRel s s' q { s.cells q with isExc := some f.exc, obj := o } :=
    e ▸ .setCell (fun _ _ => rfl) (fun _ _ => rfl)
  have epop : s'.popper = s.popper := e ▸ rfl
  have thr : ∀ u, ThrOK s' u (s.loc u) := fun u =>
    (h.thr u).updAt r (fun a e => ⟨fun x => (by
        have := ((h.thr u).at_c1 a x).2.2.2.1
        rw [e, c4] at this; cases this), fun _ => rfl⟩)
      (fun x => by
        cases x.symm.trans c4
        exact ⟨epop ▸ c4, e ▸ rfl, rfl, rfl, fun e => (c8 e).symm, fun e => absurd (hp.symm.trans e) hp5⟩)
      id (fun _ _ a b => ⟨a, epop ▸ b⟩) id
  refine h.step' t { s.loc t with pc := p' } (e ▸ rfl) (setPc_hasSeq hp ok.1) ?_ ?_ (fun u _ => thr u)
  · refine h.glob.updAt r hq (e ▸ h.glob.reg_clean _) (fun v hv => ?_) (fun e he => by cases he; exact ⟨_, hans⟩)
      (e ▸ h.glob.compl_le _) (fun x => nomatch c7.symm.trans x) rfl (fun x => nomatch hne.symm.trans x)
    rcases ho with e | e
    · exact h.glob.obj_answer q v (e ▸ hv)
    · cases e.symm.trans hv; exact ⟨_, hans⟩
  · exact (thr t).setPc p' hp ok (by
      have gate : ThrOK.At s' t { s.loc t with pc := p' } .d2 :=
        ⟨q, f, hcb, hd, c3, epop ▸ c4, by rw [r.cell]; exact c5, e ▸ c6, by rw [r.cell]; exact c7,
          fun _ => by rw [r.cell], fun e => by rw [r.cell]; exact ho5 e⟩
      rcases hp' with rfl | rfl <;> exact gate)

/-- at `d4` the `_is_exc` that `invS'_store` writes is the one in the cell -/
theorem invS'_d4 {s : St} {t : Tid} {q : Seq} {f : Frame} (h : InvS' s) (hp : (s.loc t).pc = .d4)
    (hcb : (s.loc t).cb = some q) (hd : (s.loc t).data = some f) :
    InvS' (setLoc (setCell s q { s.cells q with obj := some f.val }) t { s.loc t with pc := .d5 }) := by
  obtain ⟨f0, d0, _, _, _, _, _, c8, _⟩ := (h.thr t).compl_facts (by rw [hp]; rfl) hcb
  rw [hd] at d0; cases d0
  have e : ({ s.cells q with obj := some f.val } : Cell) = { s.cells q with isExc := some f.exc, obj := some f.val } := by
    rw [← c8 (.inl hp)]
  rw [e]
  exact invS'_store .d5 _ h hp rfl (by decide) (by decide) hcb hd (.inr rfl) (.inr rfl) (fun _ => rfl) rfl

/-- `self._is_ready = True` at `d5`: the result is published, `serve` returns -/
theorem invS'_d5 {s s' : St} {t : Tid} {q : Seq} (h : InvS' s) (hp : (s.loc t).pc = .d5) (hcb : (s.loc t).cb = some q)
    (e : setLoc { setCell s q { s.cells q with ready := true } with
        completions := fun r => if r = q then s.completions r + 1 else s.completions r } t (leaveServe (s.loc t)) = s') :
    InvS' s' := by
  have ht := h.thr t
  obtain ⟨f, hd, c3, c4, c5, c6, c7, c8, c9⟩ := ht.compl_facts (by rw [hp]; rfl) hcb
  have hq : q < s.seqCounter := h.glob.lt_of_not_fresh fun fr => nomatch fr.2.2.2.1.symm.trans c4
  have r : CellRel s s' q { s.cells q with ready := true } := e ▸ .setCell (fun _ _ => rfl) (fun _ hr => if_neg hr)
  have epop : s'.popper = s.popper := e ▸ rfl
  have ceq : s'.completions q = 1 := e ▸ (if_pos rfl).trans (congrArg (· + 1) c6)
  refine h.step' t (leaveServe (s.loc t)) (e ▸ rfl) (hasSeq_frame (by rw [hp]; decide) rfl rfl) ?_ ?_ ?_
  · exact h.glob.updAt r hq (fun x => nomatch c5.symm.trans x) (h.glob.obj_answer _) (h.glob.exc_answer _)
      (Nat.le_of_eq ceq) (fun _ => ⟨ceq, congrArg Option.isSome (c9 hp), congrArg Option.isSome (c8 (.inr hp))⟩) rfl
      (fun _ => rfl)
  · refine thrOK_leaveServe (fun hn => (ht.nowait_ok hn).1) (ht.raising_false (by rw [hp]; rfl))
      (fun hb => r.issued ▸ ht.seq_issued ((hasSeq_iff _).2 ⟨hb, by rw [hp]; decide⟩)) (fun e o a => ?_)
    obtain ⟨e', v, r1, r2, r3, r4⟩ := ht.result_ok e o a
    refine ⟨e', v, r.answer ▸ r1, r2, r3, ?_⟩
    by_cases x : (s.loc t).seq = q
    · rw [x, r.cell]
    · rw [r.cells _ x]; exact r4
  · intro u hu
    have ne : s.popper q ≠ some u := fun x => hu (Option.some.inj (x.symm.trans c4))
    exact (h.thr u).updAt r (fun a e => ⟨fun x => (by
        have := ((h.thr u).at_c1 a x).2.2.2.1
        rw [e, c4] at this; cases this), fun _ => rfl⟩)
      (fun x => absurd x ne) (fun _ => rfl) (fun _ _ _ x => absurd (epop ▸ x) ne) id

/-- the peer writes a reply frame for `q` (first answer or a repetition of it): what both cases need -/
theorem invS'_peer_aux {s : St} {q : Seq} (exc : Bool) (v : Nat) (h : InvS' s) (hlt : q < s.seqCounter)
    (hans : ∀ r x, s.answer r = some x → (if r = q then some (exc, v) else s.answer r) = some x)
    (hout : ∀ r, r ∈ s.outstanding.erase q → r ≠ q)
    (hnone : ∀ r, s.answer r = none → r ∉ s.outstanding → r ≠ q) :
    InvS' (doPeer s q exc v) := by
  have ane : ∀ r, r ≠ q → (if r = q then some (exc, v) else s.answer r) = s.answer r := fun r hr => if_neg hr
  unfold doPeer
  refine { glob := ?_, thr := ?_, seq_inj := h.seq_inj }
  · exact {
      issued_lt := h.glob.issued_lt
      issued_nodup := h.glob.issued_nodup
      fresh := fun r hr => by
        have : r ≠ q := Nat.ne_of_gt (Nat.lt_of_lt_of_le hlt hr)
        exact freshSeq_of_eq (h.glob.fresh r hr) rfl (ane r this) List.mem_of_mem_erase rfl rfl
      out_nodup := h.glob.out_nodup.erase q
      out_unanswered := fun r hr => by
        have r1 := hout r hr
        obtain ⟨r3, r4⟩ := h.glob.out_unanswered r (List.mem_of_mem_erase hr)
        exact ⟨(ane r r1).trans r3, r4⟩
      reg_clean := h.glob.reg_clean
      chan_answer := fun f hf => by
        rcases List.mem_append.1 hf with x | x
        · exact (h.glob.chan_answer f x).imp (hans _ _) id
        · rw [List.mem_singleton.1 x]
          exact .inl (if_pos rfl)
      eofed_ready := h.glob.eofed_ready
      obj_answer := fun r w hw => by
        obtain ⟨e, he⟩ := h.glob.obj_answer r w hw
        exact ⟨e, hans _ _ he⟩
      exc_answer := fun r e he => by
        obtain ⟨w, hw⟩ := h.glob.exc_answer r e he
        exact ⟨w, hans _ _ hw⟩
      compl_le := h.glob.compl_le
      ready_compl := h.glob.ready_compl }
  · intro u
    refine (h.thr u).sameCells rfl rfl rfl (Nat.le_refl _) rfl (fun _ x => x) (fun _ _ a b => ?_) hans
    have : (s.loc u).seq ≠ q := hnone _ a b
    exact ⟨(ane _ this).trans a, fun x => b (List.mem_of_mem_erase x)⟩

theorem invS'_peer {s : St} {q : Seq} (exc : Bool) (v : Nat) (h : InvS' s) (hq : q ∈ s.outstanding) :
    InvS' (doPeer s q exc v) := by
  obtain ⟨a0, hlt⟩ := h.glob.out_unanswered q hq
  refine invS'_peer_aux exc v h hlt ?_ (fun r hr => ((h.glob.out_nodup.mem_erase_iff).1 hr).1)
    (fun r _ b e => b (e ▸ hq))
  intro r x hx
  have : r ≠ q := fun e => by subst e; rw [a0] at hx; cases hx
  rw [if_neg this]; exact hx

theorem invS'_peerDup {s : St} {q : Seq} (exc : Bool) (v : Nat) (h : InvS' s) (ha : s.answer q = some (exc, v)) :
    InvS' (doPeer s q exc v) := by
  have hlt : q < s.seqCounter := h.glob.lt_of_not_fresh fun fr => nomatch fr.2.1.symm.trans ha
  refine invS'_peer_aux exc v h hlt ?_ ?_ ?_
  · intro r x hx
    by_cases e : r = q
    · subst e; rw [if_pos rfl, ← ha]; exact hx
    · rw [if_neg e]; exact hx
  · intro r hr e
    have := (h.glob.out_unanswered r (List.mem_of_mem_erase hr)).1
    rw [e, ha] at this; cases this
  · intro r a _ e
    rw [e, ha] at a; cases a

theorem invS'_init : InvS' init where
  glob := {
    issued_lt := nofun
    issued_nodup := .nil
    fresh := fun _ _ => ⟨rfl, rfl, nofun, rfl, rfl⟩
    out_nodup := .nil
    out_unanswered := nofun
    reg_clean := nofun
    chan_answer := nofun
    eofed_ready := nofun
    obj_answer := nofun
    exc_answer := nofun
    compl_le := fun _ => Nat.zero_le 1
    ready_compl := nofun }
  thr := fun _ => {
    bg_pc := nofun
    nowait_ok := nofun
    raising_pc := nofun
    nodata := fun _ => rfl
    seq_issued := nofun
    at_c1 := nofun
    at_c2 := nofun
    cb_pc := nofun
    completing := nofun
    data_answer := nofun
    at_w10 := nofun
    result_ok := nofun
    self_dispatch := nofun
    dl_ttl := nofun
    wdl_le := nofun }
  seq_inj := nofun

theorem invS'_run {s s' : St} (t : Tid) (h : InvS' s) (hs : stepRun s t = some s') : InvS' s' := by
  obtain ⟨l', g, r, rfl⟩ := stepRun_table hs
  have ht := h.thr t
  cases r with
  | c1 hp => exact invS'_c1 h hp
  | c2Closed hp _ => exact invS'_c2_closed h hp
  | c2Send hp hcl => exact invS'_c2_send h hp (by simpa using hcl)
  | c3 hp => exact invS'_c3 h hp
  | w0 hp => exact invS'_w0 h hp
  | s0 hp => exact invS'_s0 h hp
  -- the locks, the wait-set and `notify_all`: nothing `InvS'` reads changes, and these locations carry no assertion
  | s1 hp _ => exact h.pcOnly .s2 hp (by decide) trivial .unseen rfl
  | s2Lock hp _ => exact h.pcOnly .s3 hp (by decide) trivial .unseen rfl
  | s2Busy hp _ =>
    split
    · exact h.pcOnly .s2f hp (by decide) trivial .unseen rfl
    · exact h.pcOnly .s2w hp (by decide) trivial .unseen rfl
  | s2w hp =>
    -- the condition wait ends with `serve`'s deadline, if that is finite
    exact h.locOnly _ .unseen rfl
      (ht.setPc .zz hp (by decide) (fun _ hd => ⟨_, congrArg (Option.map (max s.now)) hd, Nat.le_refl _⟩))
      (setPc_hasSeq hp (by decide))
  | s2f hp => exact invS'_leave h (by rw [hp]; decide) (ht.raising_false (by rw [hp]; rfl)) .unseen rfl
  | zzWoken hp _ => exact h.pcOnly .s2r hp (by decide) trivial .unseen rfl
  | zzTimeout hp _ _ => exact h.pcOnly .s2r hp (by decide) trivial .unseen rfl
  | s2r hp _ => exact invS'_leave h (by rw [hp]; decide) (ht.raising_false (by rw [hp]; rfl)) .unseen rfl
  | s3 hp => exact h.pcOnly .p0 hp (by decide) trivial .unseen rfl
  | r0 hp => exact h.pcOnly .n0 hp (by decide) trivial .unseen rfl
  | n0 hp _ => exact h.pcOnly .n1 hp (by decide) trivial .unseen rfl
  | n1 hp => exact h.pcOnly .n2 hp (by decide) trivial .unseen rfl
  | n2 hp => exact h.pcOnly .d0 hp (by decide) trivial .unseen rfl
  | b0 hp => exact h.pcOnly .s0 hp (by decide) trivial .unseen rfl
  | bS hp => exact h.pcOnly .b0 hp (by decide) trivial .unseen rfl
  | q1Again hp _ => exact h.pcOnly .s0 hp (by decide) trivial .unseen rfl
  | q1Done hp _ =>
    exact h.locOnly _ .unseen rfl (thrOK_idle ht rfl rfl rfl (ht.raising_false (by rw [hp]; rfl))
      (ht.cb_none (by rw [hp]; rfl)) rfl rfl ht.result_ok) (hasSeq_idle rfl)
  | p0Closed hp _ => exact invS'_p0_aux .x0 none h hp (.inl ⟨rfl, rfl⟩) nofun .unseen rfl
  | p0Eof hp _ _ _ => exact invS'_p0_aux .x0 none h hp (.inl ⟨rfl, rfl⟩) nofun .unseen rfl
  | p0Timeout hp _ _ _ _ => exact invS'_p0_aux .r0 none h hp (.inr rfl) nofun .unseen rfl
  | p0Frame f rest hp _ hch =>
    -- the frame in hand was in the channel; the other frames stay there
    refine invS'_p0_aux .r0 (some f) h hp (.inr rfl) (fun g hg => ?_)
      ⟨rfl, rfl, rfl, rfl, rfl, rfl, rfl, Nat.le_refl _, fun g hg => ?_, rfl⟩ rfl
    · cases hg; exact h.glob.chan_answer _ (by rw [hch]; exact List.mem_cons_self)
    · show g ∈ s.chan
      rw [hch]; exact List.mem_cons_of_mem _ hg
  | x0Again hp _ => exact h.locOnly _ .unseen rfl (ht.x0 hp) (hasSeq_frame (by rw [hp]; decide) rfl rfl)
  | x0Close hp _ =>
    refine h.step' t _ rfl (hasSeq_frame (by rw [hp]; decide) rfl rfl) (h.glob.close ?c)
      ((ht.x0 hp).close h.glob ?c (fun _ => rfl)) (fun u hu => (h.thr u).close h.glob ?c (fun e => absurd e hu))
    -- `RunStep.x0Close` copies the new shared state from `doX0`; `CloseRel` names its fields one by one
    exact ⟨rfl, rfl, rfl, rfl, rfl, rfl, rfl, rfl, rfl, rfl⟩
  | d0Frame f hp _ => exact h.pcOnly .d1 hp (by decide) trivial .unseen rfl
  | d0RaiseBg hp _ _ _ =>
    exact h.locOnly _ .unseen rfl (thrOK_idle ht rfl rfl rfl rfl rfl rfl rfl ht.result_ok) (hasSeq_idle rfl)
  | d0RaiseCall hp _ _ hb =>
    have hb' : (s.loc t).bg = false := by simpa using hb
    exact h.locOnly _ .unseen rfl (thrOK_idle ht rfl hb' (ht.nowait_false_of_bg hb') rfl rfl rfl rfl nofun)
      (hasSeq_idle rfl)
  | d0Leave hp _ hr => exact invS'_leave h (by rw [hp]; decide) (by simpa using hr) .unseen rfl
  | d1Pop f hp hd hreg => exact invS'_pop h hp hd hreg rfl
  | d1Drop f hp hd _ => exact invS'_leave h (by rw [hp]; decide) (ht.raising_false_of_data hd) .unseen rfl
  | d2Expired q hp _ _ => exact invS'_leave h (by rw [hp]; decide) (ht.raising_false (by rw [hp]; rfl)) .unseen rfl
  | d2Go q hp hcb _ =>
    obtain ⟨f, hd, c3, c4, c5, c6, c7, _, _⟩ := ht.compl_facts (by rw [hp]; rfl) hcb
    exact h.pcOnly .d3 hp (by decide) ⟨q, f, hcb, hd, c3, c4, c5, c6, c7, nofun, nofun⟩ .unseen rfl
  | d3 q f hp hcb hd => exact invS'_store .d4 _ h hp rfl (by decide) (by decide) hcb hd (.inl rfl) (.inl rfl) nofun rfl
  | d4 q f hp hcb hd => exact invS'_d4 h hp hcb hd
  | d5 q hp hcb => exact invS'_d5 h hp hcb rfl
  | w9Ready hp hr => exact h.pcOnly .w10 hp (by decide) (fun _ => hr) .unseen rfl
  | w9Timeout hp _ =>
    have hb : (s.loc t).bg = false := ht.bg_false_of_client (by rw [hp]; rfl)
    exact h.locOnly _ .unseen rfl (thrOK_idle ht rfl hb (ht.nowait_false_of_bg hb)
      (ht.raising_false (by rw [hp]; rfl)) (ht.cb_none (by rw [hp]; rfl)) rfl rfl nofun) (hasSeq_idle rfl)
  | w10 hp => exact invS'_w10 h hp

theorem invS'_step {s s' : St} (a : Actor) (h : InvS' s) (hs : step s a = some s') : InvS' s' := by
  rcases step_table hs with ⟨t, _, hr⟩ | ⟨t, l', g, hr, rfl⟩ | he
  · exact invS'_run t h hr
  · have ht := h.thr t
    cases hr with
    | call tmo hp hb => exact invS'_call tmo h hp hb
    | bg hp hb => exact h.locOnly _ .unseen rfl (ht.serve hp .b0 _ _ (.inl ⟨rfl, ht.nowait_false_of_bg hb⟩)) nofun
    | pollAll d hp _ => exact h.locOnly _ .unseen rfl (ht.serve hp .s0 _ _ (.inr rfl)) nofun
    | stop hp =>
      exact h.locOnly _ .unseen rfl (thrOK_idle ht rfl rfl (ht.nowait_false_of_bgLoop (by rw [hp]; rfl))
        (ht.raising_false (by rw [hp]; rfl)) (ht.cb_none (by rw [hp]; rfl)) rfl rfl ht.result_ok) (hasSeq_idle rfl)
  · cases he with
    | peer q exc v hq _ => exact invS'_peer exc v h hq
    | peerDup q exc v ha _ => exact invS'_peerDup exc v h ha
    | peerEof _ => exact h.sameGlob .unseen rfl
    | tick d => exact h.sameGlob ⟨rfl, rfl, rfl, rfl, rfl, rfl, rfl, Nat.le_add_right _ _, fun _ h => h, rfl⟩ rfl

theorem invS'_of_reachable {s : St} (h : Reachable s) : InvS' s := by
  induction h with
  | init => exact invS'_init
  | step a _ hs ih => exact invS'_step a ih hs

theorem invS_init : InvS init := invS'_init.toInvS

theorem invSX_init : InvSX init := invS'_init.toInvSX

theorem invS_step {s s' : St} (a : Actor) (h : InvS s) (hx : InvSX s) (hs : step s a = some s') : InvS s' :=
  (invS'_step a (InvS'.of_InvS h hx) hs).toInvS

theorem invSX_step {s s' : St} (a : Actor) (h : InvS s) (hx : InvSX s) (hs : step s a = some s') : InvSX s' :=
  (invS'_step a (InvS'.of_InvS h hx) hs).toInvSX

theorem invS_of_reachable {s : St} (h : Reachable s) : InvS s := (invS'_of_reachable h).toInvS

theorem invSX_of_reachable {s : St} (h : Reachable s) : InvSX s := (invS'_of_reachable h).toInvSX

theorem invS_step_of_reachable {s s' : St} (a : Actor) (h : Reachable s) (hs : step s a = some s') : InvS s' :=
  invS_of_reachable (Reachable.step a h hs)

/-- an unreachable state that satisfies `InvS`: every thread is a background thread at `b0` with a stale `result`; `.stop` makes one
of them a client again, of which `result_ok` fails -/
def cexS : St :=
  { loc := fun _ => { pc := .b0, bg := true, result := some (.value (some true) (some 0)) } }

theorem invS_cexS : InvS cexS where
  issued_lt := nofun
  issued_nodup := .nil
  seq_issued := nofun
  seq_inj := nofun
  fresh := fun _ _ => ⟨rfl, rfl, nofun, rfl, rfl⟩
  at_c1 := nofun
  at_c2 := nofun
  out_nodup := .nil
  out_unanswered := nofun
  reg_clean := nofun
  cb_pc := nofun
  completing := nofun
  chan_answer := nofun
  data_answer := nofun
  eofed_unreg := nofun
  raising_pc := nofun
  obj_answer := nofun
  exc_answer := nofun
  compl_le := fun _ => Nat.zero_le 1
  ready_compl := nofun
  at_w10 := nofun
  result_ok := nofun
  self_dispatch := nofun
  dl_ttl := nofun
  wdl_le := nofun

theorem invS_not_inductive : ∃ s s' a, InvS s ∧ step s a = some s' ∧ ¬ InvS s' := by
  refine ⟨cexS, setLoc cexS 0 { cexS.loc 0 with pc := .idle, bg := false }, .stop 0, invS_cexS, ?_, ?_⟩
  · simp [step, cexS]
  · intro h
    obtain ⟨e', v, ha, _⟩ := h.result_ok 0 (some true) (some 0) (by simp) (by simp [cexS])
    simp [cexS] at ha

end Rpyc.Conc.Serve
