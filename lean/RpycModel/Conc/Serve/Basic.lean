import RpycModel.Conc.Serve.Model
/-
Field equations for `setLoc`, `setCell`, `markDispatched`; the steps of the receive-side machine as tables (`RunStep` for a thread's
next line, `RoleStep`, `EnvStep`); the classes of program counters; `enabled`, which the progress and stall theorems are about; the
statements of the invariants `InvL`, `InvS`, `InvF` (`InvD` and `InvS'` are stated where they are proved, in `Locks` and `SeqsAux`).
-/
namespace Rpyc.Conc.Serve

@[simp] theorem setLoc_loc_self (s : St) (t : Tid) (l : Loc) : (setLoc s t l).loc t = l := by simp [setLoc]
theorem setLoc_loc (s : St) (t u : Tid) (l : Loc) : (setLoc s t l).loc u = if u = t then l else s.loc u := rfl
@[simp] theorem setLoc_loc_ne (s : St) {t u : Tid} (l : Loc) (h : u ≠ t) : (setLoc s t l).loc u = s.loc u := by
  simp [setLoc, h]
@[simp] theorem setLoc_recvLock (s : St) (t : Tid) (l : Loc) : (setLoc s t l).recvLock = s.recvLock := rfl
@[simp] theorem setLoc_condLock (s : St) (t : Tid) (l : Loc) : (setLoc s t l).condLock = s.condLock := rfl
@[simp] theorem setLoc_waiters (s : St) (t : Tid) (l : Loc) : (setLoc s t l).waiters = s.waiters := rfl
@[simp] theorem setLoc_chan (s : St) (t : Tid) (l : Loc) : (setLoc s t l).chan = s.chan := rfl
@[simp] theorem setLoc_cells (s : St) (t : Tid) (l : Loc) : (setLoc s t l).cells = s.cells := rfl
@[simp] theorem setLoc_seqCounter (s : St) (t : Tid) (l : Loc) : (setLoc s t l).seqCounter = s.seqCounter := rfl
@[simp] theorem setLoc_now (s : St) (t : Tid) (l : Loc) : (setLoc s t l).now = s.now := rfl
@[simp] theorem setLoc_outstanding (s : St) (t : Tid) (l : Loc) : (setLoc s t l).outstanding = s.outstanding := rfl
@[simp] theorem setLoc_eof (s : St) (t : Tid) (l : Loc) : (setLoc s t l).eof = s.eof := rfl
@[simp] theorem setLoc_closed (s : St) (t : Tid) (l : Loc) : (setLoc s t l).closed = s.closed := rfl
@[simp] theorem setLoc_issued (s : St) (t : Tid) (l : Loc) : (setLoc s t l).issued = s.issued := rfl
@[simp] theorem setLoc_nsent (s : St) (t : Tid) (l : Loc) : (setLoc s t l).nsent = s.nsent := rfl
@[simp] theorem setLoc_answer (s : St) (t : Tid) (l : Loc) : (setLoc s t l).answer = s.answer := rfl
@[simp] theorem setLoc_fstat (s : St) (t : Tid) (l : Loc) : (setLoc s t l).fstat = s.fstat := rfl
@[simp] theorem setLoc_dcount (s : St) (t : Tid) (l : Loc) : (setLoc s t l).dcount = s.dcount := rfl
@[simp] theorem setLoc_popper (s : St) (t : Tid) (l : Loc) : (setLoc s t l).popper = s.popper := rfl
@[simp] theorem setLoc_completions (s : St) (t : Tid) (l : Loc) : (setLoc s t l).completions = s.completions := rfl

@[simp] theorem setCell_cells_self (s : St) (q : Seq) (c : Cell) : (setCell s q c).cells q = c := by simp [setCell]
theorem setCell_cells (s : St) (q r : Seq) (c : Cell) : (setCell s q c).cells r = if r = q then c else s.cells r := rfl
@[simp] theorem setCell_cells_ne (s : St) {q r : Seq} (c : Cell) (h : r ≠ q) : (setCell s q c).cells r = s.cells r := by
  simp [setCell, h]
@[simp] theorem setCell_loc (s : St) (q : Seq) (c : Cell) : (setCell s q c).loc = s.loc := rfl
@[simp] theorem setCell_recvLock (s : St) (q : Seq) (c : Cell) : (setCell s q c).recvLock = s.recvLock := rfl
@[simp] theorem setCell_condLock (s : St) (q : Seq) (c : Cell) : (setCell s q c).condLock = s.condLock := rfl
@[simp] theorem setCell_waiters (s : St) (q : Seq) (c : Cell) : (setCell s q c).waiters = s.waiters := rfl
@[simp] theorem setCell_chan (s : St) (q : Seq) (c : Cell) : (setCell s q c).chan = s.chan := rfl
@[simp] theorem setCell_seqCounter (s : St) (q : Seq) (c : Cell) : (setCell s q c).seqCounter = s.seqCounter := rfl
@[simp] theorem setCell_now (s : St) (q : Seq) (c : Cell) : (setCell s q c).now = s.now := rfl
@[simp] theorem setCell_outstanding (s : St) (q : Seq) (c : Cell) : (setCell s q c).outstanding = s.outstanding := rfl
@[simp] theorem setCell_eof (s : St) (q : Seq) (c : Cell) : (setCell s q c).eof = s.eof := rfl
@[simp] theorem setCell_closed (s : St) (q : Seq) (c : Cell) : (setCell s q c).closed = s.closed := rfl
@[simp] theorem setCell_issued (s : St) (q : Seq) (c : Cell) : (setCell s q c).issued = s.issued := rfl
@[simp] theorem setCell_nsent (s : St) (q : Seq) (c : Cell) : (setCell s q c).nsent = s.nsent := rfl
@[simp] theorem setCell_answer (s : St) (q : Seq) (c : Cell) : (setCell s q c).answer = s.answer := rfl
@[simp] theorem setCell_fstat (s : St) (q : Seq) (c : Cell) : (setCell s q c).fstat = s.fstat := rfl
@[simp] theorem setCell_dcount (s : St) (q : Seq) (c : Cell) : (setCell s q c).dcount = s.dcount := rfl
@[simp] theorem setCell_popper (s : St) (q : Seq) (c : Cell) : (setCell s q c).popper = s.popper := rfl
@[simp] theorem setCell_completions (s : St) (q : Seq) (c : Cell) : (setCell s q c).completions = s.completions := rfl

theorem setCell_ready {s : St} {r : Seq} {c : Cell} (h : c.ready = (s.cells r).ready) (q : Seq) :
    ((setCell s r c).cells q).ready = (s.cells q).ready := by
  rw [setCell_cells]
  split
  · rename_i e; rw [e]; exact h
  · rfl

theorem setLoc_own_cell {s : St} {t : Tid} {l' : Loc} (h : l'.seq = (s.loc t).seq) :
    (setLoc s t l').cells ((setLoc s t l').loc t).seq = s.cells (s.loc t).seq := by
  rw [setLoc_loc_self, setLoc_cells, h]

@[simp] theorem markDispatched_loc (s : St) (f : Frame) : (markDispatched s f).loc = s.loc := rfl
@[simp] theorem markDispatched_cells (s : St) (f : Frame) : (markDispatched s f).cells = s.cells := rfl
@[simp] theorem markDispatched_recvLock (s : St) (f : Frame) : (markDispatched s f).recvLock = s.recvLock := rfl
@[simp] theorem markDispatched_condLock (s : St) (f : Frame) : (markDispatched s f).condLock = s.condLock := rfl
@[simp] theorem markDispatched_waiters (s : St) (f : Frame) : (markDispatched s f).waiters = s.waiters := rfl
@[simp] theorem markDispatched_chan (s : St) (f : Frame) : (markDispatched s f).chan = s.chan := rfl
@[simp] theorem markDispatched_seqCounter (s : St) (f : Frame) : (markDispatched s f).seqCounter = s.seqCounter := rfl
@[simp] theorem markDispatched_now (s : St) (f : Frame) : (markDispatched s f).now = s.now := rfl
@[simp] theorem markDispatched_outstanding (s : St) (f : Frame) : (markDispatched s f).outstanding = s.outstanding := rfl
@[simp] theorem markDispatched_eof (s : St) (f : Frame) : (markDispatched s f).eof = s.eof := rfl
@[simp] theorem markDispatched_closed (s : St) (f : Frame) : (markDispatched s f).closed = s.closed := rfl
@[simp] theorem markDispatched_issued (s : St) (f : Frame) : (markDispatched s f).issued = s.issued := rfl
@[simp] theorem markDispatched_nsent (s : St) (f : Frame) : (markDispatched s f).nsent = s.nsent := rfl
@[simp] theorem markDispatched_answer (s : St) (f : Frame) : (markDispatched s f).answer = s.answer := rfl
@[simp] theorem markDispatched_popper (s : St) (f : Frame) : (markDispatched s f).popper = s.popper := rfl
@[simp] theorem markDispatched_completions (s : St) (f : Frame) : (markDispatched s f).completions = s.completions := rfl

/-- One line per branch of `stepRun` (DESIGN.md Appendix C.1): at pc `l.pc` and under the guard, thread `t`
goes from local state `l` to `l'`, and the shared fields become those of `g`.  The step's result is
`setLoc g t l'` (`stepRun_table`); `g.loc` plays no role.  Proofs about all thread steps go by cases on this
relation, so that the `if`s and `match`es of the `do…` functions are taken apart once. -/
inductive RunStep (s : St) (t : Tid) (l : Loc) : Loc → St → Prop
  | c1 : l.pc = .c1 → RunStep s t l { l with pc := .c2 } (setCell s l.seq { s.cells l.seq with reg := true })
  | c2Closed : l.pc = .c2 → s.closed = true →
      RunStep s t l { l with pc := .idle, result := some .eof } (setCell s l.seq { s.cells l.seq with reg := false })
  | c2Send : l.pc = .c2 → ¬ s.closed = true →
      RunStep s t l { l with pc := if l.tmo.isSome then .c3 else .w0 } { s with outstanding := s.outstanding ++ [l.seq] }
  | c3 : l.pc = .c3 →
      RunStep s t l { l with pc := .w0 } (setCell s l.seq { s.cells l.seq with ttl := l.tmo.map (s.now + ·) })
  | w0 : l.pc = .w0 →
      RunStep s t l { l with pc := if !(s.cells l.seq).ready && !expiredAt (s.cells l.seq).ttl s.now then .s0 else .w9 } s
  | s0 : l.pc = .s0 →
      RunStep s t l { l with pc := .s1, dl := if l.nowait then l.pdl else if l.bg then some s.now else (s.cells l.seq).ttl } s
  | s1 : l.pc = .s1 → s.condLock = none → RunStep s t l { l with pc := .s2 } { s with condLock := some t }
  | s2Lock : l.pc = .s2 → s.recvLock = none → RunStep s t l { l with pc := .s3 } { s with recvLock := some t }
  | s2Busy : l.pc = .s2 → ¬ s.recvLock = none → RunStep s t l { l with pc := if l.nowait then .s2f else .s2w } s
  | s2w : l.pc = .s2w →
      RunStep s t l { l with pc := .zz, wdl := l.dl.map (max s.now) } { s with waiters := s.waiters ++ [t], condLock := none }
  | s2f : l.pc = .s2f → RunStep s t l (leaveServe l) { s with condLock := none }
  | zzWoken : l.pc = .zz → t ∉ s.waiters → RunStep s t l { l with pc := .s2r } s
  | zzTimeout : l.pc = .zz → ¬ t ∉ s.waiters → expiredAt l.wdl s.now = true →
      RunStep s t l { l with pc := .s2r } { s with waiters := s.waiters.erase t }
  | s2r : l.pc = .s2r → s.condLock = none → RunStep s t l (leaveServe l) s
  | s3 : l.pc = .s3 → RunStep s t l { l with pc := .p0 } { s with condLock := none }
  | p0Closed : l.pc = .p0 → s.closed = true → RunStep s t l { l with pc := .x0, data := none } s
  | p0Frame (f : Frame) (rest : List Frame) : l.pc = .p0 → ¬ s.closed = true → s.chan = f :: rest →
      RunStep s t l { l with pc := .r0, data := some f }
        { s with chan := rest, fstat := fun k => if k = f.id then .held t else s.fstat k }
  | p0Eof : l.pc = .p0 → ¬ s.closed = true → s.chan = [] → s.eof = true →
      RunStep s t l { l with pc := .x0, data := none } s
  | p0Timeout : l.pc = .p0 → ¬ s.closed = true → s.chan = [] → ¬ s.eof = true → expiredAt l.dl s.now = true →
      RunStep s t l { l with pc := .r0, data := none } s
  | x0Again : l.pc = .x0 → s.closed = true → RunStep s t l { l with pc := .r0, raising := true } s
  | x0Close : l.pc = .x0 → ¬ s.closed = true →
      RunStep s t l { l with pc := .r0, raising := true }
        { s with
          closed := true, seqCounter := s.seqCounter + 1,
          cells := fun q =>
            if (s.cells q).reg then
              (if expiredAt (s.cells q).ttl s.now then { s.cells q with reg := false }
               else { s.cells q with reg := false, isExc := some true, obj := some eofVal, ready := true, eofed := true })
            else s.cells q,
          answer := fun q => if closePublishes s q then some (true, eofVal) else s.answer q,
          completions := fun q => if closePublishes s q then s.completions q + 1 else s.completions q,
          popper := fun q => if (s.cells q).reg then some t else s.popper q,
          outstanding := s.outstanding.filter (fun q => !closePublishes s q) }
  | r0 : l.pc = .r0 → RunStep s t l { l with pc := .n0 } { s with recvLock := none }
  | n0 : l.pc = .n0 → s.condLock = none → RunStep s t l { l with pc := .n1 } { s with condLock := some t }
  | n1 : l.pc = .n1 → RunStep s t l { l with pc := .n2 } { s with waiters := [] }
  | n2 : l.pc = .n2 → RunStep s t l { l with pc := .d0 } { s with condLock := none }
  | d0Frame (f : Frame) : l.pc = .d0 → l.data = some f → RunStep s t l { l with pc := .d1 } s
  | d0RaiseBg : l.pc = .d0 → l.data = none → l.raising = true → l.bg = true →
      RunStep s t l { l with pc := .idle, bg := false, nowait := false, raising := false, cb := none } s
  | d0RaiseCall : l.pc = .d0 → l.data = none → l.raising = true → ¬ l.bg = true →
      RunStep s t l { l with pc := .idle, result := some .eof, raising := false, cb := none } s
  | d0Leave : l.pc = .d0 → l.data = none → ¬ l.raising = true → RunStep s t l (leaveServe l) s
  | d1Pop (f : Frame) : l.pc = .d1 → l.data = some f → (s.cells f.seq).reg = true →
      RunStep s t l { l with pc := .d2, cb := some f.seq }
        { setCell (markDispatched s f) f.seq { s.cells f.seq with reg := false } with
          popper := fun q => if q = f.seq then some t else s.popper q }
  | d1Drop (f : Frame) : l.pc = .d1 → l.data = some f → ¬ (s.cells f.seq).reg = true →
      RunStep s t l (leaveServe l) (markDispatched s f)
  | d2Expired (q : Seq) : l.pc = .d2 → l.cb = some q →
      (!(s.cells q).ready && expiredAt (s.cells q).ttl s.now) = true → RunStep s t l (leaveServe l) s
  | d2Go (q : Seq) : l.pc = .d2 → l.cb = some q →
      ¬ (!(s.cells q).ready && expiredAt (s.cells q).ttl s.now) = true → RunStep s t l { l with pc := .d3 } s
  | d3 (q : Seq) (f : Frame) : l.pc = .d3 → l.cb = some q → l.data = some f →
      RunStep s t l { l with pc := .d4 } (setCell s q { s.cells q with isExc := some f.exc })
  | d4 (q : Seq) (f : Frame) : l.pc = .d4 → l.cb = some q → l.data = some f →
      RunStep s t l { l with pc := .d5 } (setCell s q { s.cells q with obj := some f.val })
  | d5 (q : Seq) : l.pc = .d5 → l.cb = some q →
      RunStep s t l (leaveServe l)
        { setCell s q { s.cells q with ready := true } with
          completions := fun r => if r = q then s.completions r + 1 else s.completions r }
  | w9Ready : l.pc = .w9 → (s.cells l.seq).ready = true → RunStep s t l { l with pc := .w10 } s
  | w9Timeout : l.pc = .w9 → ¬ (s.cells l.seq).ready = true →
      RunStep s t l { l with pc := .idle, result := some .timeout } s
  | w10 : l.pc = .w10 →
      RunStep s t l { l with pc := .idle, result := some (.value (s.cells l.seq).isExc (s.cells l.seq).obj) } s
  | b0 : l.pc = .b0 → RunStep s t l { l with pc := .s0 } s
  | bS : l.pc = .bS → RunStep s t l { l with pc := .b0 } s
  | q1Done : l.pc = .q1 → expiredAt l.pdl s.now = true →
      RunStep s t l { l with pc := .idle, bg := false, nowait := false } s
  | q1Again : l.pc = .q1 → ¬ expiredAt l.pdl s.now = true → RunStep s t l { l with pc := .s0 } s

theorem stepRun_table {s s' : St} {t : Tid} (hs : stepRun s t = some s') :
    ∃ l' g, RunStep s t (s.loc t) l' g ∧ s' = setLoc g t l' := by
  revert hs
  fun_cases stepRun s t
  next hpc => nofun
  next hpc => rintro ⟨⟩; exact ⟨_, _, .c1 hpc, rfl⟩
  next hpc =>
    fun_cases doC2 s t (s.loc t) <;> rintro ⟨⟩
    next hc => exact ⟨_, _, .c2Closed hpc hc, rfl⟩
    next hc _ => exact ⟨_, _, .c2Send hpc hc, rfl⟩
  next hpc => rintro ⟨⟩; exact ⟨_, _, .c3 hpc, rfl⟩
  next hpc => rintro ⟨⟩; exact ⟨_, _, .w0 hpc, rfl⟩
  next hpc => rintro ⟨⟩; exact ⟨_, _, .s0 hpc, rfl⟩
  next hpc =>
    fun_cases doS1 s t (s.loc t) <;> rintro ⟨⟩
    next hc => exact ⟨_, _, .s1 hpc hc, rfl⟩
  next hpc =>
    fun_cases doS2 s t (s.loc t) <;> rintro ⟨⟩
    next hr _ => exact ⟨_, _, .s2Lock hpc hr, rfl⟩
    next hr => exact ⟨_, _, .s2Busy hpc hr, rfl⟩
  next hpc => rintro ⟨⟩; exact ⟨_, _, .s2w hpc, rfl⟩
  next hpc => rintro ⟨⟩; exact ⟨_, _, .s2f hpc, rfl⟩
  next hpc =>
    fun_cases doZz s t (s.loc t) <;> rintro ⟨⟩
    next hm => exact ⟨_, _, .zzWoken hpc hm, rfl⟩
    next hm he => exact ⟨_, _, .zzTimeout hpc hm he, rfl⟩
  next hpc =>
    fun_cases doS2r s t (s.loc t) <;> rintro ⟨⟩
    next hc => exact ⟨_, _, .s2r hpc hc, rfl⟩
  next hpc => rintro ⟨⟩; exact ⟨_, _, .s3 hpc, rfl⟩
  next hpc =>
    fun_cases doP0 s t (s.loc t) <;> rintro ⟨⟩
    next hc => exact ⟨_, _, .p0Closed hpc hc, rfl⟩
    next hc f rest hch => exact ⟨_, _, .p0Frame f rest hpc hc hch, rfl⟩
    next hc hch he => exact ⟨_, _, .p0Eof hpc hc hch he, rfl⟩
    next hc hch he hx => exact ⟨_, _, .p0Timeout hpc hc hch he hx, rfl⟩
  next hpc =>
    fun_cases doX0 s t (s.loc t) <;> rintro ⟨⟩
    next hc => exact ⟨_, _, .x0Again hpc hc, rfl⟩
    next hc _ => exact ⟨_, _, .x0Close hpc hc, rfl⟩
  next hpc => rintro ⟨⟩; exact ⟨_, _, .r0 hpc, rfl⟩
  next hpc =>
    fun_cases doN0 s t (s.loc t) <;> rintro ⟨⟩
    next hc => exact ⟨_, _, .n0 hpc hc, rfl⟩
  next hpc => rintro ⟨⟩; exact ⟨_, _, .n1 hpc, rfl⟩
  next hpc => rintro ⟨⟩; exact ⟨_, _, .n2 hpc, rfl⟩
  next hpc =>
    fun_cases doD0 s t (s.loc t) <;> rintro ⟨⟩
    next f hd => exact ⟨_, _, .d0Frame f hpc hd, rfl⟩
    next hd hr hb => exact ⟨_, _, .d0RaiseBg hpc hd hr hb, rfl⟩
    next hd hr hb => exact ⟨_, _, .d0RaiseCall hpc hd hr hb, rfl⟩
    next hd hr => exact ⟨_, _, .d0Leave hpc hd hr, rfl⟩
  next hpc =>
    fun_cases doD1 s t (s.loc t) <;> rintro ⟨⟩
    next f hd hr => exact ⟨_, _, .d1Pop f hpc hd hr, rfl⟩
    next f hd hr => exact ⟨_, _, .d1Drop f hpc hd hr, rfl⟩
  next hpc =>
    fun_cases doD2 s t (s.loc t) <;> rintro ⟨⟩
    next q hcb he => exact ⟨_, _, .d2Expired q hpc hcb he, rfl⟩
    next q hcb he => exact ⟨_, _, .d2Go q hpc hcb he, rfl⟩
  next hpc =>
    fun_cases doD3 s t (s.loc t) <;> rintro ⟨⟩
    next q f hd hcb => exact ⟨_, _, .d3 q f hpc hcb hd, rfl⟩
  next hpc =>
    fun_cases doD4 s t (s.loc t) <;> rintro ⟨⟩
    next q f hd hcb => exact ⟨_, _, .d4 q f hpc hcb hd, rfl⟩
  next hpc =>
    fun_cases doD5 s t (s.loc t) <;> rintro ⟨⟩
    next q hcb => exact ⟨_, _, .d5 q hpc hcb, rfl⟩
  next hpc =>
    fun_cases doW9 s t (s.loc t) <;> rintro ⟨⟩
    next hr => exact ⟨_, _, .w9Ready hpc hr, rfl⟩
    next hr => exact ⟨_, _, .w9Timeout hpc hr, rfl⟩
  next hpc => rintro ⟨⟩; exact ⟨_, _, .w10 hpc, rfl⟩
  next hpc => rintro ⟨⟩; exact ⟨_, _, .b0 hpc, rfl⟩
  next hpc => rintro ⟨⟩; exact ⟨_, _, .bS hpc, rfl⟩
  next hpc =>
    rintro ⟨⟩; split
    next he => exact ⟨_, _, .q1Done hpc he, rfl⟩
    next he => exact ⟨_, _, .q1Again hpc he, rfl⟩

theorem stepRun_loc_ne {s s' : St} {t u : Tid} (hs : stepRun s t = some s') (hu : u ≠ t) :
    s'.loc u = s.loc u := by
  obtain ⟨l', g, h, rfl⟩ := stepRun_table hs
  rw [setLoc_loc_ne _ _ hu]
  cases h <;> rfl

inductive RoleStep (s : St) (t : Tid) (l : Loc) : Actor → Loc → St → Prop
  | call (tmo : Option Nat) : l.pc = .idle → l.bg = false →
      RoleStep s t l (.call t tmo)
        { l with pc := .c1, seq := s.seqCounter, tmo := tmo, result := none, data := none, cb := none }
        { s with seqCounter := s.seqCounter + 1, issued := s.seqCounter :: s.issued }
  | bg : l.pc = .idle → l.bg = false → RoleStep s t l (.bg t) { l with pc := .b0, bg := true } s
  | stop : l.pc = .b0 → RoleStep s t l (.stop t) { l with pc := .idle, bg := false } s
  | pollAll (d : Nat) : l.pc = .idle → l.bg = false →
      RoleStep s t l (.pollAll t d) { l with pc := .s0, bg := true, nowait := true, pdl := some (s.now + d) } s

inductive EnvStep (s : St) : Actor → St → Prop
  | peer (q : Seq) (exc : Bool) (v : Nat) : q ∈ s.outstanding → s.eof = false →
      EnvStep s (.peer q exc v) (doPeer s q exc v)
  | peerDup (q : Seq) (exc : Bool) (v : Nat) : s.answer q = some (exc, v) → s.eof = false →
      EnvStep s (.peerDup q exc v) (doPeer s q exc v)
  | peerEof : s.eof = false → EnvStep s .peerEof { s with eof := true }
  | tick (d : Nat) : EnvStep s (.tick d) { s with now := s.now + d }

theorem step_table {s s' : St} {a : Actor} (hs : step s a = some s') :
    (∃ t, a = .run t ∧ stepRun s t = some s') ∨
    (∃ t l' g, RoleStep s t (s.loc t) a l' g ∧ s' = setLoc g t l') ∨ EnvStep s a s' := by
  revert hs
  fun_cases step s a
  case case9 t => exact fun hs => .inl ⟨t, rfl, hs⟩
  all_goals rintro ⟨⟩
  next t tmo h => exact .inr (.inl ⟨t, _, _, .call tmo h.1 h.2, rfl⟩)
  next t h => exact .inr (.inl ⟨t, _, _, .bg h.1 h.2, rfl⟩)
  next t h => exact .inr (.inl ⟨t, _, _, .stop h, rfl⟩)
  next t d h => exact .inr (.inl ⟨t, _, _, .pollAll d h.1 h.2, rfl⟩)
  next q exc v h => exact .inr (.inr (.peer q exc v h.1 h.2))
  next q exc v h => exact .inr (.inr (.peerDup q exc v h.1 h.2))
  next h => exact .inr (.inr (.peerEof h))
  next d => exact .inr (.inr (.tick d))

theorem run_append (s : St) (as bs : List Actor) : run s (as ++ bs) = (run s as).bind (run · bs) := by
  induction as generalizing s with
  | nil => rfl
  | cons a as ih =>
    simp only [List.cons_append, run]
    cases step s a with
    | none => rfl
    | some s1 => exact ih s1

/-- one evaluation of the run shows both that the schedule runs from `init` and that it ends in `P` -/
theorem run_ends {as : List Actor} {P : St → Prop} [DecidablePred P]
    (h : (run init as).any (fun s => decide (P s)) = true) : ∃ s, run init as = some s ∧ P s := by
  cases e : run init as with
  | none => rw [e] at h; cases h
  | some s => rw [e] at h; exact ⟨s, rfl, of_decide_eq_true h⟩

/-- `serve()` returns into `poll_all`'s loop, into `_bg_server`'s `sleep`, or to the caller's wait for its result -/
theorem afterServe_spec (l : Loc) :
    (l.nowait = true ∧ afterServe l = .q1) ∨ (l.nowait = false ∧ l.bg = true ∧ afterServe l = .bS) ∨
      (l.nowait = false ∧ l.bg = false ∧ afterServe l = .w0) := by
  unfold afterServe
  cases l.nowait
  · cases l.bg
    · exact .inr (.inr ⟨rfl, rfl, rfl⟩)
    · exact .inr (.inl ⟨rfl, rfl, rfl⟩)
  · exact .inl ⟨rfl, rfl⟩

theorem afterServe_cases {P : PC → Prop} (l : Loc) (q1 : P .q1) (bS : P .bS) (w0 : P .w0) : P (afterServe l) := by
  rcases afterServe_spec l with ⟨_, e⟩ | ⟨_, _, e⟩ | ⟨_, _, e⟩ <;> rw [e] <;> assumption

def PC.holdsCond : PC → Bool
  | .s2 | .s2w | .s2f | .s3 | .n1 | .n2 => true
  | _ => false

def PC.holdsRecv : PC → Bool
  | .s3 | .p0 | .x0 | .r0 => true
  | _ => false

/-- the thread has a received frame in hand that it has not yet dispatched -/
def PC.holding : PC → Bool
  | .r0 | .n0 | .n1 | .n2 | .d0 | .d1 => true
  | _ => false

/-- inside `AsyncResult.__call__` with a popped callback -/
def PC.completing : PC → Bool
  | .d2 | .d3 | .d4 | .d5 => true
  | _ => false

/-- inside `serve()` (after `Timeout(timeout)` was computed) -/
def PC.inServe : PC → Bool
  | .s1 | .s2 | .s2w | .s2f | .zz | .s2r | .s3 | .p0 | .x0 | .r0 | .n0 | .n1 | .n2 | .d0 | .d1 | .d2 | .d3 | .d4 | .d5 => true
  | _ => false

/-- the client thread owns a live request (its `seq` field is meaningful) -/
def Loc.hasSeq (l : Loc) : Bool := !l.bg && l.pc != .idle

theorem hasSeq_iff (l : Loc) : l.hasSeq = true ↔ l.bg = false ∧ l.pc ≠ .idle := by
  simp [Loc.hasSeq]

theorem inCall_eq_hasSeq (s : St) (t : Tid) : inCall s t = (s.loc t).hasSeq := by
  simp only [inCall, Loc.hasSeq, bne, Bool.and_comm, decide_not]
  rfl  -- `==` on `PC` is `decide (· = ·)`

def enabled (s : St) (t : Tid) : Bool := (stepRun s t).isSome

/-- locks, wait-set, wake-ups -/
structure InvL (s : St) : Prop where
  cond_iff : ∀ t, (s.loc t).pc.holdsCond = true ↔ s.condLock = some t
  recv_iff : ∀ t, (s.loc t).pc.holdsRecv = true ↔ s.recvLock = some t
  waiter_pc : ∀ t, t ∈ s.waiters → (s.loc t).pc = .zz
  waiters_nodup : s.waiters.Nodup
  /-- no lost wake-up: whenever somebody is (about to be) in the wait-set, the receive lock is held
  or a thread that released it has not yet called `notify_all` -/
  wake : ((∃ t, t ∈ s.waiters) ∨ (∃ t, (s.loc t).pc = .s2w)) →
         s.recvLock ≠ none ∨ ∃ u, (s.loc u).pc = .n0 ∨ (s.loc u).pc = .n1

def freshSeq (s : St) (q : Seq) : Prop :=
  s.cells q = {} ∧ s.answer q = none ∧ q ∉ s.outstanding ∧ s.popper q = none ∧ s.completions q = 0

/-- sequence numbers, callbacks table, result cells -/
structure InvS (s : St) : Prop where
  issued_lt : ∀ q ∈ s.issued, q < s.seqCounter
  issued_nodup : s.issued.Nodup
  seq_issued : ∀ t, (s.loc t).hasSeq = true → (s.loc t).seq ∈ s.issued
  seq_inj : ∀ t u, (s.loc t).hasSeq = true → (s.loc u).hasSeq = true → (s.loc t).seq = (s.loc u).seq → t = u
  fresh : ∀ q, s.seqCounter ≤ q → freshSeq s q
  at_c1 : ∀ t, (s.loc t).hasSeq = true → (s.loc t).pc = .c1 → freshSeq s (s.loc t).seq
  at_c2 : ∀ t, (s.loc t).hasSeq = true → (s.loc t).pc = .c2 → s.closed = false →
            s.answer (s.loc t).seq = none ∧ (s.loc t).seq ∉ s.outstanding
  out_nodup : s.outstanding.Nodup
  out_unanswered : ∀ q ∈ s.outstanding, s.answer q = none ∧ q < s.seqCounter
  reg_clean : ∀ q, (s.cells q).reg = true → s.popper q = none ∧ s.completions q = 0 ∧ (s.cells q).ready = false
  cb_pc : ∀ t q, (s.loc t).cb = some q → (s.loc t).pc.completing = true
  completing : ∀ t, (s.loc t).pc.completing = true → ∃ q f, (s.loc t).cb = some q ∧ (s.loc t).data = some f ∧
      f.seq = q ∧ s.popper q = some t ∧ (s.cells q).reg = false ∧ s.completions q = 0 ∧ (s.cells q).ready = false ∧
      (((s.loc t).pc = .d4 ∨ (s.loc t).pc = .d5) → (s.cells q).isExc = some f.exc) ∧
      ((s.loc t).pc = .d5 → (s.cells q).obj = some f.val)
  /-- frames are answers the peer gave — unless the request was meanwhile completed by `_cleanup` with the end of the
  connection (then the frame finds no callback) -/
  chan_answer : ∀ f ∈ s.chan, s.answer f.seq = some (f.exc, f.val) ∨ (s.cells f.seq).eofed = true
  data_answer : ∀ t f, (s.loc t).data = some f → s.answer f.seq = some (f.exc, f.val) ∨ (s.cells f.seq).eofed = true
  eofed_unreg : ∀ q, (s.cells q).eofed = true → (s.cells q).reg = false
  raising_pc : ∀ t, (s.loc t).raising = true → (s.loc t).pc.holding = true
  obj_answer : ∀ q v, (s.cells q).obj = some v → ∃ e, s.answer q = some (e, v)
  exc_answer : ∀ q e, (s.cells q).isExc = some e → ∃ v, s.answer q = some (e, v)
  compl_le : ∀ q, s.completions q ≤ 1
  ready_compl : ∀ q, (s.cells q).ready = true →
      s.completions q = 1 ∧ (s.cells q).obj.isSome = true ∧ (s.cells q).isExc.isSome = true
  at_w10 : ∀ t, (s.loc t).hasSeq = true → (s.loc t).pc = .w10 → (s.cells (s.loc t).seq).ready = true
  result_ok : ∀ t e o, (s.loc t).bg = false → (s.loc t).result = some (.value e o) →
      ∃ e' v, s.answer (s.loc t).seq = some (e', v) ∧ e = some e' ∧ o = some v
  /-- a waiter whose reply was dispatched by itself has left `serve`; or it is the thread that closed the connection, which
  completed its own request at `x0` and is on its way out through the `finally` (`raising`) -/
  self_dispatch : ∀ t, (s.loc t).hasSeq = true → (s.cells (s.loc t).seq).ready = true →
      s.popper (s.loc t).seq = some t →
      (s.loc t).pc = .w0 ∨ (s.loc t).pc = .w9 ∨ (s.loc t).pc = .w10 ∨ (s.loc t).raising = true
  dl_ttl : ∀ t, (s.loc t).hasSeq = true → (s.loc t).pc.inServe = true → (s.loc t).dl = (s.cells (s.loc t).seq).ttl
  wdl_le : ∀ t, (s.loc t).pc = .zz → ∀ d, (s.loc t).dl = some d → ∃ w, (s.loc t).wdl = some w ∧ w ≤ max s.now d

/-- frames: each is in the channel, in exactly one hand, or dispatched once -/
structure InvF (s : St) : Prop where
  unsent_iff : ∀ k, s.fstat k = .unsent ↔ s.nsent ≤ k
  chan_sorted : (s.chan.map (·.id)).Pairwise (· < ·)
  chan_stat : ∀ f ∈ s.chan, s.fstat f.id = .inChan
  stat_chan : ∀ k, s.fstat k = .inChan → ∃ f ∈ s.chan, f.id = k
  data_pc : ∀ t f, (s.loc t).data = some f → (s.loc t).pc.holding = true ∨ (s.loc t).pc.completing = true
  holding_stat : ∀ t f, (s.loc t).data = some f → (s.loc t).pc.holding = true → s.fstat f.id = .held t
  completing_stat : ∀ t f, (s.loc t).data = some f → (s.loc t).pc.completing = true → s.fstat f.id = .dispatched
  held_data : ∀ k t, s.fstat k = .held t → ∃ f, (s.loc t).data = some f ∧ f.id = k ∧ (s.loc t).pc.holding = true
  dcount_eq : ∀ k, s.dcount k = if s.fstat k = .dispatched then 1 else 0

end Rpyc.Conc.Serve
