import RpycModel.Conc.Serve.Locks
import RpycModel.Conc.Serve.Seqs
/-
Lemmas behind the theorems of `Props/C14.lean`: a published result stays published and has a popper (`ready_stable`, `ready_popped`);
in a run in which only one thread ever acts every popper is that thread (`onlyPopper_run`); when the next line of a stalled client is
enabled (`stalled_waiter_released`); a client whose result is ready returns in three lines; a dispatching thread sends no request.
-/
namespace Rpyc.Conc.Serve

theorem step_other {s s' : St} {a : Actor} (hs : step s a = some s') (ha : ∀ t, a ≠ .run t) :
    s'.cells = s.cells ∧ s'.popper = s.popper := by
  rcases step_table hs with ⟨t, e, _⟩ | ⟨t, l', g, hr, rfl⟩ | he
  · exact absurd e (ha t)
  · cases hr <;> exact ⟨rfl, rfl⟩
  · cases he <;> exact ⟨rfl, rfl⟩

theorem step_popper {s s' : St} {a : Actor} (hs : step s a = some s') (q : Seq) :
    s'.popper q = s.popper q ∨ ∃ t, a = .run t ∧ s'.popper q = some t := by
  cases a with
  | run t =>
    obtain ⟨l', g, h, rfl⟩ := stepRun_table hs
    cases h
    case x0Close =>
      by_cases hr : (s.cells q).reg = true
      · exact .inr ⟨t, rfl, if_pos hr⟩
      · exact .inl (if_neg hr)
    case d1Pop f _ _ _ =>
      by_cases hq : q = f.seq
      · exact .inr ⟨t, rfl, if_pos hq⟩
      · exact .inl (if_neg hq)
    all_goals exact .inl rfl
  | _ => exact .inl (congrFun (step_other hs (fun _ => nofun)).2 q)

/-- a result is published only by a thread: at `d5` for the callback it popped, or at `x0`, closing the connection,
for a request still registered, whose popper it becomes -/
theorem step_ready {s s' : St} {a : Actor} (hs : step s a = some s') (q : Seq) :
    (s'.cells q).ready = (s.cells q).ready ∨
    ((s'.cells q).ready = true ∧ ∃ t, a = .run t ∧
      (((s.loc t).pc = .d5 ∧ (s.loc t).cb = some q ∧ s'.popper q = s.popper q) ∨ s'.popper q = some t)) := by
  cases a with
  | run t =>
    obtain ⟨l', g, h, rfl⟩ := stepRun_table hs
    cases h
    case c1 | c2Closed | c3 | d3 | d4 => exact .inl (setCell_ready (by rfl) q)
    case d1Pop => exact .inl (setCell_ready (by rfl) q)
    case d5 q0 hpc hcb =>
      by_cases hq : q = q0
      · subst hq; exact .inr ⟨by simp, t, rfl, .inl ⟨hpc, hcb, rfl⟩⟩
      · exact .inl (by simp [hq])
    case x0Close =>
      by_cases hr : (s.cells q).reg = true
      · by_cases he : expiredAt (s.cells q).ttl s.now = true
        · exact .inl (by simp [hr, he])
        · exact .inr ⟨by simp [hr, he], t, rfl, .inr (by simp [hr])⟩
      · exact .inl (by simp [hr])
    all_goals exact .inl rfl
  | _ => exact .inl (by rw [(step_other hs (fun _ => nofun)).1])

theorem ready_stable {s s' : St} (a : Actor) (hs : step s a = some s') (q : Seq)
    (hr : (s.cells q).ready = true) : (s'.cells q).ready = true := by
  rcases step_ready hs q with e | ⟨e, _⟩
  · rw [e]; exact hr
  · exact e

theorem ready_popped {s : St} (h : Reachable s) (q : Seq) (hr : (s.cells q).ready = true) :
    ∃ u, s.popper q = some u := by
  induction h with
  | init => simp [init] at hr
  | step a h hs ih =>
    rcases step_ready hs q with e | ⟨_, t, _, ⟨hpc, hcb, hp⟩ | hp⟩
    · rcases step_popper hs q with e' | ⟨t, _, e'⟩
      · rw [e']; exact ih (e ▸ hr)
      · exact ⟨t, e'⟩
    · obtain ⟨q0, _, hcb0, _, _, hpop, _⟩ := (invS_of_reachable h).completing t (by rw [hpc]; rfl)
      rw [hcb] at hcb0; cases hcb0
      exact ⟨t, hp ▸ hpop⟩
    · exact ⟨t, hp⟩

/-- the actor is thread `t` or the environment -/
def Actor.byOrEnv (t : Tid) : Actor → Prop
  | .call u _ | .bg u | .stop u | .pollAll u _ | .run u => u = t
  | .peer _ _ _ | .peerDup _ _ _ | .peerEof | .tick _ => True

def OnlyPopper (t : Tid) (s : St) : Prop := ∀ q u, s.popper q = some u → u = t

theorem onlyPopper_step {s s' : St} {t : Tid} (a : Actor) (ha : a.byOrEnv t) (h : OnlyPopper t s)
    (hs : step s a = some s') : OnlyPopper t s' := by
  intro q u e
  rcases step_popper hs q with e' | ⟨t', rfl, e'⟩
  · rw [e'] at e; exact h q u e
  · rw [e'] at e; cases e; exact ha

theorem onlyPopper_run {t : Tid} : ∀ (as : List Actor) (s s' : St), (∀ a ∈ as, a.byOrEnv t) → Reachable s →
    OnlyPopper t s → run s as = some s' → Reachable s' ∧ OnlyPopper t s' := by
  intro as
  induction as with
  | nil => intro s s' _ hr hp e; simp [run] at e; subst e; exact ⟨hr, hp⟩
  | cons a as ih =>
    intro s s' hall hr hp e
    simp only [run] at e
    cases hs : step s a with
    | none => simp [hs] at e
    | some s1 =>
      simp [hs] at e
      exact ih s1 s' (fun b hb => hall b (List.mem_cons_of_mem _ hb)) (Reachable.step a hr hs)
        (onlyPopper_step a (hall a List.mem_cons_self) hp hs) e

/-- (by the definition of `doP0` / `doZz`)  A client blocked in `poll()` is enabled again as soon as a frame arrives, the
stream ends, the connection is closed, or its deadline is reached; a client asleep on the condition as soon as it
is notified or its deadline is reached. -/
theorem stalled_waiter_released {s : St} (t : Tid) :
    ((s.loc t).pc = .p0 → (s.chan ≠ [] ∨ s.eof = true ∨ s.closed = true ∨ expiredAt (s.loc t).dl s.now = true) →
        enabled s t = true) ∧
    ((s.loc t).pc = .zz → (t ∉ s.waiters ∨ expiredAt (s.loc t).wdl s.now = true) → enabled s t = true) :=
  ⟨p0_enabled, zz_enabled⟩

/-- the way out of `AsyncResult.wait` and `value` for a client whose result is ready: three lines that change nothing but
the client's own state -/
theorem ready_waiter_step {s : St} {t : Tid} (hr : (s.cells (s.loc t).seq).ready = true)
    (hp : (s.loc t).pc = .w0 ∨ (s.loc t).pc = .w9 ∨ (s.loc t).pc = .w10) :
    ∃ l', step s (.run t) = some (setLoc s t l') ∧ l'.seq = (s.loc t).seq ∧
      ((s.loc t).pc = .w0 → l'.pc = .w9) ∧ ((s.loc t).pc = .w9 → l'.pc = .w10) ∧
      ((s.loc t).pc = .w10 → l'.pc = .idle ∧
        l'.result = some (.value (s.cells (s.loc t).seq).isExc (s.cells (s.loc t).seq).obj)) := by
  rcases hp with e | e | e
  · exact ⟨{ s.loc t with pc := .w9 }, by simp [step, stepRun, e, doW0, hr], rfl, fun _ => rfl,
      (fun x => nomatch e.symm.trans x), (fun x => nomatch e.symm.trans x)⟩
  · exact ⟨{ s.loc t with pc := .w10 }, by simp [step, stepRun, e, doW9, hr], rfl, (fun x => nomatch e.symm.trans x),
      fun _ => rfl, (fun x => nomatch e.symm.trans x)⟩
  · exact ⟨{ s.loc t with pc := .idle, result := some (.value (s.cells (s.loc t).seq).isExc (s.cells (s.loc t).seq).obj) },
      by simp only [step, stepRun, e, doW10], rfl, (fun x => nomatch e.symm.trans x), (fun x => nomatch e.symm.trans x),
      fun _ => ⟨rfl, rfl⟩⟩

/-- among the thread steps only `c2` sends a request, and only `x0` (the `HANDLE_CLOSE` of `close()`) takes a
sequence number -/
theorem stepRun_requests {s s' : St} {t : Tid} (hs : stepRun s t = some s') :
    (s'.outstanding = s.outstanding ∧ s'.seqCounter = s.seqCounter ∧ s'.issued = s.issued) ∨
      (s.loc t).pc = .c2 ∨ (s.loc t).pc = .x0 := by
  obtain ⟨l', g, h, rfl⟩ := stepRun_table hs
  rw [setLoc_outstanding, setLoc_seqCounter, setLoc_issued]
  cases h
  case c2Send hpc _ => exact .inr (.inl hpc)
  case x0Close hpc _ => exact .inr (.inr hpc)
  all_goals exact .inl ⟨rfl, rfl, rfl⟩

/-- Between receiving a frame and publishing the result (`r0 … d5`: release, notify, `_dispatch`, `_seq_request_callback`,
`AsyncResult.__call__`) a model thread sends nothing and takes no sequence number: a fact about the model's steps, true by
construction.  Of the real code it holds for results that travel by value or are references to builtin classes (trace acceptance
rejects a dispatcher that sends a request there: `C14:dispatcher-blocks-in-nested-request-before-publication`), not for a reference
to an instance of a user class: `_unbox` → `_netref_factory` makes a `sync_request(HANDLE_INSPECT)` on the dispatching thread,
which the machine represents as a fresh logical thread (the locks have no owner). -/
theorem dispatcher_sends_no_request {s s' : St} (t : Tid)
    (hp : (s.loc t).pc.holding = true ∨ (s.loc t).pc.completing = true) (hs : step s (.run t) = some s') :
    s'.outstanding = s.outstanding ∧ s'.seqCounter = s.seqCounter ∧ s'.issued = s.issued := by
  rcases stepRun_requests hs with e | e | e
  · exact e
  all_goals rw [e] at hp; rcases hp with h | h <;> cases h

end Rpyc.Conc.Serve
