import RpycModel.Conc.Serve.Basic
/-
`InvL` (locks, wait-set, wake-ups) holds in every reachable state of the receive-side machine; from it, the receive
region is exclusive, no wake-up is lost, and with data pending in the channel, or after the end of the stream, some thread
other than a sleeping background thread can move (`progress_with_data`).

The progress theorems need one fact that is not part of `InvL`: a thread at `d1` has a frame in hand and a
thread at `d2`…`d5` has a frame and a popped callback (otherwise `doD1`…`doD5` return `none`).  That is
`InvD`, thread-local and proved from the step table alone (for `d2`…`d5` it is also part of `InvS.completing`), so that
this file does not depend on `Seqs`.
-/
namespace Rpyc.Conc.Serve

/-- one lock across a step of `t` from `p` to `p'`; the class `K` of pcs says who holds it -/
theorem lock_move {K : PC → Bool} {s s' : St} {t : Tid} {p p' : PC} {c c' : Option Tid}
    (h : ∀ u, K (s.loc u).pc = true ↔ c = some u)
    (hne : ∀ u, u ≠ t → s'.loc u = s.loc u) (hp : (s.loc t).pc = p) (hp' : (s'.loc t).pc = p')
    (hc : c' = if K p' = K p then c else if K p' then some t else none)
    (hfree : K p' = true → K p = false → c = none) (u : Tid) :
    K (s'.loc u).pc = true ↔ c' = some u := by
  have ht := h t
  rw [hp] at ht
  by_cases e : u = t
  · rw [e, hp', hc]
    revert ht
    cases K p' <;> cases K p <;> simp
  · -- for another thread the lock changes between `none` and `some t`, or not at all
    have e' : t ≠ u := fun x => e x.symm
    rw [hne u e, h u, hc]
    revert ht hfree
    cases K p' <;> cases K p <;> simp +contextual [e']

/-- `wake` survives a step of `t` that does not free the receive lock, adds to the wait-set only from
`s2w`, enters `s2w` only while the receive lock is held, and does not leave `n0`/`n1` -/
theorem wake_frame {s s' : St} {t : Tid} (h : InvL s)
    (hne : ∀ u, u ≠ t → s'.loc u = s.loc u)
    (hrl : s.recvLock ≠ none → s'.recvLock ≠ none)
    (hw : ∀ u, u ∈ s'.waiters → u ∈ s.waiters ∨ (s.loc t).pc = .s2w)
    (h4 : (s'.loc t).pc = .s2w → (s.loc t).pc = .s2w ∨ s'.recvLock ≠ none)
    (h5 : ((s.loc t).pc = .n0 ∨ (s.loc t).pc = .n1) → ((s'.loc t).pc = .n0 ∨ (s'.loc t).pc = .n1)) :
    ((∃ u, u ∈ s'.waiters) ∨ (∃ u, (s'.loc u).pc = .s2w)) →
      s'.recvLock ≠ none ∨ ∃ u, (s'.loc u).pc = .n0 ∨ (s'.loc u).pc = .n1 := by
  intro hP
  have key : ((∃ u, u ∈ s.waiters) ∨ (∃ u, (s.loc u).pc = .s2w)) ∨ s'.recvLock ≠ none := by
    rcases hP with ⟨u, hu⟩ | ⟨u, hu⟩
    · rcases hw u hu with h1 | h1
      · exact .inl (.inl ⟨u, h1⟩)
      · exact .inl (.inr ⟨t, h1⟩)
    · by_cases hut : u = t
      · rw [hut] at hu
        rcases h4 hu with h1 | h1
        · exact .inl (.inr ⟨t, h1⟩)
        · exact .inr h1
      · rw [hne u hut] at hu; exact .inl (.inr ⟨u, hu⟩)
  rcases key with hPs | hq
  · rcases h.wake hPs with h1 | ⟨u, hu⟩
    · exact .inl (hrl h1)
    · by_cases hut : u = t
      · rw [hut] at hu; exact .inr ⟨t, h5 hu⟩
      · refine .inr ⟨u, ?_⟩; rw [hne u hut]; exact hu
  · exact .inl hq

/-- the invariant after a step of thread `t` from `p` to `p'`: each lock moves with the class of the pc (`lock_move`),
the wait-set gains at most `t`, on its way to `zz`, and a `t` that leaves `zz` is off it; `wake` is left to the caller -/
theorem invL_move {s s' : St} {t : Tid} {p p' : PC} (h : InvL s) (hne : ∀ u, u ≠ t → s'.loc u = s.loc u)
    (hp : (s.loc t).pc = p) (hp' : (s'.loc t).pc = p')
    (hC : s'.condLock = if p'.holdsCond = p.holdsCond then s.condLock else if p'.holdsCond then some t else none)
    (hCf : p'.holdsCond = true → p.holdsCond = false → s.condLock = none)
    (hR : s'.recvLock = if p'.holdsRecv = p.holdsRecv then s.recvLock else if p'.holdsRecv then some t else none)
    (hRf : p'.holdsRecv = true → p.holdsRecv = false → s.recvLock = none)
    (hw : ∀ u, u ∈ s'.waiters → u ∈ s.waiters ∨ (u = t ∧ p' = .zz))
    (hz : p = .zz → p' = .zz ∨ t ∉ s'.waiters)
    (hnd : s'.waiters.Nodup)
    (hwk : ((∃ u, u ∈ s'.waiters) ∨ (∃ u, (s'.loc u).pc = .s2w)) →
      s'.recvLock ≠ none ∨ ∃ u, (s'.loc u).pc = .n0 ∨ (s'.loc u).pc = .n1) : InvL s' := by
  refine ⟨lock_move h.cond_iff hne hp hp' hC hCf, lock_move h.recv_iff hne hp hp' hR hRf, fun u hm => ?_, hnd, hwk⟩
  by_cases e : u = t
  · subst e
    rw [hp']
    rcases hw u hm with x | ⟨_, x⟩
    · exact (hz (hp.symm.trans (h.waiter_pc u x))).resolve_right (fun y => y hm)
    · exact x
  · rw [hne u e]
    exact h.waiter_pc u ((hw u hm).resolve_right fun x => e x.1)

theorem InvL.has_cond {s : St} {t : Tid} (h : InvL s) (hp : (s.loc t).pc.holdsCond = true) :
    s.condLock = some t := (h.cond_iff t).mp hp

theorem InvL.has_recv {s : St} {t : Tid} (h : InvL s) (hp : (s.loc t).pc.holdsRecv = true) :
    s.recvLock = some t := (h.recv_iff t).mp hp

theorem InvL.not_waiter {s : St} {t : Tid} (h : InvL s) (hp : (s.loc t).pc ≠ .zz) : t ∉ s.waiters :=
  fun hm => hp (h.waiter_pc t hm)

/-- pcs that are in none of the classes `InvL` talks about -/
def PC.neutral (p : PC) : Prop :=
  p.holdsCond = false ∧ p.holdsRecv = false ∧ p ≠ .zz ∧ p ≠ .s2w ∧ p ≠ .n0 ∧ p ≠ .n1

instance (p : PC) : Decidable p.neutral := by unfold PC.neutral; infer_instance

theorem invL_neutral {s s' : St} {t : Tid} (h : InvL s)
    (hne : ∀ u, u ≠ t → s'.loc u = s.loc u)
    (hcl : s'.condLock = s.condLock) (hrl : s'.recvLock = s.recvLock) (hw : s'.waiters = s.waiters)
    (ho : (s.loc t).pc.neutral) (hn : (s'.loc t).pc.neutral) : InvL s' := by
  obtain ⟨oc, or, oz, _, on0, on1⟩ := ho
  obtain ⟨nc, nr, _, ns2w, _, _⟩ := hn
  exact invL_move h hne rfl rfl (by rw [nc, oc]; exact hcl) (fun x => nomatch nc.symm.trans x)
    (by rw [nr, or]; exact hrl) (fun x => nomatch nr.symm.trans x) (fun u hm => .inl (hw ▸ hm)) (fun x => absurd x oz)
    (hw ▸ h.waiters_nodup)
    (wake_frame h hne (by rw [hrl]; exact id) (by rw [hw]; exact fun u hu => .inl hu)
      (fun e => absurd e ns2w) (fun e => (e.elim on0 on1).elim))

theorem neutral_afterServe (l : Loc) : (afterServe l).neutral :=
  afterServe_cases (P := PC.neutral) l (by decide) (by decide) (by decide)

theorem invL_recvStay {s s' : St} {t : Tid} (h : InvL s) (hpc : (s.loc t).pc = .p0 ∨ (s.loc t).pc = .x0)
    (hne : ∀ u, u ≠ t → s'.loc u = s.loc u) (hp' : (s'.loc t).pc = .x0 ∨ (s'.loc t).pc = .r0)
    (hcl : s'.condLock = s.condLock) (hrl : s'.recvLock = s.recvLock) (hw : s'.waiters = s.waiters) : InvL s' := by
  rcases hpc with e | e <;> rcases hp' with e' | e' <;>
    exact invL_move h hne e e' hcl nofun hrl nofun (fun u hm => .inl (hw ▸ hm)) nofun (hw ▸ h.waiters_nodup)
      (wake_frame h hne (by rw [hrl]; exact id) (by rw [hw]; exact fun u hu => .inl hu) (by rw [e']; simp)
        (by rw [e]; simp))

theorem invL_run {s s' : St} {t : Tid} (h : InvL s) (hs : stepRun s t = some s') : InvL s' := by
  have hne := fun u (hu : u ≠ t) => stepRun_loc_ne hs hu
  obtain ⟨l', g, hr, rfl⟩ := stepRun_table hs
  have hp' : ((setLoc g t l').loc t).pc = l'.pc := congrArg Loc.pc (setLoc_loc_self g t l')
  cases hr
  -- The lines that touch a lock or the wait-set, or stand at a pc that holds one.  With both pcs literals the two lock
  -- equations of `invL_move` hold by `rfl`, and `nofun` says that the line does not take that lock.
  case s1 hpc hcl =>
    exact invL_move h hne hpc hp' rfl (fun _ _ => hcl) rfl nofun (fun _ x => .inl x) nofun h.waiters_nodup
      (wake_frame h hne id (fun u hu => .inl hu) (by simp) (by simp [hpc]))
  case s2Lock hpc hrl =>
    exact invL_move h hne hpc hp' rfl nofun rfl (fun _ _ => hrl) (fun _ x => .inl x) nofun h.waiters_nodup
      (wake_frame h hne (by simp) (fun u hu => .inl hu) (by simp) (by simp [hpc]))
  case s2Busy hpc hrl =>
    -- to `s2w` only while the receive lock is held
    by_cases hnw : (s.loc t).nowait = true
    · exact invL_move h hne hpc (hp'.trans (if_pos hnw)) rfl nofun rfl nofun (fun _ x => .inl x) nofun h.waiters_nodup
        (wake_frame h hne id (fun u hu => .inl hu) (by simp [hnw]) (by simp [hpc]))
    · exact invL_move h hne hpc (hp'.trans (if_neg hnw)) rfl nofun rfl nofun (fun _ x => .inl x) nofun h.waiters_nodup
        (wake_frame h hne id (fun u hu => .inl hu) (fun _ => .inr hrl) (by simp [hpc]))
  case s2w hpc =>
    have hwp := h.not_waiter (t := t) (by rw [hpc]; decide)
    refine invL_move h hne hpc hp' rfl nofun rfl nofun
      (fun u hm => (List.mem_append.1 hm).imp id fun x => ⟨List.mem_singleton.1 x, rfl⟩) nofun ?_
      (wake_frame h hne id (fun u hu => .inr hpc) (by simp) (by simp [hpc]))
    show (s.waiters ++ [t]).Nodup
    rw [List.nodup_append]
    refine ⟨h.waiters_nodup, by simp, ?_⟩
    intro a ha b hb e
    simp at hb; subst hb; subst e; exact hwp ha
  case s2f hpc =>
    obtain ⟨nc, nr, _, ns2w, _, _⟩ := neutral_afterServe (s.loc t)
    exact invL_move (p' := afterServe (s.loc t)) h hne hpc hp' (by rw [nc]; rfl) (fun x => nomatch nc.symm.trans x)
      (by rw [nr]; rfl) (fun x => nomatch nr.symm.trans x) (fun _ x => .inl x) nofun h.waiters_nodup
      (wake_frame h hne id (fun u hu => .inl hu) (by rw [setLoc_loc_self]; exact fun x => absurd x ns2w)
        (by rw [hpc]; rintro (x | x) <;> cases x))
  case zzWoken hpc hm =>
    exact invL_move h hne hpc hp' rfl nofun rfl nofun (fun _ x => .inl x) (fun _ => .inr hm) h.waiters_nodup
      (wake_frame h hne id (fun u hu => .inl hu) (by simp) (by simp [hpc]))
  case zzTimeout hpc _ _ =>
    exact invL_move h hne hpc hp' rfl nofun rfl nofun (fun _ x => .inl (List.mem_of_mem_erase x))
      (fun _ => .inr fun x => ((List.Nodup.mem_erase_iff h.waiters_nodup).mp x).1 rfl) (h.waiters_nodup.erase t)
      (wake_frame h hne id (fun u hu => .inl (List.mem_of_mem_erase hu)) (by simp) (by simp [hpc]))
  case s3 hpc | n2 hpc =>
    exact invL_move h hne hpc hp' rfl nofun rfl nofun (fun _ x => .inl x) nofun h.waiters_nodup
      (wake_frame h hne id (fun u hu => .inl hu) (by simp) (by simp [hpc]))
  case p0Closed hpc _ | p0Eof hpc _ _ _ => exact invL_recvStay h (.inl hpc) hne (.inl (by simp)) rfl rfl rfl
  case p0Frame hpc _ _ | p0Timeout hpc _ _ _ _ => exact invL_recvStay h (.inl hpc) hne (.inr (by simp)) rfl rfl rfl
  case x0Again hpc _ | x0Close hpc _ => exact invL_recvStay h (.inr hpc) hne (.inr (by simp)) rfl rfl rfl
  case r0 hpc =>
    exact invL_move h hne hpc hp' rfl nofun rfl nofun (fun _ x => .inl x) nofun h.waiters_nodup
      (fun _ => .inr ⟨t, .inl (by simp)⟩)
  case n0 hpc hcl =>
    exact invL_move h hne hpc hp' rfl (fun _ _ => hcl) rfl nofun (fun _ x => .inl x) nofun h.waiters_nodup
      (fun _ => .inr ⟨t, .inr (by simp)⟩)
  case n1 hpc =>
    have hc := h.has_cond (t := t) (by rw [hpc]; rfl)
    refine invL_move h hne hpc hp' rfl nofun rfl nofun (fun _ x => by simp at x) nofun .nil ?_
    -- the wait-set is empty now, and nobody else is at `s2w`: that pc holds the condition's lock
    rintro (⟨u, hu⟩ | ⟨u, hu⟩)
    · simp at hu
    · exfalso
      by_cases hut : u = t
      · rw [hut] at hu; simp at hu
      · rw [hne u hut] at hu
        have := h.has_cond (t := u) (by rw [hu]; rfl)
        rw [hc] at this
        exact hut (Option.some.inj this).symm
  -- every other line goes from a neutral pc to a neutral pc and touches neither lock nor the wait-set
  all_goals refine invL_neutral h hne rfl rfl rfl (by rw [‹(s.loc t).pc = _›]; decide) ?_
  all_goals rw [setLoc_loc_self]
  -- (`decide` refuses a pc that is the field of a record whose other fields are variables: evaluate the instance directly)
  case c2Send | w0 => split <;> exact of_decide_eq_true rfl
  case s2r | d0Leave | d1Drop | d2Expired | d5 => exact neutral_afterServe _
  all_goals exact of_decide_eq_true rfl

theorem invL_init : InvL init := by
  refine ⟨fun t => ?_, fun t => ?_, fun t hm => ?_, ?_, ?_⟩
  · simp [init, PC.holdsCond]
  · simp [init, PC.holdsRecv]
  · simp [init] at hm
  · simp [init]
  · rintro (⟨t, ht⟩ | ⟨t, ht⟩)
    · simp [init] at ht
    · simp [init] at ht

theorem invL_step {s s' : St} (a : Actor) (h : InvL s) (hs : step s a = some s') : InvL s' := by
  rcases step_table hs with ⟨t, _, hr⟩ | ⟨t, l', g, hr, rfl⟩ | he
  · exact invL_run h hr
  · -- a change of role is a move between `idle`, `b0`, `c1` and `s0`
    cases hr
    all_goals
      exact invL_neutral h (fun u hu => setLoc_loc_ne _ _ hu) rfl rfl rfl
        (by rw [‹(s.loc t).pc = _›]; decide) (by rw [setLoc_loc_self]; exact of_decide_eq_true rfl)
  · cases he <;> exact ⟨h.cond_iff, h.recv_iff, h.waiter_pc, h.waiters_nodup, h.wake⟩

theorem invL_of_reachable {s : St} (h : Reachable s) : InvL s := by
  induction h with
  | init => exact invL_init
  | step a _ hs ih => exact invL_step a ih hs

/-- the region between `_recvlock.acquire` and `_recvlock.release` holds at most one thread -/
theorem recv_exclusive {s : St} (h : Reachable s) (t u : Tid)
    (ht : (s.loc t).pc.holdsRecv = true) (hu : (s.loc u).pc.holdsRecv = true) : t = u := by
  have hL := invL_of_reachable h
  exact Option.some.inj ((hL.has_recv ht).symm.trans (hL.has_recv hu))

theorem cond_exclusive {s : St} (h : Reachable s) (t u : Tid)
    (ht : (s.loc t).pc.holdsCond = true) (hu : (s.loc u).pc.holdsCond = true) : t = u := by
  have hL := invL_of_reachable h
  exact Option.some.inj ((hL.has_cond ht).symm.trans (hL.has_cond hu))

/-- `Condition.wait` returns once the thread has been notified or its deadline is reached -/
theorem zz_enabled {s : St} {t : Tid} (hp : (s.loc t).pc = .zz)
    (hc : t ∉ s.waiters ∨ expiredAt (s.loc t).wdl s.now = true) : enabled s t = true := by
  by_cases hw : t ∈ s.waiters
  · rcases hc with h | h
    · exact absurd hw h
    · simp [enabled, stepRun, hp, doZz, hw, h]
  · simp [enabled, stepRun, hp, doZz, hw]

/-- a thread in the wait-set will be notified: the receive lock is held by a thread inside the receive
region, or a thread that released it is on its way to `notify_all` -/
theorem no_lost_wakeup {s : St} (h : Reachable s) (t : Tid) (ht : t ∈ s.waiters) :
    (∃ v, s.recvLock = some v ∧ (s.loc v).pc.holdsRecv = true) ∨
      ∃ u, (s.loc u).pc = .n0 ∨ (s.loc u).pc = .n1 := by
  have hL := invL_of_reachable h
  rcases hL.wake (.inl ⟨t, ht⟩) with h1 | h1
  · obtain ⟨v, hr⟩ := Option.ne_none_iff_exists'.1 h1
    exact .inl ⟨v, hr, (hL.recv_iff v).mpr hr⟩
  · exact .inr h1

/-- inside `_dispatch` / `AsyncResult.__call__` -/
def PC.disp : PC → Bool
  | .d1 | .d2 | .d3 | .d4 | .d5 => true
  | _ => false

def Loc.ok (l : Loc) : Bool :=
  match l.pc with
  | .d1 => l.data.isSome
  | .d2 | .d3 | .d4 | .d5 => l.data.isSome && l.cb.isSome
  | _ => true

def InvD (s : St) : Prop := ∀ t, (s.loc t).ok = true

theorem ok_of_not_disp {l : Loc} (h : l.pc.disp = false) : l.ok = true := by
  unfold Loc.ok
  generalize l.pc = p at h
  cases p <;> first | rfl | cases h

theorem disp_afterServe (l : Loc) : (afterServe l).disp = false :=
  afterServe_cases (P := fun p => p.disp = false) l rfl rfl rfl

theorem invD_frame {s s' : St} {t : Tid} (h : InvD s)
    (hne : ∀ u, u ≠ t → s'.loc u = s.loc u) (ht : (s'.loc t).ok = true) : InvD s' := by
  intro u
  by_cases hu : u = t
  · rw [hu]; exact ht
  · rw [hne u hu]; exact h u

theorem Loc.ok_completing {l : Loc} (h : l.ok = true) (hp : l.pc.completing = true) :
    (l.data.isSome && l.cb.isSome) = true := by
  unfold Loc.ok at h
  generalize l.pc = p at h hp
  cases p <;> first | exact h | cases hp

theorem invD_run {s s' : St} {t : Tid} (h : InvD s) (hs : stepRun s t = some s') : InvD s' := by
  refine invD_frame h (t := t) (fun u hu => stepRun_loc_ne hs hu) ?_
  have hok := h t
  obtain ⟨l', g, hr, rfl⟩ := stepRun_table hs
  rw [setLoc_loc_self]
  cases hr
  case d0Frame f _ hd => show (s.loc t).data.isSome = true; rw [hd]; rfl
  case d1Pop f _ hd _ => show ((s.loc t).data.isSome && true) = true; rw [hd]; rfl
  case d2Go hpc _ _ => exact Loc.ok_completing (l := s.loc t) hok (by rw [hpc]; rfl)
  case d3 hpc _ _ => exact Loc.ok_completing (l := s.loc t) hok (by rw [hpc]; rfl)
  case d4 hpc _ _ => exact Loc.ok_completing (l := s.loc t) hok (by rw [hpc]; rfl)
  -- no other line leads into `d1`…`d5`
  case c2Send | w0 | s2Busy => refine ok_of_not_disp ?_; split <;> rfl
  case s2f | s2r | d0Leave | d1Drop | d2Expired | d5 => exact ok_of_not_disp (disp_afterServe _)
  all_goals exact ok_of_not_disp rfl

theorem invD_init : InvD init := fun _ => rfl

theorem invD_step {s s' : St} (a : Actor) (h : InvD s) (hs : step s a = some s') : InvD s' := by
  rcases step_table hs with ⟨t, _, hr⟩ | ⟨t, l', g, hr, rfl⟩ | he
  · exact invD_run h hr
  · cases hr
    all_goals exact invD_frame h (fun u hu => setLoc_loc_ne _ _ hu) (ok_of_not_disp (by rw [setLoc_loc_self]; rfl))
  · cases he <;> exact h

theorem invD_of_reachable {s : St} (h : Reachable s) : InvD s := by
  induction h with
  | init => exact invD_init
  | step a _ hs ih => exact invD_step a ih hs

/-- pcs whose step never blocks (given `InvD` for `d1`…`d5`) -/
def PC.free : PC → Bool
  | .idle | .s1 | .zz | .s2r | .p0 | .n0 => false
  | _ => true

theorem enabled_of_free {s : St} {t : Tid} (hD : InvD s) (h : (s.loc t).pc.free = true) :
    enabled s t = true := by
  have hok := hD t
  unfold Loc.ok at hok
  unfold enabled stepRun
  generalize hpc : (s.loc t).pc = pc at h hok
  cases pc <;> simp only [Bool.and_eq_true] at hok ⊢ <;> first | rfl | cases h | skip
  -- `d1`…`d5` match on the frame and the callback: they are there
  case d1 =>
    obtain ⟨f, hf⟩ := Option.isSome_iff_exists.1 hok
    simp only [doD1, hf]
    split <;> rfl
  case d2 =>
    obtain ⟨q, hq⟩ := Option.isSome_iff_exists.1 hok.2
    simp only [doD2, hq]
    split <;> rfl
  case d3 =>
    obtain ⟨f, hf⟩ := Option.isSome_iff_exists.1 hok.1
    obtain ⟨q, hq⟩ := Option.isSome_iff_exists.1 hok.2
    simp only [doD3, hf, hq, Option.isSome_some]
  case d4 =>
    obtain ⟨f, hf⟩ := Option.isSome_iff_exists.1 hok.1
    obtain ⟨q, hq⟩ := Option.isSome_iff_exists.1 hok.2
    simp only [doD4, hf, hq, Option.isSome_some]
  case d5 =>
    obtain ⟨q, hq⟩ := Option.isSome_iff_exists.1 hok.2
    simp only [doD5, hq, Option.isSome_some]

theorem free_of_holdsCond {p : PC} (h : p.holdsCond = true) : p.free = true := by
  cases p <;> first | rfl | cases h

theorem enabled_of_condFree {s : St} {t : Tid} (hc : s.condLock = none)
    (hp : (s.loc t).pc = .s1 ∨ (s.loc t).pc = .s2r ∨ (s.loc t).pc = .n0) : enabled s t = true := by
  rcases hp with e | e | e <;> simp [enabled, stepRun, e, doS1, doS2r, doN0, hc]

theorem progress_condWaiter {s : St} (hL : InvL s) (hD : InvD s) {t : Tid}
    (hp : (s.loc t).pc = .s1 ∨ (s.loc t).pc = .s2r ∨ (s.loc t).pc = .n0) :
    ∃ u, enabled s u = true ∧ (s.loc u).pc ≠ .bS := by
  cases hc : s.condLock with
  | none =>
    refine ⟨t, enabled_of_condFree hc hp, fun e => ?_⟩
    rcases hp with e' | e' | e' <;> rw [e] at e' <;> cases e'
  | some v =>
    have hh := (hL.cond_iff v).mpr hc
    exact ⟨v, enabled_of_free hD (free_of_holdsCond hh), fun e => by rw [e] at hh; cases hh⟩

/-- `poll()` returns at once when there is data, when the stream has ended, when the connection is closed, and
at its deadline -/
theorem p0_enabled {s : St} {t : Tid} (hp : (s.loc t).pc = .p0)
    (hc : s.chan ≠ [] ∨ s.eof = true ∨ s.closed = true ∨ expiredAt (s.loc t).dl s.now = true) :
    enabled s t = true := by
  by_cases hcl : s.closed = true
  · simp [enabled, stepRun, hp, doP0, hcl]
  · cases hch : s.chan with
    | cons f r => simp [enabled, stepRun, hp, doP0, hcl, hch]
    | nil =>
      by_cases he : s.eof = true
      · simp [enabled, stepRun, hp, doP0, hcl, hch, he]
      · rcases hc with h | h | h | h
        · exact absurd hch h
        · exact absurd h he
        · exact absurd h hcl
        · simp [enabled, stepRun, hp, doP0, hcl, hch, he, h]

theorem enabled_recvHolder {s : St} (hL : InvL s) (hD : InvD s)
    (hch : s.chan ≠ [] ∨ s.eof = true ∨ s.closed = true) {v : Tid}
    (hv : s.recvLock = some v) : enabled s v = true ∧ (s.loc v).pc ≠ .bS := by
  have hh := (hL.recv_iff v).mpr hv
  refine ⟨?_, fun e => by rw [e] at hh; cases hh⟩
  by_cases hp : (s.loc v).pc = .p0
  · exact p0_enabled hp (hch.imp_right fun h => h.imp_right .inl)
  · apply enabled_of_free hD
    generalize (s.loc v).pc = p at hh hp
    cases p <;> first | rfl | exact absurd rfl hp | cases hh

/-- some thread can move, and not merely a background thread in `time.sleep` -/
theorem progress_with_data {s : St} (hL : InvL s) (hD : InvD s)
    (hc : s.chan ≠ [] ∨ s.eof = true ∨ s.closed = true) (t : Tid)
    (ht : (s.loc t).pc ≠ .idle) (hb : (s.loc t).pc ≠ .bS) :
    ∃ u, enabled s u = true ∧ (s.loc u).pc ≠ .bS := by
  by_cases hf : (s.loc t).pc.free = true
  · exact ⟨t, enabled_of_free hD hf, hb⟩
  · have hcases : (s.loc t).pc = .s1 ∨ (s.loc t).pc = .s2r ∨ (s.loc t).pc = .n0 ∨
        (s.loc t).pc = .p0 ∨ (s.loc t).pc = .zz := by
      revert hf ht
      generalize (s.loc t).pc = p
      cases p <;> simp [PC.free]
    rcases hcases with e | e | e | e | e
    · exact progress_condWaiter hL hD (.inl e)
    · exact progress_condWaiter hL hD (.inr (.inl e))
    · exact progress_condWaiter hL hD (.inr (.inr e))
    · exact ⟨t, p0_enabled e (hc.imp_right fun h => h.imp_right .inl), hb⟩
    · by_cases hm : t ∈ s.waiters
      case neg => exact ⟨t, zz_enabled e (.inl hm), hb⟩
      rcases hL.wake (.inl ⟨t, hm⟩) with h1 | ⟨u, hu | hu⟩
      · obtain ⟨v, hr⟩ := Option.ne_none_iff_exists'.1 h1
        exact ⟨v, enabled_recvHolder hL hD hc hr⟩
      · exact progress_condWaiter hL hD (.inr (.inr hu))
      · refine ⟨u, enabled_of_free hD (by rw [hu]; rfl), fun e' => ?_⟩
        rw [hu] at e'; cases e'

/-- `no_deadlock_with_data` with a mover that is not a background thread in `time.sleep` (`bS`, whose step is enabled in any state);
this is the statement `C13.no_deadlock_with_data` has -/
theorem no_deadlock_with_data_strong {s : St} (h : Reachable s) (hc : s.chan ≠ []) (t : Tid)
    (ht : (s.loc t).pc ≠ .idle) (hb : (s.loc t).pc ≠ .bS) :
    ∃ u, enabled s u = true ∧ (s.loc u).pc ≠ .bS :=
  progress_with_data (invL_of_reachable h) (invD_of_reachable h) (.inl hc) t ht hb

/-- once the peer has closed the stream, or the connection has been closed, no thread inside a call or a
serving loop can be stuck: some thread other than a sleeping background thread has an enabled step, and
needs no timeout for it -/
theorem no_parking_after_eof {s : St} (h : Reachable s) (he : s.eof = true ∨ s.closed = true) (t : Tid)
    (ht : (s.loc t).pc ≠ .idle) (hb : (s.loc t).pc ≠ .bS) :
    ∃ u, enabled s u = true ∧ (s.loc u).pc ≠ .bS :=
  progress_with_data (invL_of_reachable h) (invD_of_reachable h) (.inr he) t ht hb

/-- if data is pending in the channel and some thread is inside a call or a serving loop, some thread
has an enabled step -/
theorem no_deadlock_with_data {s : St} (h : Reachable s) (hc : s.chan ≠ []) (t : Tid)
    (ht : (s.loc t).pc ≠ .idle) : ∃ u, enabled s u = true := by
  by_cases hb : (s.loc t).pc = .bS
  · exact ⟨t, enabled_of_free (invD_of_reachable h) (by rw [hb]; rfl)⟩
  · obtain ⟨u, hu, _⟩ := no_deadlock_with_data_strong h hc t ht hb
    exact ⟨u, hu⟩

end Rpyc.Conc.Serve
