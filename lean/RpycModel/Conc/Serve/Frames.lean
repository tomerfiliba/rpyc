import RpycModel.Conc.Serve.Basic
/-
`InvF` (frames: each is in the channel, in exactly one hand, or dispatched once) holds in every
reachable state of the receive-side machine; it is inductive as stated.  `C13.dispatch_once`, `C13.one_receiver`
and the order of the channel in `C13.receive_exclusive` are read off it.
-/
namespace Rpyc.Conc.Serve

theorem PC.holding_completing_absurd {p : PC} (h1 : p.holding = true) (h2 : p.completing = true) : False := by
  cases p <;> cases h1 <;> cases h2

theorem InvF.sent_of_ne_unsent {s : St} (h : InvF s) {k : Nat} (hk : s.fstat k ≠ .unsent) : k < s.nsent := by
  apply Nat.lt_of_not_ge
  intro hge
  exact hk ((h.unsent_iff k).2 hge)

theorem InvF.chan_lt {s : St} (h : InvF s) : ∀ f ∈ s.chan, f.id < s.nsent := by
  intro f hf
  apply h.sent_of_ne_unsent
  rw [h.chan_stat f hf]; intro hc; cases hc

theorem InvF.dcount_zero {s : St} (h : InvF s) {k : Nat} (hk : s.fstat k ≠ .dispatched) : s.dcount k = 0 := by
  rw [h.dcount_eq k, if_neg hk]

theorem invF_init : InvF init := by
  refine ⟨?_, ?_, ?_, ?_, ?_, ?_, ?_, ?_, ?_⟩ <;> simp [init]

theorem InvF.data_stat {s : St} (h : InvF s) {u : Tid} {g : Frame} (hg : (s.loc u).data = some g) :
    s.fstat g.id = .held u ∨ s.fstat g.id = .dispatched :=
  (h.data_pc u g hg).imp (h.holding_stat u g hg) (h.completing_stat u g hg)

/-- `InvF` after a step of thread `t`.  The clauses about the channel and the counts are owed.  The clauses about threads
carry over to every `u ≠ t` if the status of the frames in the other hands stays (`hst`) and no frame newly counts as held
by another thread (`hhu`); for `t` they are owed: the frame in its hand has the status of its pc class (`ht`), and what counts
as held by `t` is in its hand (`hht`). -/
theorem invF_frame {s s' : St} {t : Tid} (h : InvF s) (hne : ∀ u, u ≠ t → s'.loc u = s.loc u)
    (hun : ∀ k, s'.fstat k = .unsent ↔ s'.nsent ≤ k)
    (hso : (s'.chan.map (·.id)).Pairwise (· < ·))
    (hcs : ∀ f ∈ s'.chan, s'.fstat f.id = .inChan)
    (hsc : ∀ k, s'.fstat k = .inChan → ∃ f ∈ s'.chan, f.id = k)
    (hdc : ∀ k, s'.dcount k = if s'.fstat k = .dispatched then 1 else 0)
    (hst : ∀ u g, u ≠ t → (s.loc u).data = some g → s'.fstat g.id = s.fstat g.id)
    (hhu : ∀ k u, u ≠ t → s'.fstat k = .held u → s.fstat k = .held u)
    (ht : ∀ g, (s'.loc t).data = some g → ((s'.loc t).pc.holding = true ∧ s'.fstat g.id = .held t) ∨
      ((s'.loc t).pc.completing = true ∧ s'.fstat g.id = .dispatched))
    (hht : ∀ k, s'.fstat k = .held t → ∃ g, (s'.loc t).data = some g ∧ g.id = k ∧ (s'.loc t).pc.holding = true) :
    InvF s' := by
  refine ⟨hun, hso, hcs, hsc, fun u g hg => ?_, fun u g hg hp => ?_, fun u g hg hp => ?_, fun k u hk => ?_, hdc⟩
  · by_cases e : u = t
    · subst e; exact (ht g hg).imp And.left And.left
    · rw [hne u e] at hg ⊢; exact h.data_pc u g hg
  · by_cases e : u = t
    · subst e; exact (ht g hg).elim And.right fun x => (PC.holding_completing_absurd hp x.1).elim
    · rw [hne u e] at hg hp; rw [hst u g e hg]; exact h.holding_stat u g hg hp
  · by_cases e : u = t
    · subst e; exact (ht g hg).elim (fun x => (PC.holding_completing_absurd x.1 hp).elim) And.right
    · rw [hne u e] at hg hp; rw [hst u g e hg]; exact h.completing_stat u g hg hp
  · by_cases e : u = t
    · subst e; exact hht k hk
    · rw [hne u e]; exact h.held_data k u (hhu k u e hk)

theorem invF_thread {s s' : St} (h : InvF s) (t : Tid)
    (hchan : s'.chan = s.chan) (hfstat : s'.fstat = s.fstat) (hd : s'.dcount = s.dcount)
    (hn : s'.nsent = s.nsent)
    (hu : ∀ u, u ≠ t → s'.loc u = s.loc u)
    (ht : ((s'.loc t).data = (s.loc t).data ∧
            ((s.loc t).data ≠ none → (s'.loc t).pc.holding = (s.loc t).pc.holding ∧
                                      (s'.loc t).pc.completing = (s.loc t).pc.completing)) ∨
          ((s'.loc t).data = none ∧ (s.loc t).pc.holding = false)) : InvF s' := by
  have hsome : ∀ {g}, (s.loc t).data = some g → (s.loc t).data ≠ none := fun e x => nomatch e.symm.trans x
  refine invF_frame h hu ?_ ?_ ?_ ?_ ?_ (fun _ _ _ _ => by rw [hfstat]) (fun _ _ _ hk => by rw [hfstat] at hk; exact hk)
    ?_ ?_
  · intro k; rw [hfstat, hn]; exact h.unsent_iff k
  · rw [hchan]; exact h.chan_sorted
  · intro f hf; rw [hfstat]; rw [hchan] at hf; exact h.chan_stat f hf
  · intro k hk; rw [hfstat] at hk; rw [hchan]; exact h.stat_chan k hk
  · intro k; rw [hd, hfstat]; exact h.dcount_eq k
  · intro g hg
    rcases ht with ⟨hdat, hcls⟩ | ⟨hnone, _⟩
    · rw [hdat] at hg
      rw [hfstat, (hcls (hsome hg)).1, (hcls (hsome hg)).2]
      exact (h.data_pc t g hg).imp (fun x => ⟨x, h.holding_stat t g hg x⟩) (fun x => ⟨x, h.completing_stat t g hg x⟩)
    · rw [hnone] at hg; cases hg
  · intro k hk
    rw [hfstat] at hk
    obtain ⟨g, hg, hid, hp⟩ := h.held_data k t hk
    rcases ht with ⟨hdat, hcls⟩ | ⟨_, hnh⟩
    · exact ⟨g, hdat.trans hg, hid, (hcls (hsome hg)).1.trans hp⟩
    · rw [hnh] at hp; cases hp

/-- `InvF` when one frame id `k0` goes from status `a` to `b` and every other id keeps its status, its place in the channel
and its count.  `a` is the status of no hand but the mover's, so the other hands do not hold `k0`; what is owed is where
`k0` is now: sent, in the channel iff `b = inChan`, counted iff `b = dispatched`, and the mover's hand as in `invF_frame`.
The callers give the arguments a line per line of hypotheses here. -/
theorem invF_move {s s' : St} {t : Tid} {k0 : Nat} {a b : FStat} (h : InvF s) (hne : ∀ u, u ≠ t → s'.loc u = s.loc u)
    (ha : s.fstat k0 = a) (hfstat : s'.fstat = fun k => if k = k0 then b else s.fstat k)
    (had : a ≠ .dispatched) (hau : ∀ u, u ≠ t → a ≠ .held u) (hb : b ≠ .unsent) (hbu : ∀ u, u ≠ t → b ≠ .held u)
    (hn0 : k0 < s'.nsent) (hn : ∀ k, k ≠ k0 → (s'.nsent ≤ k ↔ s.nsent ≤ k)) (hso : (s'.chan.map (·.id)).Pairwise (· < ·))
    (hcs : ∀ g ∈ s'.chan, g ∈ s.chan ∨ (g.id = k0 ∧ b = .inChan)) (hcs0 : a = .inChan → ∀ g ∈ s'.chan, g.id ≠ k0)
    (hsc : ∀ g ∈ s.chan, g.id ≠ k0 → g ∈ s'.chan) (hsc0 : b = .inChan → ∃ g ∈ s'.chan, g.id = k0)
    (hd : ∀ k, k ≠ k0 → s'.dcount k = s.dcount k) (hd0 : s'.dcount k0 = if b = .dispatched then 1 else 0)
    (ht : ∀ g, (s'.loc t).data = some g → ((s'.loc t).pc.holding = true ∧ s'.fstat g.id = .held t) ∨
      ((s'.loc t).pc.completing = true ∧ s'.fstat g.id = .dispatched))
    (hht : ∀ k, k ≠ k0 → s.fstat k = .held t →
      ∃ g, (s'.loc t).data = some g ∧ g.id = k ∧ (s'.loc t).pc.holding = true)
    (hht0 : b = .held t → ∃ g, (s'.loc t).data = some g ∧ g.id = k0 ∧ (s'.loc t).pc.holding = true) :
    InvF s' := by
  have hstat : ∀ k, k ≠ k0 → s'.fstat k = s.fstat k := fun k hk => by rw [hfstat]; exact if_neg hk
  have hnew : s'.fstat k0 = b := by rw [hfstat]; exact if_pos rfl
  refine invF_frame h hne ?_ hso ?_ ?_ ?_ ?_ ?_ ht ?_
  · intro k
    by_cases hk : k = k0
    · subst hk; rw [hnew]; exact ⟨fun x => absurd x hb, fun x => absurd hn0 (Nat.not_lt.2 x)⟩
    · rw [hstat k hk, hn k hk]; exact h.unsent_iff k
  · intro g hg
    rcases hcs g hg with hg' | ⟨hk, hin⟩
    · have hk : g.id ≠ k0 := fun hk => hcs0 (by rw [← ha, ← hk]; exact h.chan_stat g hg') g hg hk
      rw [hstat _ hk]; exact h.chan_stat g hg'
    · rw [hk, hnew]; exact hin
  · intro k hk
    by_cases hk0 : k = k0
    · subst hk0; exact hsc0 (hnew.symm.trans hk)
    · rw [hstat k hk0] at hk
      obtain ⟨g, hg, hid⟩ := h.stat_chan k hk
      exact ⟨g, hsc g hg (hid ▸ hk0), hid⟩
  · intro k
    by_cases hk : k = k0
    · subst hk; rw [hnew]; exact hd0
    · rw [hd k hk, hstat k hk]; exact h.dcount_eq k
  · intro u g e hg
    refine hstat g.id fun hk => ?_
    rcases h.data_stat hg with x | x
    · exact hau u e (by rw [← ha, ← hk]; exact x)
    · exact had (by rw [← ha, ← hk]; exact x)
  · intro k u e hk
    by_cases hk0 : k = k0
    · subst hk0; exact absurd (hnew.symm.trans hk) (hbu u e)
    · rw [hstat k hk0] at hk; exact hk
  · intro k hk
    by_cases hk0 : k = k0
    · subst hk0; exact hht0 (hnew.symm.trans hk)
    · rw [hstat k hk0] at hk; exact hht k hk0 hk

/-- the peer writes a frame: it is the newest, and nothing is known of its id yet.  No thread moves: any tid serves as the
mover -/
theorem invF_peer {s : St} (h : InvF s) (q : Seq) (exc : Bool) (v : Nat) : InvF (doPeer s q exc v) := by
  have hfresh : s.fstat s.nsent = .unsent := (h.unsent_iff s.nsent).2 (Nat.le_refl _)
  have hold : ∀ k, s.fstat k ≠ .unsent → (doPeer s q exc v).fstat k = s.fstat k := fun k hk =>
    if_neg (Nat.ne_of_lt (h.sent_of_ne_unsent hk))
  refine invF_move (t := 0) h (fun _ _ => rfl) hfresh rfl
    nofun (fun _ _ => nofun) nofun (fun _ _ => nofun)
    (Nat.lt_succ_self _) (fun k hk => by show s.nsent + 1 ≤ k ↔ _; omega) ?_
    ?_ nofun (fun g hg _ => List.mem_append_left _ hg)
    (fun _ => ⟨_, List.mem_append_right _ (List.mem_singleton_self _), rfl⟩)
    (fun _ _ => rfl) (by show s.dcount s.nsent = _; rw [h.dcount_eq, hfresh]; rfl)
    ?_ (fun k _ hk => h.held_data k 0 hk) nofun
  · rw [show (doPeer s q exc v).chan = s.chan ++ [⟨s.nsent, q, exc, v⟩] from rfl, List.map_append, List.pairwise_append]
    refine ⟨h.chan_sorted, List.pairwise_singleton _ _, ?_⟩
    intro a ha b hb
    obtain ⟨f, hf, rfl⟩ := List.mem_map.1 ha
    cases List.mem_singleton.1 hb
    exact h.chan_lt f hf
  · intro g hg
    rcases List.mem_append.1 hg with hg | hg
    · exact .inl hg
    · cases List.mem_singleton.1 hg; exact .inr ⟨rfl, rfl⟩
  · intro g hg
    refine (h.data_pc 0 g hg).imp (fun x => ⟨x, ?_⟩) (fun x => ⟨x, ?_⟩)
    · have e := h.holding_stat 0 g hg x
      rw [hold _ (by rw [e]; nofun)]; exact e
    · have e := h.completing_stat 0 g hg x
      rw [hold _ (by rw [e]; nofun)]; exact e

theorem invF_recv {s s' : St} (h : InvF s) (t : Tid) (f : Frame) (rest : List Frame)
    (hc : s.chan = f :: rest) (hpc : (s.loc t).pc.holding = false)
    (hchan : s'.chan = rest)
    (hfstat : s'.fstat = fun k => if k = f.id then .held t else s.fstat k)
    (hd : s'.dcount = s.dcount) (hn : s'.nsent = s.nsent)
    (hu : ∀ u, u ≠ t → s'.loc u = s.loc u)
    (ht : (s'.loc t).data = some f ∧ (s'.loc t).pc.holding = true) : InvF s' := by
  have hmem : f ∈ s.chan := by rw [hc]; exact List.mem_cons_self
  have hfin : s.fstat f.id = .inChan := h.chan_stat f hmem
  have hsorted := h.chan_sorted
  rw [hc, List.map_cons, List.pairwise_cons] at hsorted
  refine invF_move h hu hfin hfstat
    nofun (fun _ _ => nofun) nofun (fun u e x => e (FStat.held.inj x).symm)
    (hn ▸ h.chan_lt f hmem) (fun _ _ => by rw [hn]) (hchan ▸ hsorted.2)
    (fun g hg => .inl (by rw [hc]; exact List.mem_cons_of_mem _ (hchan ▸ hg))) ?_ ?_ nofun
    (fun _ _ => by rw [hd]) (by rw [hd, h.dcount_eq, hfin]; rfl)
    ?_ ?_ (fun _ => ⟨f, ht.1, rfl, ht.2⟩)
  · intro _ g hg
    exact Nat.ne_of_gt (hsorted.1 g.id (List.mem_map.2 ⟨g, hchan ▸ hg, rfl⟩))
  · intro g hg hk
    rw [hc, List.mem_cons] at hg
    rw [hchan]; exact hg.resolve_left fun e => hk (e ▸ rfl)
  · intro g hg
    rw [ht.1] at hg; cases hg
    exact .inl ⟨ht.2, by rw [hfstat]; exact if_pos rfl⟩
  · intro k _ hk
    obtain ⟨_, _, _, hp⟩ := h.held_data k t hk
    rw [hpc] at hp; cases hp

theorem invF_dispatch {s s' : St} (h : InvF s) (t : Tid) (f : Frame)
    (hdata : (s.loc t).data = some f) (hpc : (s.loc t).pc.holding = true)
    (hchan : s'.chan = s.chan)
    (hfstat : s'.fstat = fun k => if k = f.id then .dispatched else s.fstat k)
    (hd : s'.dcount = fun k => if k = f.id then s.dcount k + 1 else s.dcount k)
    (hn : s'.nsent = s.nsent)
    (hu : ∀ u, u ≠ t → s'.loc u = s.loc u)
    (ht : (s'.loc t).data = none ∨
          ((s'.loc t).data = some f ∧ (s'.loc t).pc.completing = true)) : InvF s' := by
  have hheld : s.fstat f.id = .held t := h.holding_stat t f hdata hpc
  have hsent : f.id < s.nsent := h.sent_of_ne_unsent (by rw [hheld]; nofun)
  refine invF_move h hu hheld hfstat
    nofun (fun u e x => e (FStat.held.inj x).symm) nofun (fun _ _ => nofun)
    (hn ▸ hsent) (fun _ _ => by rw [hn]) (hchan ▸ h.chan_sorted)
    (fun g hg => .inl (hchan ▸ hg)) nofun (fun g hg _ => hchan ▸ hg) nofun
    (fun k hk => by rw [hd]; exact if_neg hk) ?_
    ?_ ?_ nofun
  · simp [hd, h.dcount_zero (k := f.id) (by rw [hheld]; nofun)]
  · intro g hg
    rcases ht with hnone | ⟨hsome, hcp⟩
    · rw [hnone] at hg; cases hg
    · rw [hsome] at hg; cases hg
      exact .inr ⟨hcp, by rw [hfstat]; exact if_pos rfl⟩
  · intro k hk hkt
    obtain ⟨g, hg, hid, _⟩ := h.held_data k t hkt
    rw [hdata] at hg; cases hg
    exact absurd hid.symm hk

/-- closes a step that keeps `data` and the pc class; `$d` is the equation for the new state's `loc t`, at every call
`setLoc_loc_self` -/
local macro "frame_keep " h:ident t:ident hpc:ident d:ident : tactic =>
  `(tactic| (refine invF_thread $h $t rfl rfl rfl rfl (fun u hu => by simp [$d:ident, hu]) (Or.inl ?_)
             simp [$d:ident, $hpc:ident, PC.holding, PC.completing]))

/-- the same when the new pc is an `if` -/
local macro "frame_keep_ite " h:ident t:ident hpc:ident d:ident : tactic =>
  `(tactic| (refine invF_thread $h $t rfl rfl rfl rfl (fun u hu => by simp [$d:ident, hu]) (Or.inl ?_)
             simp only [$d:ident, setLoc_loc_self, $hpc:ident]
             split <;> simp [PC.holding, PC.completing]))

/-- a step that clears `data` at a pc that is not `holding` -/
local macro "frame_drop " h:ident t:ident hpc:ident : tactic =>
  `(tactic| (refine invF_thread $h $t rfl rfl rfl rfl (fun u hu => by simp [hu]) (Or.inr ?_)
             simp [leaveServe, $hpc:ident, PC.holding]))

theorem invF_run {s s' : St} (h : InvF s) (t : Tid) (hs : stepRun s t = some s') : InvF s' := by
  obtain ⟨l', g, hr, rfl⟩ := stepRun_table hs
  cases hr
  case p0Frame f rest hpc _ hc =>
    exact invF_recv h t f rest hc (by rw [hpc]; rfl) rfl rfl rfl rfl (fun u hu => setLoc_loc_ne _ _ hu)
      (by rw [setLoc_loc_self]; exact ⟨rfl, rfl⟩)
  case d1Pop f hpc hd _ =>
    exact invF_dispatch h t f hd (by rw [hpc]; rfl) rfl rfl rfl rfl (fun u hu => setLoc_loc_ne _ _ hu)
      (.inr (by rw [setLoc_loc_self]; exact ⟨hd, rfl⟩))
  case d1Drop f hpc hd _ =>
    exact invF_dispatch h t f hd (by rw [hpc]; rfl) rfl rfl rfl rfl (fun u hu => setLoc_loc_ne _ _ hu)
      (.inl (by rw [setLoc_loc_self]; rfl))
  -- lines that drop `data`, on leaving `serve` or when `poll` brings nothing: none starts at a `holding` pc
  case s2f hpc | s2r hpc _ | d2Expired hpc _ _ | d5 hpc _ | p0Closed hpc _ | p0Eof hpc _ _ _ | p0Timeout hpc _ _ _ _ =>
    exact invF_thread h t rfl rfl rfl rfl (fun u hu => setLoc_loc_ne _ _ hu)
      (.inr (by rw [setLoc_loc_self, hpc]; exact ⟨rfl, rfl⟩))
  case c2Send hpc _ => frame_keep_ite h t hpc setLoc_loc_self
  case w0 hpc => frame_keep_ite h t hpc setLoc_loc_self
  case s2Busy hpc _ => frame_keep_ite h t hpc setLoc_loc_self
  -- every other line keeps `data`; the pc class matters only if there is a frame in hand
  all_goals refine invF_thread h t rfl rfl rfl rfl (fun u hu => setLoc_loc_ne _ _ hu) (.inl ?_)
  all_goals rw [setLoc_loc_self]
  case x0Again hpc _ | x0Close hpc _ =>
    refine ⟨rfl, fun hd => ?_⟩
    cases hd' : (s.loc t).data with
    | none => exact absurd hd' hd
    | some f => have := h.data_pc t f hd'; rw [hpc] at this; rcases this with e | e <;> cases e
  case d0RaiseBg _ hd _ _ | d0RaiseCall _ hd _ _ | d0Leave _ hd _ => exact ⟨hd.symm ▸ rfl, fun hn => absurd hd hn⟩
  all_goals exact ⟨rfl, fun _ => by rw [‹(s.loc t).pc = _›]; exact ⟨rfl, rfl⟩⟩

theorem invF_step {s s' : St} (a : Actor) (h : InvF s) (hs : step s a = some s') : InvF s' := by
  rcases step_table hs with ⟨t, _, hr⟩ | ⟨t, l', g, hr, rfl⟩ | he
  · exact invF_run h t hr
  · cases hr
    case call hpc _ => frame_drop h t hpc
    case bg hpc _ => frame_keep h t hpc setLoc_loc_self
    case stop hpc => frame_keep h t hpc setLoc_loc_self
    case pollAll hpc _ => frame_keep h t hpc setLoc_loc_self
  · cases he
    case peer q exc v _ _ => exact invF_peer h q exc v
    case peerDup q exc v _ _ => exact invF_peer h q exc v
    -- `peerEof` and `tick` change no thread: any tid serves as the one that moved
    all_goals exact invF_thread h 0 rfl rfl rfl rfl (fun _ _ => rfl) (.inl ⟨rfl, fun _ => ⟨rfl, rfl⟩⟩)

theorem invF_of_reachable {s : St} (h : Reachable s) : InvF s := by
  induction h with
  | init => exact invF_init
  | step a _ hs ih => exact invF_step a ih hs

end Rpyc.Conc.Serve
