import RpycModel.Props.C04
import RpycModel.Props.C05
/-
Composition of the layers proved separately for C04 (brine) and C05 (channel over stream):
what `Connection._send` does to a message — `brine.dump`, then `Channel.send` over a stream — followed
by what `Connection.serve` does at the other end — `Channel.recv`, then `brine.load` — is the identity
on every sequence of messages, under every failure-free fragmentation of the byte stream; and under
any behaviour of the two transports the messages decoded are a prefix of the messages sent.

The theorems live in the namespace of C05 (they strengthen its statement from byte strings to values)
and are audited with it (harness/props/c05.py names RpycModel/Props/C05All.lean, which imports this module).
-/
namespace Rpyc.Props.C05
open Rpyc Rpyc.Wire Rpyc.Brine

/-- `packets` are the messages `msgs` as `brine.dump` encodes them, one packet each: how the theorems below say
"the messages sent".  `encodedAs_exists`: every list of dumpable values in brine's domain has such packets. -/
def EncodedAs : List Val → List Bytes → Prop
  | [], [] => True
  | m :: ms, p :: ps => dump m = .ok p ∧ EncodedAs ms ps
  | _, _ => False

theorem EncodedAs.length_eq : ∀ (msgs : List Val) (packets : List Bytes), EncodedAs msgs packets →
    msgs.length = packets.length
  | [], [], _ => rfl
  | _ :: ms, _ :: ps, h => by simp [EncodedAs.length_eq ms ps h.2]
  | [], _ :: _, h => by simp [EncodedAs] at h
  | _ :: _, [], h => by simp [EncodedAs] at h

theorem encodedAs_exists (msgs : List Val) (h : ∀ m ∈ msgs, dumpable m = true ∧ InDomain m = true) :
    ∃ packets, EncodedAs msgs packets := by
  induction msgs with
  | nil => exact ⟨[], trivial⟩
  | cons m ms ih =>
    obtain ⟨ps, hps⟩ := ih (fun x hx => h x (List.mem_cons_of_mem _ hx))
    obtain ⟨p, hp⟩ := Rpyc.Props.C04.dump_total m (h m (by simp)).1 (h m (by simp)).2
    exact ⟨p :: ps, hp, hps⟩

theorem load_all_of_encodedAs : ∀ (msgs : List Val) (packets : List Bytes), (∀ m ∈ msgs, m.wf = true) →
    EncodedAs msgs packets → packets.map load = msgs.map Except.ok
  | [], [], _, _ => rfl
  | m :: ms, p :: ps, hwf, h => by
    have h1 := Rpyc.Props.C04.load_dump m p (hwf m (by simp)) h.1
    have h2 := load_all_of_encodedAs ms ps (fun x hx => hwf x (List.mem_cons_of_mem _ hx)) h.2
    simp [h1, h2]
  | [], _ :: _, _, h => by simp [EncodedAs] at h
  | _ :: _, [], _, h => by simp [EncodedAs] at h

theorem load_prefix_of_encodedAs (msgs : List Val) (packets got : List Bytes) (hwf : ∀ m ∈ msgs, m.wf = true)
    (h : EncodedAs msgs packets) (hp : got <+: packets) :
    ∃ k, k ≤ msgs.length ∧ got.map load = (msgs.take k).map Except.ok := by
  obtain ⟨rest, rfl⟩ := hp
  refine ⟨got.length, ?_, ?_⟩
  · have := EncodedAs.length_eq _ _ h; simp at this; omega
  · have hall := load_all_of_encodedAs msgs (got ++ rest) hwf h
    have : (List.map load (got ++ rest)).take got.length = (List.map Except.ok msgs).take got.length := by
      rw [hall]
    simpa [List.map_append, List.take_append_of_le_length, ← List.map_take] using this

/-- **End to end, exact.** For every sequence of messages (any values brine accepts), any compression
setting at the sender, any stream classes and chunk sizes, a sending transport accepting the data in
pieces of any sizes and a receiving transport delivering it in pieces of any sizes with any transient
would-block/timeout conditions: decoding what the receiver's channel returns yields exactly the messages
sent, in order. -/
theorem messages_end_to_end (z : Zlib) (c retry : Bool) (maxS maxR : Nat)
    (hS : Gen.frameHeaderSize ≤ maxS) (hS1 : 1 ≤ maxS) (hR : 1 ≤ maxR)
    (msgs : List Val) (packets : List Bytes) (sscript : List SendEv) (rscript : List RecvEv)
    (hwf : ∀ m ∈ msgs, m.wf = true) (henc : EncodedAs msgs packets)
    (hf : ∀ p ∈ packets, Fits z.toZlibFns c p)
    (hsa : sscript.all accepting = true) (hsl : (wireOf z.toZlibFns c packets).length ≤ sscript.length)
    (hrb : rscript.all (benign retry) = true) (hrp : (wireOf z.toZlibFns c packets).length ≤ progress rscript) :
    ((recvMany z.toZlibFns retry maxR packets.length
      ⟨(sendMany z.toZlibFns c maxS packets ⟨[], sscript, false⟩).2.2.sent, rscript, false⟩).1).map load
      = msgs.map Except.ok := by
  obtain ⟨_, _, hrecv, _⟩ := transfer_exact z c retry maxS maxR hS hS1 hR packets sscript rscript hf hsa hsl hrb hrp
  rw [hrecv]
  exact load_all_of_encodedAs msgs packets hwf henc

/-- **End to end, safe.** With no assumption on either transport (failures and ends of stream at any
call, i.e. at any byte offset) and any number of `recv()` calls: what the receiver decodes is a prefix of
the messages sent — never an altered, truncated, merged or invented message. -/
theorem messages_end_to_end_safe (z : Zlib) (c retry : Bool) (maxS maxR n : Nat)
    (hS : Gen.frameHeaderSize ≤ maxS)
    (msgs : List Val) (packets : List Bytes) (sscript : List SendEv) (rscript : List RecvEv)
    (hwf : ∀ m ∈ msgs, m.wf = true) (henc : EncodedAs msgs packets)
    (hf : ∀ p ∈ packets, Fits z.toZlibFns c p) :
    ∃ k, k ≤ msgs.length ∧
      ((recvMany z.toZlibFns retry maxR n
        ⟨(sendMany z.toZlibFns c maxS packets ⟨[], sscript, false⟩).2.2.sent, rscript, false⟩).1).map load
        = (msgs.take k).map Except.ok := by
  obtain ⟨hpre, _⟩ := transfer_safe z c retry maxS maxR n hS packets sscript rscript hf
  exact load_prefix_of_encodedAs msgs packets _ hwf henc hpre

end Rpyc.Props.C05
